/-
  C06 — "if, elseif, while and not all decide by this same evaluation".

  The four commands are transcribed in `Sdk/Flow.lean` (`runCmd`, cases `.ifC`, `.elseIf`,
  `.whileC`, `.notC`); each calls the one evaluator `evalCondition` and branches on nothing
  but its Boolean.  The theorems below state, for arbitrary nested evaluator, program,
  non-empty argument list, variables and state, exactly what each command does with that
  Boolean; `C06_value_conditions_are_slices` connects `evalCondition` with `evalSlice`
  (Sdk/Condition.lean; correct by `C06_eval_correct`, Props/C06Core.lean) and `C06_consumers_agree` puts the two together for condition ASTs.
-/
import DuckModel.Props.C06Core
import DuckModel.Lemmas.ConsumerLemmas

namespace Duck
open Duck.Spec

section consumers

variable (nested : EvalFn)
  (endRec : Cmd → List Str → Option Str → Nat → Vars → Sdk → CmdResult × Vars × Sdk)
  (is : List Instruction) (args : List Str) (out : Option Str) (line : Nat) (vars : Vars) (s : Sdk)

/-! ### `not` -/

/-- `not <condition>` returns the negation of the evaluation (as the text `true` / `false`),
    with the variables and state the evaluation left; a failed evaluation is the command's error -/
theorem C06_not_negates (hargs : args ≠ []) :
    (∀ b vars' s', evalCondition nested is args vars s = (.ok b, vars', s') →
      runCmd nested endRec is .notC args out line vars s =
        (.continue (some (if b then "false".toList else "true".toList)), vars', s')) ∧
    (∀ vars' s', evalCondition nested is args vars s = (.error (), vars', s') →
      runCmd nested endRec is .notC args out line vars s = (errR, vars', s')) := by
  constructor
  · intro b vars' s' h
    rw [runCmd_notC, isEmpty_false_of_ne_nil hargs, h]
    rfl
  · intro vars' s' h
    rw [runCmd_notC, isEmpty_false_of_ne_nil hargs, h]
    rfl

/-! ### `while` -/

/-- `while <condition>`: after the block positions are known (`whileMetaFor`), the evaluation
    alone decides: true ⇒ the body is entered (next line) and the loop is pushed on the while
    stack; false ⇒ jump behind the `end_while` line -/
theorem C06_while_decides (hargs : args ≠ []) {stop : Nat} {s1 : Sdk}
    (hmeta : whileMetaFor is s line = .ok (stop, s1))
    {b : Bool} {vars' : Vars} {s' : Sdk}
    (heval : evalCondition nested is args vars s1 = (.ok b, vars', s')) :
    runCmd nested endRec is .whileC args out line vars s =
      if b then
        (.continue none, vars',
          { s' with whileStack := { start := line, stop := stop, ctx := s'.lineCtx } :: s'.whileStack })
      else (.goTo none (.line (stop + 1)), vars', s') := by
  rw [runCmd_whileC, isEmpty_false_of_ne_nil hargs, hmeta]
  simp only [Bool.false_eq_true, if_false, heval]

/-! ### `if` -/

/-- `if <condition>`: after the block positions are known (`ifMetaFor`), the evaluation alone
    decides: true ⇒ the first branch is entered; false ⇒ jump to the next `elseif`/`else` line
    if there is one, else behind the `end_if` line.  The pushed `IfCall` is the one `runCmd`
    builds. -/
theorem C06_if_decides (hargs : args ≠ []) {stop : Nat} {elses : List Nat} {s1 : Sdk}
    (hmeta : ifMetaFor is s line = .ok ((stop, elses), s1))
    {b : Bool} {vars' : Vars} {s' : Sdk}
    (heval : evalCondition nested is args vars s1 = (.ok b, vars', s')) :
    runCmd nested endRec is .ifC args out line vars s =
      if b then
        (.continue none, vars',
          { s' with ifStack :=
              { current := (match (generalizing := false) elses with | [] => stop | e :: _ => e), passed := true, elseIdx := 0,
                start := line, stop := stop, elses := elses, ctx := s'.lineCtx } :: s'.ifStack })
      else
        match (generalizing := false) elses with
        | [] => (.goTo none (.line (stop + 1)), vars', s')
        | e :: _ =>
          (.goTo none (.line e), vars',
            { s' with ifStack :=
                { current := e, passed := false, elseIdx := 0,
                  start := line, stop := stop, elses := elses, ctx := s'.lineCtx } :: s'.ifStack }) := by
  rw [runCmd_ifC, isEmpty_false_of_ne_nil hargs, hmeta]
  simp only [Bool.false_eq_true, if_false, heval]
  cases b <;> cases elses <;> rfl

/-! ### `elseif` -/

/-- `elseif <condition>` in an `if` none of whose earlier branches was taken: the evaluation
    (on the state with the call info popped) alone decides: true ⇒ the branch is entered;
    false ⇒ jump to the next else-line if there is one, else behind the `end_if` line -/
theorem C06_elseif_decides (hargs : args ≠ []) {ci : IfCall} {rest : List IfCall}
    (hpop : popIf line s.lineCtx s.ifStack = some (ci, rest)) (hpassed : ci.passed = false)
    {b : Bool} {vars' : Vars} {s' : Sdk}
    (heval : evalCondition nested is args vars { s with ifStack := rest } = (.ok b, vars', s')) :
    runCmd nested endRec is .elseIf args out line vars s =
      if b then
        (.continue none, vars',
          { s' with ifStack :=
              { ci with
                current := (if ci.elseIdx + 1 < ci.elses.length then ci.elses[ci.elseIdx + 1]?.getD 0
                            else ci.elses[0]?.getD 0),
                passed := true, ctx := s'.lineCtx } :: s'.ifStack })
      else if ci.elseIdx + 1 < ci.elses.length then
        (.goTo none (.line (ci.elses[ci.elseIdx + 1]?.getD 0)), vars',
          { s' with ifStack :=
              { ci with current := ci.elses[ci.elseIdx + 1]?.getD 0, passed := false,
                        elseIdx := ci.elseIdx + 1, ctx := s'.lineCtx } :: s'.ifStack })
      else (.goTo none (.line (ci.stop + 1)), vars', s') := by
  rw [runCmd_elseIf, isEmpty_false_of_ne_nil hargs, hpop]
  simp only [hpassed, Bool.false_eq_true, if_false, heval]

/-- `elseif` after a branch that was taken: straight behind the `end_if` line; the condition is
    NOT evaluated (variables unchanged, state = the popped one, `nested` never consulted) -/
theorem C06_elseif_skips_when_passed (hargs : args ≠ []) {ci : IfCall} {rest : List IfCall}
    (hpop : popIf line s.lineCtx s.ifStack = some (ci, rest)) (hpassed : ci.passed = true) :
    runCmd nested endRec is .elseIf args out line vars s =
      (.goTo none (.line (ci.stop + 1)), vars, { s with ifStack := rest }) := by
  rw [runCmd_elseIf, isEmpty_false_of_ne_nil hargs, hpop]
  simp only [hpassed, if_true, Bool.false_eq_true, if_false]

/-! ### a failed evaluation is the command's error, for all four -/

theorem C06_condition_error_propagates (hargs : args ≠ []) :
    (∀ vars' s', evalCondition nested is args vars s = (.error (), vars', s') →
      runCmd nested endRec is .notC args out line vars s = (errR, vars', s')) ∧
    (∀ stop s1 vars' s', whileMetaFor is s line = .ok (stop, s1) →
      evalCondition nested is args vars s1 = (.error (), vars', s') →
      runCmd nested endRec is .whileC args out line vars s = (errR, vars', s')) ∧
    (∀ stop elses s1 vars' s', ifMetaFor is s line = .ok ((stop, elses), s1) →
      evalCondition nested is args vars s1 = (.error (), vars', s') →
      runCmd nested endRec is .ifC args out line vars s = (errR, vars', s')) ∧
    (∀ ci rest vars' s', popIf line s.lineCtx s.ifStack = some (ci, rest) → ci.passed = false →
      evalCondition nested is args vars { s with ifStack := rest } = (.error (), vars', s') →
      runCmd nested endRec is .elseIf args out line vars s = (errR, vars', s')) := by
  refine ⟨(C06_not_negates nested endRec is args out line vars s hargs).2, ?_, ?_, ?_⟩
  · intro stop s1 vars' s' hmeta heval
    rw [runCmd_whileC, isEmpty_false_of_ne_nil hargs, hmeta]
    simp only [Bool.false_eq_true, if_false, heval]
  · intro stop elses s1 vars' s' hmeta heval
    rw [runCmd_ifC, isEmpty_false_of_ne_nil hargs, hmeta]
    simp only [Bool.false_eq_true, if_false, heval]
  · intro ci rest vars' s' hpop hpassed heval
    rw [runCmd_elseIf, isEmpty_false_of_ne_nil hargs, hpop]
    simp only [hpassed, Bool.false_eq_true, if_false, heval]

end consumers

/-! ### value conditions are slices -/

/-- a condition whose first token is not a command name is evaluated by the slice evaluator
    `evalSlice`; the error detail is dropped, variables and state are untouched -/
theorem C06_value_conditions_are_slices (nested : EvalFn) (is : List Instruction) (a0 : Str)
    (rest : List Str) (vars : Vars) (s : Sdk) (h : (resolveCmd s a0).isNone) :
    evalCondition nested is (a0 :: rest) vars s =
      ((evalSlice (a0 :: rest)).mapError (fun _ => ()), vars, s) := by
  have h' : (resolveCmd s a0).isSome = false := by
    cases hr : resolveCmd s a0 with
    | none => rfl
    | some c => rw [hr] at h; cases h
  unfold evalCondition
  simp only [h', Bool.false_eq_true, if_false]
  cases evalSlice (a0 :: rest) <;> rfl

/-- for a well-formed condition AST whose first token is not a command, `evalCondition` is the
    specified value `c.eval` -/
theorem C06_evalCondition_ast (nested : EvalFn) (is : List Instruction) (c : Cond) (hc : c.OK)
    {a0 : Str} {rest : List Str} (htok : c.tokens = a0 :: rest)
    (vars : Vars) (s : Sdk) (h : (resolveCmd s a0).isNone) :
    evalCondition nested is c.tokens vars s = (.ok c.eval, vars, s) := by
  have he := C06_eval_correct c hc
  rw [htok] at he ⊢
  rw [C06_value_conditions_are_slices nested is a0 rest vars s h, he]
  rfl

/-- all four consumers agree with the specification of a condition: for a well-formed condition
    AST `c` whose first token is not a command name,
    * `not c` returns the text of `!c.eval`,
    * `while c` enters the body iff `c.eval`,
    * `if c` enters the first branch iff `c.eval`,
    * `elseif c` (no earlier branch taken) enters its branch iff `c.eval`,
    and none of them changes a variable. -/
theorem C06_consumers_agree (nested : EvalFn)
    (endRec : Cmd → List Str → Option Str → Nat → Vars → Sdk → CmdResult × Vars × Sdk)
    (is : List Instruction) (out : Option Str) (line : Nat) (vars : Vars) (s : Sdk)
    (c : Cond) (hc : c.OK) {a0 : Str} {rest : List Str} (htok : c.tokens = a0 :: rest)
    (hcmd : (resolveCmd s a0).isNone) :
    (runCmd nested endRec is .notC c.tokens out line vars s =
      (.continue (some (if c.eval then "false".toList else "true".toList)), vars, s)) ∧
    (∀ stop s1, whileMetaFor is s line = .ok (stop, s1) →
      runCmd nested endRec is .whileC c.tokens out line vars s =
        if c.eval then
          (.continue none, vars,
            { s1 with whileStack := { start := line, stop := stop, ctx := s1.lineCtx } :: s1.whileStack })
        else (.goTo none (.line (stop + 1)), vars, s1)) ∧
    (∀ stop elses s1, ifMetaFor is s line = .ok ((stop, elses), s1) →
      runCmd nested endRec is .ifC c.tokens out line vars s =
        if c.eval then
          (.continue none, vars,
            { s1 with ifStack :=
                { current := (match elses with | [] => stop | e :: _ => e), passed := true, elseIdx := 0,
                  start := line, stop := stop, elses := elses, ctx := s1.lineCtx } :: s1.ifStack })
        else
          match elses with
          | [] => (.goTo none (.line (stop + 1)), vars, s1)
          | e :: _ =>
            (.goTo none (.line e), vars,
              { s1 with ifStack :=
                  { current := e, passed := false, elseIdx := 0,
                    start := line, stop := stop, elses := elses, ctx := s1.lineCtx } :: s1.ifStack })) ∧
    (∀ ci stack, popIf line s.lineCtx s.ifStack = some (ci, stack) → ci.passed = false →
      runCmd nested endRec is .elseIf c.tokens out line vars s =
        if c.eval then
          (.continue none, vars,
            { s with ifStack :=
                { ci with
                  current := (if ci.elseIdx + 1 < ci.elses.length then ci.elses[ci.elseIdx + 1]?.getD 0
                              else ci.elses[0]?.getD 0),
                  passed := true, ctx := s.lineCtx } :: stack })
        else if ci.elseIdx + 1 < ci.elses.length then
          (.goTo none (.line (ci.elses[ci.elseIdx + 1]?.getD 0)), vars,
            { s with ifStack :=
                { ci with current := ci.elses[ci.elseIdx + 1]?.getD 0, passed := false,
                          elseIdx := ci.elseIdx + 1, ctx := s.lineCtx } :: stack })
        else (.goTo none (.line (ci.stop + 1)), vars, { s with ifStack := stack })) := by
  have hne : c.tokens ≠ [] := by rw [htok]; exact List.cons_ne_nil _ _
  refine ⟨?_, ?_, ?_, ?_⟩
  · exact (C06_not_negates nested endRec is c.tokens out line vars s hne).1 _ _ _
      (C06_evalCondition_ast nested is c hc htok vars s hcmd)
  · intro stop s1 hmeta
    exact C06_while_decides nested endRec is c.tokens out line vars s hne hmeta
      (C06_evalCondition_ast nested is c hc htok vars s1
        (by rw [resolveCmd_congr (whileMetaFor_fns hmeta)]; exact hcmd))
  · intro stop elses s1 hmeta
    exact C06_if_decides nested endRec is c.tokens out line vars s hne hmeta
      (C06_evalCondition_ast nested is c hc htok vars s1
        (by rw [resolveCmd_congr (ifMetaFor_fns hmeta)]; exact hcmd))
  · intro ci stack hpop hpassed
    exact C06_elseif_decides nested endRec is c.tokens out line vars s hne hpop hpassed
      (C06_evalCondition_ast nested is c hc htok vars { s with ifStack := stack }
        (by rw [resolveCmd_congr (s' := { s with ifStack := stack }) (s := s) rfl]; exact hcmd))

/-- the "iff" reading of `C06_consumers_agree` for `while` and `if`: the command continues into
    its body / first branch exactly when the specified value of the condition is true -/
theorem C06_consumers_enter_iff (nested : EvalFn)
    (endRec : Cmd → List Str → Option Str → Nat → Vars → Sdk → CmdResult × Vars × Sdk)
    (is : List Instruction) (out : Option Str) (line : Nat) (vars : Vars) (s : Sdk)
    (c : Cond) (hc : c.OK) {a0 : Str} {rest : List Str} (htok : c.tokens = a0 :: rest)
    (hcmd : (resolveCmd s a0).isNone) :
    (∀ stop s1, whileMetaFor is s line = .ok (stop, s1) →
      ((runCmd nested endRec is .whileC c.tokens out line vars s).1 = .continue none ↔ c.eval = true)) ∧
    (∀ stop elses s1, ifMetaFor is s line = .ok ((stop, elses), s1) →
      ((runCmd nested endRec is .ifC c.tokens out line vars s).1 = .continue none ↔ c.eval = true)) := by
  have h := C06_consumers_agree nested endRec is out line vars s c hc htok hcmd
  constructor
  · intro stop s1 hmeta
    rw [h.2.1 stop s1 hmeta]
    cases c.eval <;> simp
  · intro stop elses s1 hmeta
    rw [h.2.2.1 stop elses s1 hmeta]
    cases c.eval <;> cases elses <;> simp

/-! ### non-vacuity -/

/-- the first tokens of the conditions below are not command names (one evaluation of the
    name resolution for all of them) -/
theorem exampleTokens_not_commands :
    ∀ a ∈ ["true".toList, "(".toList, "false".toList], (resolveCmd {} a).isNone = true := by
  decide +kernel

/-- `not true and false` on an empty state: the text `true` -/
example (nested : EvalFn)
    (endRec : Cmd → List Str → Option Str → Nat → Vars → Sdk → CmdResult × Vars × Sdk) :
    runCmd nested endRec [] .notC ["true".toList, "and".toList, "false".toList] none 0 [] {} =
      (.continue (some "true".toList), [], {}) := by
  have h : evalCondition nested [] ["true".toList, "and".toList, "false".toList] [] {} =
      (.ok false, [], {}) := by
    rw [C06_value_conditions_are_slices nested [] _ _ [] {} (exampleTokens_not_commands _ (by simp))]
    rfl
  exact (C06_not_negates nested endRec [] _ none 0 [] {} (by simp)).1 _ _ _ h

/-- the hypotheses of `C06_consumers_agree` are satisfiable: `( true or false ) and yes` is a
    well-formed AST with value `true`, its first token `(` is not a command, so `not` of it is
    the text `false` -/
example (nested : EvalFn)
    (endRec : Cmd → List Str → Option Str → Nat → Vars → Sdk → CmdResult × Vars × Sdk) :
    runCmd nested endRec [] .notC
        ["(".toList, "true".toList, "or".toList, "false".toList, ")".toList, "and".toList, "yes".toList]
        none 0 [] {} =
      (.continue (some "false".toList), [], {}) := by
  let c : Cond := .conj (.cons
      (.one (.group (.conj (.one (.cons (.val "true".toList) (.one (.val "false".toList)))))))
      (.one (.one (.val "yes".toList))))
  have hc : c.OK := by
    simp only [c, Cond.OK, Conj.OK, Disj.OK, Atom.OK, ValOK]
    decide
  have htok : c.tokens = "(".toList ::
      ["true".toList, "or".toList, "false".toList, ")".toList, "and".toList, "yes".toList] := by
    simp [c, Cond.tokens, Conj.tokens, Disj.tokens, Atom.tokens]
  have hev : c.eval = true := by
    simp [c, Cond.eval, Conj.eval, Disj.eval, Atom.eval, truthy, asciiLower, asciiLowerChar]
  have h := (C06_consumers_agree nested endRec [] none 0 [] {} c hc htok
    (exampleTokens_not_commands _ (by simp))).1
  rw [htok, hev] at h
  exact h

/-- `elseif` after a taken branch does not look at its condition: even a command condition
    (`not x`, which would call `nested`) is skipped -/
example (nested : EvalFn)
    (endRec : Cmd → List Str → Option Str → Nat → Vars → Sdk → CmdResult × Vars × Sdk) :
    runCmd nested endRec [] .elseIf ["not".toList, "x".toList] none 3 []
        { ifStack := [{ current := 3, passed := true, elseIdx := 0, start := 1, stop := 5,
                        elses := [3], ctx := [] }] } =
      (.goTo none (.line 6), [], {}) := by
  exact C06_elseif_skips_when_passed nested endRec [] _ none 3 [] _ (by simp)
    (ci := { current := 3, passed := true, elseIdx := 0, start := 1, stop := 5, elses := [3], ctx := [] })
    (rest := []) (by simp [popIf]) rfl

/-- `while false` with an `end_while` two lines down: jump behind it -/
example (nested : EvalFn)
    (endRec : Cmd → List Str → Option Str → Nat → Vars → Sdk → CmdResult × Vars × Sdk)
    (is : List Instruction) (stop : Nat) (s1 : Sdk) (h : whileMetaFor is {} 0 = .ok (stop, s1))
    (hf : s1.fns = []) :
    (runCmd nested endRec is .whileC ["false".toList] none 0 [] {}).1 = .goTo none (.line (stop + 1)) := by
  have he : evalCondition nested is ["false".toList] [] s1 = (.ok false, [], s1) := by
    rw [C06_value_conditions_are_slices nested is _ _ [] s1
      (by rw [resolveCmd_congr (s := {}) hf]; exact exampleTokens_not_commands _ (by simp))]
    rfl
  rw [C06_while_decides nested endRec is _ none 0 [] {} (by simp) h he]
  rfl

end Duck
