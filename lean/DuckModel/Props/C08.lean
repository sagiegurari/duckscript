/- C08 — parsing is total, one instruction per line, malformed lines rejected in place: all parts. -/
import DuckModel.Props.C08Core
import DuckModel.Props.C08Indexed
import DuckModel.Props.C08Translated
import DuckModel.Props.C08TranslatedFns
import DuckModel.Props.C08Dead
