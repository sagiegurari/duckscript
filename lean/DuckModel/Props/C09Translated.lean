/-
C09 — the tie between `fn parse` of duckscript_sdk/src/utils/eval.rs and the hand-written model
`serializeArg` / `serializeLine` / `evalParse` (Sdk/Flow.lean) every C09 theorem speaks about.

`Generated/EvalParse.lean` is regenerated on every check from the CURRENT source of that function
(bin/fragments/eval_parse.py, rust2lean.py).  The theorems below state that the
translation of `serializeArg` / `serializeLine` EQUALS the hand model for every value / every
argument list, and that `evalParse` agrees with it on what instruction is picked (a panic and an
error of the translation both read as `none`; the empty argument list, which `eval::parse` never
receives, is a panic there and `none` in the model); a change of the source
that alters how a value is written (quoting, escaping, the empty value, the separator, the
`replace` chain, which instruction is picked) makes one of them fail to check.
-/
import DuckModel.Lemmas.EvalParseTranslationLemmas

namespace Duck
open Duck.Generated

/-- what the loop body of `eval::parse` writes for ONE value is `serializeArg` -/
theorem C09_eval_parse_translation_serialize : ∀ a : Str, serializeArgGen a = serializeArg a := by
  intro a
  unfold serializeArgGen serializeArg
  rw [single_isSuffixOf, contains_eq_strContains]
  cases a with
  | nil => simp
  | cons c t =>
    have h1' : ('"' = c) = (c = '"') := propext eq_comm
    by_cases h1 : c = '"' <;> by_cases h2 : (c :: t).getLast? = some '"' <;>
      simp [List.isPrefixOf, h1', h1, h2]

/-- the text `eval::parse` hands to `parser::parse_text` is `serializeLine`, for every argument list -/
theorem C09_eval_parse_translation_line : ∀ args : List Str, evalLineGen args = serializeLine args := by
  intro args
  unfold evalLineGen serializeLine
  have hf : (fun (lineBuffer : Str) (argument : Str) => lineBuffer ++ serializeArgGen argument ++ [' ']) =
      (fun buf a => buf ++ (fun a => serializeArg a ++ [' ']) a) := by
    funext b a; simp [C09_eval_parse_translation_serialize, List.append_assoc]
  simp only [hf, foldl_buf, List.nil_append, replaceChar_nil, List.filter_filter]
  have hfl : (fun a : Char => a != '\n' && a != '\r') = (fun c => c != '\r' && c != '\n') := by
    funext c; exact Bool.and_comm _ _
  rw [hfl]
  rfl

/-- the whole function: the instruction `eval::parse` answers (if any) is `evalParse` -/
theorem C09_eval_parse_translation_parse : ∀ args : List Str, (evalParseGen args).value? = evalParse args := by
  intro args
  unfold evalParseGen evalParse
  rw [C09_eval_parse_translation_line]
  cases parseText (serializeLine args) with
  | error e => rfl
  | ok l => cases l <;> rfl

end Duck

namespace Duck
open Duck.Generated
/-! non-vacuity: the four ways a value is written, the separator, the `replace` chain, the picked instruction -/
example : serializeArgGen "".toList = "\"\"".toList := by decide +kernel
example : serializeArgGen "a b".toList = "\"a b\"".toList := by decide +kernel
example : serializeArgGen "\"q\"".toList = "\\\"q\"\\".toList := by decide +kernel
example : serializeArgGen "a\"b".toList = "a\"b".toList := by decide +kernel
example : evalLineGen ["a".toList, "".toList, "x\\y\n".toList] = "a \"\" x\\\\y ".toList := by
  repeat rw [String.toList_ofList]
  decide +kernel
example : evalParseGen [] = .panic := by decide +kernel
end Duck
