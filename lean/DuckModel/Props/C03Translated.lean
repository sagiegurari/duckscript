/-
  C03 — the hand-written model of the RUNNER is the translation of the current source.

  `Generated/RunnerStep.lean` is produced on every run by the Rust→Lean translator (bin/rust2lean.py,
  bin/fragments/runner_step.py) from duckscript/src/runner.rs:

    Rust function                 translation           hand-written model (Runner.lean / Vars.lean)
    update_output                 updateOutputGen       Vars.updateOutput
    run_on_error_instruction      runOnErrorGen         runOnError
    run_instruction               runInstructionGen     runInstruction
    run_instructions              runStepGen            runStep     (ONE iteration of its `loop`; `break` =
                                                                    the code after the loop; repl_mode = false)
    create_runtime                labelTableGen         labelTable  (the `label_to_line` of the Runtime it returns:
                                                                    a fold of `labelTableBodyGen` over the program)

  `C03_runner_translation_<function>` proves the translated function EQUAL to the hand-written one for
  EVERY input (every command semantics `sem`, program, label table, halt oracle and state).
  `C03_runner_translation_run_loop` lifts the equality of the step to the fuel loop, and
  `C03_runner_translation_sound` / `_complete` are `C03_sound` / `C03_complete` stated about the loop
  over the TRANSLATED step: every finished run of the translated loop is a run of the abstract machine
  of the property statement, and every run of the machine is computed by the translated loop.

  What a call of code that is not translated is rendered as: `commands.get_for_use(name)` followed by
  `instance.run(CommandInvocationContext {..})` is ONE call of the parameter `sem` (all theorems
  quantify over it); `bind_command_arguments` is the model's `bind` (argument expansion: tied to the
  source by `C02_scanner_translation*`); `parse::<i32>()` is `parseI32`; `label_to_line.get` is
  `lookupLabel labels`, `label_to_line.insert` is `tableInsert` (new key in front, old entry removed).

  A change of one of these Rust functions that alters its meaning makes this file fail to check.
-/
import DuckModel.Runner
import DuckModel.Spec.Machine
import DuckModel.Generated.RunnerStep
import DuckModel.Lemmas.RunnerLemmas
import DuckModel.Lemmas.RunnerTranslationLemmas

namespace Duck
open Duck.Generated Duck.Spec

/-- `update_output` -/
theorem C03_runner_translation_update_output (vars : Vars) (out v : Option Str) :
    updateOutputGen vars out v = Vars.updateOutput vars out v := by
  unfold updateOutputGen Vars.updateOutput
  repeat' split
  all_goals first | rfl | simp_all

/-- `run_on_error_instruction` -/
theorem C03_runner_translation_run_on_error_instruction {σ : Type} (sem : CmdSem σ) (vars : Vars)
    (s : σ) (e : Str) (mi : Meta) :
    runOnErrorGen sem vars s e mi = runOnError sem vars s e mi := by
  unfold runOnErrorGen runOnError onErrorName
  generalize sem "on_error".toList [e, natToStr (mi.line.getD 0), mi.source.getD []] none 0 vars s = r
  rcases r with _ | ⟨r, vars', s'⟩
  · rfl
  · cases r <;> rfl

/-- `run_instruction` -/
theorem C03_runner_translation_run_instruction {σ : Type} (sem : CmdSem σ) (vars : Vars) (s : σ)
    (i : Instruction) (line : Nat) :
    runInstructionGen sem vars s i line = runInstruction sem vars s i line := by
  unfold runInstructionGen runInstruction
  repeat' split
  all_goals first | rfl | simp_all

/-- one iteration of the `loop` of `run_instructions` (with the code after the loop) -/
theorem C03_runner_translation_run_step {σ : Type} (sem : CmdSem σ) (is : List Instruction)
    (labels : List (Str × Nat)) (halt : Nat → σ → Bool) (rs : RunState σ) :
    runStepGen sem is labels halt rs = runStep sem is labels halt rs := by
  unfold runStepGen runStep
  by_cases hh : halt rs.polls rs.st = true
  · simp only [hh, if_true]
  · simp only [hh, if_false, Bool.false_eq_true]
    by_cases h : rs.line < is.length
    · simp only [h, dite_true, List.getElem?_eq_getElem h, C03_runner_translation_run_instruction,
        C03_runner_translation_run_on_error_instruction, C03_runner_translation_update_output]
      rcases runInstruction sem rs.vars rs.st is[rs.line] rs.line with ⟨result, out, vars, st⟩
      cases result with
      | «continue» v => rfl
      | goTo v g =>
        cases g with
        | label l => simp only []; cases lookupLabel labels l <;> rfl
        | line n => rfl
      | error e =>
        simp only []
        rcases runOnError sem (Vars.updateOutput vars out (some "false".toList)) st e
          is[rs.line].mi with ⟨r, vars', st'⟩
        cases r <;> rfl
      | crash e => rfl
      | exit v =>
        cases v with
        | none => rfl
        | some c =>
          simp only [Option.bind_some]
          cases parseI32 c with
          | none => rfl
          | some code => by_cases hc : code = 0 <;> simp [hc]
    · simp only [h, dite_false, List.getElem?_eq_none (Nat.le_of_not_lt h)]

/-- `create_runtime`: the label table of the Runtime it returns -/
theorem C03_runner_translation_create_runtime (is : List Instruction) :
    labelTableGen is = labelTable is := by
  unfold labelTableGen labelTable
  exact labelTableGen_fold is 0 []

/-- `C03_label_table` about the translated table: a label resolves to the last line carrying it -/
theorem C03_runner_translation_label_table (is : List Instruction) (l : Str) (k : Nat) :
    lookupLabel (labelTableGen is) l = some k ↔ IsLabelLine is l k := by
  rw [C03_runner_translation_create_runtime]
  exact lookup_labelTable_some is l k

/-- the fuel loop over the translated step IS the model's `runLoop` -/
theorem C03_runner_translation_run_loop {σ : Type} (sem : CmdSem σ) (is : List Instruction)
    (labels : List (Str × Nat)) (halt : Nat → σ → Bool) (fuel : Nat) (rs : RunState σ) :
    runLoopGen sem is labels halt fuel rs = runLoop sem is labels halt fuel rs :=
  runLoopGen_eq_of_step sem is labels halt (C03_runner_translation_run_step sem is labels halt) fuel rs

/-- `C03_sound` about the translated runner: every terminating run of the loop over `runStepGen` with
    the translated label table (never halted) is a run of the abstract machine -/
theorem C03_runner_translation_sound {σ : Type} (sem : CmdSem σ) (is : List Instruction) (fuel : Nat)
    (rs rs' : RunState σ) (e : RunEnd) (f : Final σ)
    (h : runLoopGen sem is (labelTableGen is) noHalt fuel rs = (rs', e)) (hf : finalOf rs' e = some f) :
    Reaches sem is ⟨rs.line, rs.vars, rs.st⟩ f := by
  rw [C03_runner_translation_run_loop, C03_runner_translation_create_runtime] at h
  exact runLoop_sound sem is fuel rs rs' e f h hf

/-- `C03_complete` about the translated runner: every run of the abstract machine is computed by the
    loop over `runStepGen` with the translated label table, given enough fuel -/
theorem C03_runner_translation_complete {σ : Type} (sem : CmdSem σ) (is : List Instruction)
    (c : Cfg σ) (f : Final σ) (h : Reaches sem is c f) (polls : Nat) :
    ∃ fuel rs' e, runLoopGen sem is (labelTableGen is) noHalt fuel ⟨c.pc, polls, c.vars, c.st⟩ = (rs', e) ∧
      finalOf rs' e = some f := by
  obtain ⟨fuel, rs', e, h1, h2⟩ := runLoop_complete sem is c f h ⟨c.pc, polls, c.vars, c.st⟩ rfl
  exact ⟨fuel, rs', e, by
    rw [C03_runner_translation_run_loop, C03_runner_translation_create_runtime]; exact h1, h2⟩

/-! ### non-vacuity: the translated step on concrete inputs
    (`rw [String.toList_ofList]` as in Props/C03Sdk.lean) -/

namespace C03TranslatedExample

/-- `x = boom` / `quit 3` -/
def prog : List Instruction :=
  [ ⟨{ line := some 1 }, .script { output := some "x".toList, command := some "boom".toList }⟩,
    ⟨{ line := some 2 }, .script { command := some "quit".toList, args := some ["3".toList] }⟩ ]

/-- `boom` raises an error, `quit` exits with its first argument, `on_error` records the message in
    the variable `e`; nothing else exists -/
def sem : CmdSem Unit := fun name args _ _ vars s =>
  if name = "boom".toList then some (.error "bang".toList, vars, s)
  else if name = "quit".toList then some (.exit args.head?, vars, s)
  else if name = "on_error".toList then some (.continue none, Vars.set vars "e".toList (args.headD []), s)
  else none

/-- the error: the output variable is written BEFORE `on_error` runs, then the next line -/
example : runStepGen sem prog [] noHalt ⟨0, 0, [], ()⟩ =
    .inl ⟨1, 1, [("e".toList, "bang".toList), ("x".toList, "false".toList)], ()⟩ := by rfl

/-- exit code 3: the run fails at that line -/
example : runStepGen sem prog [] noHalt ⟨1, 1, [], ()⟩ =
    .inr (⟨1, 2, [], ()⟩, .fail "Exit with error code: 3".toList { line := some 2 }) := by
  rw [String.toList_ofList]
  rfl

/-- past the last line / halted before anything is fetched -/
example : runStepGen sem prog [] noHalt ⟨2, 2, [], ()⟩ = .inr (⟨2, 3, [], ()⟩, .reachedEnd) := by rfl
example : runStepGen sem prog [] (fun _ _ => true) ⟨2, 2, [], ()⟩ = .inr (⟨2, 2, [], ()⟩, .halted) := by rfl

/-- the whole run through the translated loop -/
example : (runLoopGen sem prog (labelTableGen prog) noHalt 5 ⟨0, 0, [], ()⟩).2 =
    .fail "Exit with error code: 3".toList { line := some 2 } := by
  rw [String.toList_ofList]
  decide +kernel

/-- the translated label table: a duplicated label resolves to its last line -/
example : labelTableGen
    [ ⟨{}, .script { label := some "a".toList }⟩, ⟨{}, .empty⟩, ⟨{}, .script { label := some "a".toList }⟩,
      ⟨{}, .script { label := some "b".toList }⟩ ] = [("b".toList, 3), ("a".toList, 2)] := by
  decide +kernel

end C03TranslatedExample

end Duck
