/-
  C10 - an `Error` answered by a command INSIDE the body of a script-implemented command is the
  `Error` the script command itself answers; the runner then applies its error protocol
  (`C10_error_protocol`: output variable := false, on_error with the instruction's own line) at
  the CALLER's instruction, because the script command is the command of that instruction.

  General part (any command semantics, any body): the instruction loop stops at the first `Error`
  and the wrapper hands it on.  Instances: the size command of the `*_is_empty` scripts, and
  `array_is_empty not_a_handle` down to the message text.
-/
import DuckModel.Lemmas.ScriptLoopFree

namespace Duck
open Duck.Alias Duck.Coll Duck.ScriptRun Duck.Spec

/-- `eval_instructions` stops at the first instruction whose command answers `Error m` and
    reports exactly that error (any semantics, any instruction list, any line, any fuel ≥ 1) -/
theorem C10_script_body_error_stops {σ : Type} (sem : CmdSem σ) (is : List Instruction)
    (fuel line poll : Nat) (fo : Option Str) (vars : Vars) (s : σ) (instr : Instruction) (si : ScriptInstr)
    (hget : is[line]? = some instr) (hty : instr.ty = .script si) (m : Str) (o : Option Str)
    (vars' : Vars) (s' : σ)
    (hr : runInstruction sem vars s instr line = (.error m, o, vars', s')) :
    evalInstructions sem (fun _ => false) is (fuel + 1) line poll fo vars s = some (.error m, vars', s') := by
  rw [eval_script sem is fuel line poll fo vars s instr si hget hty, hr]
  rfl

/-- `AliasCommand::run` hands the body's `Error m` to its caller unchanged (the body wrote only
    under the command's prefix, so the leak detector stays silent); the cleanup has run -/
theorem C10_script_wrapper_passes_error (amount : Nat)
    (body : Vars → ScriptSt → BodyResult × Vars × ScriptSt) (scope : Str) (args : List Str)
    (vars : Vars) (st : ScriptSt) (hn : ¬ args.length < amount) (hne : args ≠ [])
    (m : Str) (vars2 : Vars) (st2 : ScriptSt)
    (hb : body (pubVars scope args vars st) (pubSt scope args st) = (.error m, vars2, st2))
    (hclear : clear scope vars2 = clear scope (pubVars scope args vars st)) :
    (aliasRun handleOps amount body scope args vars st).1 = .error m := by
  rw [aliasRun_handleOps amount body scope args vars st hn hne _ _ _ hb hclear]
  rfl

/-- `array_is_empty`: whenever the `array_length` it calls answers `Error m` (on the state the
    body runs in: the caller's table plus the temporary argument array), `array_is_empty` answers
    `Error m` - for every fuel ≥ 4, every argument list, every state -/
theorem C10_script_command_error_at_caller (depth fuel : Nat) (a : Str) (rest : List Str)
    (vars : Vars) (st : ScriptSt) (m : Str)
    (herr : (runNative (.coll .arrayLength) [a] (pubVars "scope::array_is_empty".toList (a :: rest) vars st)
              (pubSt "scope::array_is_empty".toList (a :: rest) st)).1 = .error m) :
    (runScriptCmdF depth (fuel + 4) "array_is_empty".toList (a :: rest) vars st).1 = .error m :=
  sizeScript_error arrayIsEmpty_sizeScript
    depth fuel a rest vars st m herr

/-- the instance `out = array_is_empty not_a_handle`, as the runner sees it: the instruction's
    command result is the `Error` of the inner `array_length`, text included - so
    `C10_error_protocol` applies at this instruction (the caller's line) -/
theorem C10_script_array_is_empty_not_a_handle (mi : Meta) (out : Option Str) (line : Nat)
    (vars : Vars) (st : ScriptSt) (hnone : tget st.coll.tbl "not_a_handle".toList = none) :
    (runInstruction scriptSem vars st
      ⟨mi, .script { output := out, command := some "array_is_empty".toList,
                     args := some ["not_a_handle".toList] }⟩ line).1 =
      .error "Array for handle: not_a_handle not found.".toList := by
  have hb : bind vars (some ["not_a_handle".toList]) = ["not_a_handle".toList] :=
    bind_eq (args := [[.lit "not_a_handle".toList]]) (by decide) rfl
  have hsem := scriptSem_script "array_is_empty".toList Generated.cmd_collections_array_is_empty
    arrayIsEmpty_sizeScript.find ["not_a_handle".toList] out line vars st
  simp only [runInstruction, hb, hsem]
  have hmsg : "Array for handle: not_a_handle not found.".toList =
      msg "Array" ++ msg " for handle: " ++ "not_a_handle".toList ++ msg " not found." := by decide +kernel
  rw [hmsg]
  apply C10_script_command_error_at_caller scriptDepth (scriptFuel - 4)
  have hne : "not_a_handle".toList ≠ Coll.handleName st.coll.next := by
    simp [Coll.handleName, handlePrefix]
  generalize "not_a_handle".toList = a at hne hnone ⊢
  simp [runNative, runColl, Coll.exec, cmdArrayLength, pubSt, tget_tinsert, hne, hnone, collErrMsg]

end Duck
