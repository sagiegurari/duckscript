/-
  C11 — variable commands and the scope stack behave like a map and a stack of maps.

  Model: DuckModel/Sdk/VarScope.lean (transcription of the commands and of scope::push/pop).
  Reference: DuckModel/Spec/MapStack.lean (a function `name → optional value` and a list of
  saved functions, written from the property statement).
  Relation and simulation lemmas: DuckModel/Lemmas/VarScopeLemmas.lean.
  Props/C11Scripts.lean (the script-implemented `unset`) is imported so that this module builds
  the whole property.

  Hypothesis `OpOK` (the operation does not CREATE a variable whose name starts with
  `scope::unset::`): `unset` is a script wrapped by the alias mechanism, which ends with
  `clear("scope::unset")` and therefore also deletes every caller variable in that name space;
  a plain map does not do that (see the last `example`: the refinement is false without the
  hypothesis).  Names that are only read, removed or copied are unrestricted.

  No command of this family has a reachable panic (all argument indexing is guarded by a length
  test, `scope::push/pop` do not `unwrap`), so the model has no panic outcome; that the real code
  does not panic is checked by the harness (`PANIC` output).
-/
import DuckModel.Lemmas.VarScopeLemmas
import DuckModel.Props.C11Scripts

namespace Duck
open Duck.VarScope Duck.Spec.MapStack

/-- Refinement, from any pair of related states: for every operation sequence the outputs
    agree (`OutsEq`: equal command results; the list reported by get_all_var_names holds
    exactly the defined names), the variable maps are lookup-equal and the stacks have the
    same depth (in fact: are lookup-equal level by level, `Sim`).  Since the statement holds
    for every sequence it holds after every prefix, i.e. after every step. -/
theorem C11_refines_from (m : VsSt) (s : S) (h : Sim m s) (ops : List VsOp)
    (hok : ∀ op ∈ ops, OpOK op) :
    OutsEq (VarScope.run m ops).2 (Spec.MapStack.run s (ops.map specOp)).2 ∧
    (∀ k, Vars.get (VarScope.run m ops).1.vars k = (Spec.MapStack.run s (ops.map specOp)).1.map k) ∧
    (VarScope.run m ops).1.stack.length = (Spec.MapStack.run s (ops.map specOp)).1.stack.length ∧
    Sim (VarScope.run m ops).1 (Spec.MapStack.run s (ops.map specOp)).1 := by
  obtain ⟨hs, ho⟩ := sim_run h ops hok
  exact ⟨ho, hs.1.1, stackRel_length hs.2, hs⟩

/-- Refinement from the empty state. -/
theorem C11_refines (ops : List VsOp) (hok : ∀ op ∈ ops, OpOK op) :
    OutsEq (VarScope.run {} ops).2 (Spec.MapStack.run init (ops.map specOp)).2 ∧
    (∀ k, Vars.get (VarScope.run {} ops).1.vars k =
            (Spec.MapStack.run init (ops.map specOp)).1.map k) ∧
    (VarScope.run {} ops).1.stack.length =
      (Spec.MapStack.run init (ops.map specOp)).1.stack.length := by
  have h0 : Sim {} init := ⟨rel_empty, trivial⟩
  obtain ⟨a, b, c, _⟩ := C11_refines_from {} init h0 ops hok
  exact ⟨a, b, c⟩

/-- get_all_var_names reports exactly the defined names. -/
theorem C11_names_exact (st : VsSt) (out : Option Str) (h : Str) (k : Str) :
    (match (VarScope.apply st (.names out h)).2 with
      | .names l => k ∈ l
      | .res _ => False) ↔ (Vars.get st.vars k).isSome = true := by
  simp only [VarScope.apply, mem_keys]

/-- From the empty state no history ever makes get_all_var_names report a name twice (the
    association list keeps its keys unique, like the HashMap it stands for); together with
    `C11_names_exact` the reported list is the set of defined names. -/
theorem C11_names_nodup (ops : List VsOp) :
    ∀ o ∈ (VarScope.run {} ops).2, NamesNodup o :=
  (names_nodup_run (st := {}) ⟨nk_nil, fun _ h => by cases h⟩ ops).2

/-- Popping an empty stack is an error that changes nothing: the command leaves the whole
    state as it was; through the runner the only change is `false` in the output variable
    (none if the line has no output variable). -/
theorem C11_pop_empty_changes_nothing (st : VsSt) (args : List Str) (h : st.stack = []) :
    VarScope.runCmd st .popStack args = (st, .error []) ∧
    VarScope.apply st (.cmd none .popStack args) = (st, .res (.error [])) ∧
    ∀ o, VarScope.apply st (.cmd (some o) .popStack args) =
      ({ st with vars := st.vars.set o "false".toList }, .res (.error [])) := by
  have h1 : VarScope.runCmd st .popStack args = (st, .error []) := by
    simp [VarScope.runCmd, VarScope.scopePop, h]
  refine ⟨h1, ?_, ?_⟩
  · simp [VarScope.apply, h1, writeOutput, Vars.updateOutput]
  · intro o
    simp [VarScope.apply, h1, writeOutput, Vars.updateOutput]

/-- Last in, first out: after a push, any operation sequence that is balanced (every pop in
    it matches a push in it) leaves the stack exactly as the push left it, and the next pop
    removes that level again, restores the map saved by THAT push and overlays the copied
    names that are defined at the time of the pop. -/
theorem C11_lifo (st : VsSt) (o1 : Option Str) (pushArgs : List Str) (mid : List VsOp)
    (popArgs : List Str) (hb : balanced 0 mid = true) :
    let st1 := (VarScope.apply st (.cmd o1 .pushStack pushArgs)).1
    let st2 := (VarScope.run st1 mid).1
    let st3 := (VarScope.runCmd st2 .popStack popArgs).1
    st2.stack = st.vars :: st.stack ∧
    (VarScope.runCmd st2 .popStack popArgs).2 = .continue (some "true".toList) ∧
    st3.stack = st.stack ∧
    ∀ k, Vars.get st3.vars k =
      Map.overlay (Vars.get st.vars) (Vars.get st2.vars) (copyArgs popArgs) k := by
  intro st1 st2 st3
  have hs1 : st1.stack = st.vars :: st.stack := stack_apply st _
  have hs2 : st2.stack = st.vars :: st.stack :=
    stack_balanced st1 [] (st.vars :: st.stack) mid (by simpa using hs1) hb
  refine ⟨hs2, ?_, ?_, ?_⟩
  · simp [VarScope.runCmd, VarScope.scopePop, hs2]
  · simp [st3, VarScope.runCmd, VarScope.scopePop, hs2]
  · intro k
    simp only [st3, VarScope.runCmd, VarScope.scopePop, hs2, get_popMap, get_copyLoop_nil, Map.overlay]
    by_cases hc : k ∈ copyArgs popArgs
    · simp only [hc, if_true]
      cases Vars.get st2.vars k <;> rfl
    · simp [hc]

/-- Copy semantics.  Push saves the whole map and keeps exactly the copied names that are
    defined (with their values); pop restores the saved map and overlays the copied names that
    are defined; only the SET of copied names matters, so repeating a name (or reordering
    the list) changes nothing. -/
theorem C11_copy_semantics (vars old : Vars) (stack : List Vars) (copy : List Str) :
    -- push
    (VarScope.scopePush vars stack copy).2 = vars :: stack ∧
    (∀ k, Vars.get (VarScope.scopePush vars stack copy).1 k = if k ∈ copy then Vars.get vars k else none) ∧
    -- pop
    (∃ v', VarScope.scopePop vars (old :: stack) copy = some (v', stack) ∧
      ∀ k, Vars.get v' k =
        if k ∈ copy then
          (match Vars.get vars k with
            | some v => some v
            | none => Vars.get old k)
        else Vars.get old k) ∧
    -- duplicates / order
    (∀ copy', (∀ k, k ∈ copy ↔ k ∈ copy') →
      (∀ k, Vars.get (VarScope.scopePush vars stack copy).1 k = Vars.get (VarScope.scopePush vars stack copy').1 k) ∧
      (∀ k, (VarScope.scopePop vars (old :: stack) copy).map (fun r => Vars.get r.1 k) =
            (VarScope.scopePop vars (old :: stack) copy').map (fun r => Vars.get r.1 k))) := by
  have hpush : ∀ c k, Vars.get (VarScope.scopePush vars stack c).1 k =
      if k ∈ c then Vars.get vars k else none := by
    intro c k
    simp only [VarScope.scopePush, get_insertAll_nil, get_copyLoop_nil]
  have hpop : ∀ c k, (VarScope.scopePop vars (old :: stack) c).map (fun r => Vars.get r.1 k) =
      some (if k ∈ c then
          (match Vars.get vars k with
            | some v => some v
            | none => Vars.get old k)
        else Vars.get old k) := by
    intro c k
    simp only [VarScope.scopePop, Option.map, get_popMap, get_copyLoop_nil]
    by_cases hc : k ∈ c
    · simp only [hc, if_true]; rfl
    · simp [hc]
  refine ⟨rfl, hpush copy, ⟨_, rfl, ?_⟩, ?_⟩
  · intro k
    have := hpop copy k
    simpa [VarScope.scopePop] using this
  · intro copy' hm
    refine ⟨fun k => ?_, fun k => ?_⟩
    · rw [hpush, hpush]; simp only [hm k]
    · rw [hpop, hpop]; simp only [hm k]

/-! ### non-vacuity -/

section Examples
open VarScope

private def x : Str := "x".toList
private def y : Str := "y".toList
private def z : Str := "z".toList

/-- a history with nesting, an undefined copied name and a repeated one -/
private def hist : List VsOp := [
  .cmd (some x) .set ["1".toList],
  .cmd (some y) .set ["".toList, "or".toList, "2".toList],
  .cmd none .pushStack ["--copy".toList, x, z, x],
  .cmd (some z) .isDefined [y],
  .cmd none .popStack ["--copy".toList, z, "nope".toList],
  .cmd none .popStack []]

example : ∀ op ∈ hist, OpOK op := by decide +kernel

example : (VarScope.run {} hist).1.stack.length = 0 := by decide +kernel

example : Vars.get (VarScope.run {} hist).1.vars x = some "1".toList ∧
    Vars.get (VarScope.run {} hist).1.vars y = some "2".toList ∧
    Vars.get (VarScope.run {} hist).1.vars z = some "false".toList := by decide +kernel

example : (Spec.MapStack.run init (hist.map specOp)).1.map z = some "false".toList := by decide +kernel

/-- the last pop hits the empty stack -/
example : ((VarScope.run {} hist).2.getLast?.map fun o =>
    match o with
    | .res (.error _) => true
    | _ => false) = some true := by decide +kernel

example : balanced 0 [.cmd none .pushStack [], .cmd (some x) .set [y], .cmd none .popStack []] = true := by
  decide +kernel

/-- the hypothesis `OpOK` cannot be dropped: `unset` also deletes the caller's variables in
    the name space of its own temporaries, a plain map does not -/
example :
    let ops : List VsOp := [.cmd (some "scope::unset::mine".toList) .set [x], .cmd none .unset [y]]
    Vars.get (VarScope.run {} ops).1.vars "scope::unset::mine".toList = none ∧
    (Spec.MapStack.run init (ops.map specOp)).1.map "scope::unset::mine".toList = some x := by
  repeat rw [String.toList_ofList]
  decide +kernel

end Examples

end Duck
