/-
  C15 — the methods of `impl Commands` (duckscript/src/types/command.rs) as TRANSLATED from the
  current source by bin/rust2lean.py (Generated/RegistryFns.lean) compute what the
  hand-written model Registry.lean computes — the model all other C15 theorems speak about.

  The translated functions are written against an ABSTRACT finite map (`FinMap`, FinMap.lean); the
  model uses association lists (`KV`).  So each theorem is a REFINEMENT: for EVERY pair of lawful
  finite maps `mc`, `ma` (any implementation of the interface that satisfies `LawfulFinMap` — the
  trusted reading of `std::collections::HashMap`) and every model registry `r` they represent
  (`RegRep mc ma r`: `FinMap.get mc k = r.commands.get k` and `FinMap.get ma k = r.aliases.get k`
  for every key `k`), for every argument,
    * the Rust return value is the model's, and
    * the maps afterwards represent the model's registry afterwards.
  Laws used: `get_empty` (new), `get_insert` (set), `get_erase` (set, remove), `mem_keys` and
  `nodup_keys` (get_all_command_names).  `get_filter` is not used by the current source (`retain`
  does not occur).
-/
import DuckModel.Registry
import DuckModel.FinMap
import DuckModel.Generated.RegistryFns
import DuckModel.Lemmas.RegistryLemmas
import DuckModel.Lemmas.RegistryTranslationLemmas

namespace Duck
open Duck.Generated

section
variable {MC MA : Type} [FinMap MC CmdSpec] [FinMap MA Str]
  [LawfulFinMap MC CmdSpec] [LawfulFinMap MA Str]

/-- `Commands::new()` is the empty registry -/
theorem C15_registry_translation_new :
    RegRep (newGen (MC := MC) (MA := MA)).1 (newGen (MC := MC) (MA := MA)).2 ({} : Reg) :=
  ⟨MapRep.empty, MapRep.empty⟩

omit [LawfulFinMap MC CmdSpec] [LawfulFinMap MA Str] in
/-- `Commands::get`, translated, is the model's `Reg.get` (aliases first, then names) -/
theorem C15_registry_translation_get (mc : MC) (ma : MA) (r : Reg) (h : RegRep mc ma r)
    (name : Str) : getGen mc ma name = r.get name := by
  unfold getGen Reg.get Reg.resolve
  rw [h.aliases name]
  cases r.aliases.get name with
  | none => simp only [Option.getD_none]; rw [h.commands name]; cases r.commands.get name <;> rfl
  | some v => simp only [Option.getD_some]; rw [h.commands v]; cases r.commands.get v <;> rfl

omit [LawfulFinMap MC CmdSpec] [LawfulFinMap MA Str] in
/-- `Commands::exists`, translated, is the model's `Reg.exists` -/
theorem C15_registry_translation_exists (mc : MC) (ma : MA) (r : Reg) (h : RegRep mc ma r)
    (name : Str) : existsGen mc ma name = r.exists name := by
  unfold existsGen Reg.exists
  rw [C15_registry_translation_get mc ma r h name]

omit [LawfulFinMap MC CmdSpec] [LawfulFinMap MA Str] in
/-- `Commands::get_for_use`, translated: the model's `Reg.get`, and the registry is left alone -/
theorem C15_registry_translation_get_for_use (mc : MC) (ma : MA) (r : Reg) (h : RegRep mc ma r)
    (name : Str) : getForUseGen mc ma name = ((mc, ma), r.get name) := by
  rw [← C15_registry_translation_get mc ma r h name]
  unfold getForUseGen getGen
  cases FinMap.get ma name with
  | none => cases FinMap.get mc name <;> rfl
  | some v =>
    simp only []
    cases FinMap.get mc v <;> rfl

/-- `Commands::remove`, translated, is the model's `Reg.remove`: same answer, and the maps
    afterwards represent the model's registry afterwards -/
theorem C15_registry_translation_remove (mc : MC) (ma : MA) (r : Reg) (h : RegRep mc ma r)
    (name : Str) :
    (removeGen mc ma name).2 = (r.remove name).2 ∧
    RegRep (removeGen mc ma name).1.1 (removeGen mc ma name).1.2 (r.remove name).1 := by
  unfold removeGen
  rw [h.aliases name]
  -- both arms of the alias lookup do the same with the name it resolves to
  cases ha : r.aliases.get name with
  | none =>
    have hn := Reg.resolve_of_alias_none ha
    rw [h.commands name]
    cases hc : r.commands.get name with
    | none =>
      rw [Reg.remove_none r name (by rw [hn]; exact hc)]
      exact ⟨rfl, h.commands.erase_absent name hc, h.aliases⟩
    | some c =>
      rw [Reg.remove_some r name c (by rw [hn]; exact hc), hn]
      exact ⟨rfl, h.commands.erase name, h.aliases.foldl_erase_if c.aliases c.name⟩
  | some v =>
    have hn := Reg.resolve_of_alias_some ha
    simp only []
    rw [h.commands v]
    cases hc : r.commands.get v with
    | none =>
      rw [Reg.remove_none r name (by rw [hn]; exact hc)]
      exact ⟨rfl, h.commands.erase_absent v hc, h.aliases⟩
    | some c =>
      rw [Reg.remove_some r name c (by rw [hn]; exact hc), hn]
      exact ⟨rfl, h.commands.erase v, h.aliases.foldl_erase_if c.aliases c.name⟩

/-- `Commands::set`, translated, is the model's `Reg.set`: same answer (`true` = `Ok(())`), and the
    maps afterwards represent the model's registry afterwards -/
theorem C15_registry_translation_set (mc : MC) (ma : MA) (r : Reg) (h : RegRep mc ma r)
    (c : CmdSpec) :
    (setGen mc ma c).2 = (r.set c).2 ∧
    RegRep (setGen mc ma c).1.1 (setGen mc ma c).1.2 (r.set c).1 := by
  unfold setGen Reg.set
  rw [h.commands.contains c.name]
  by_cases h1 : r.commands.containsKey c.name = true
  · simp only [h1, if_true]; exact ⟨by trivial, h.commands, h.aliases⟩
  · simp only [h1]
    rw [forEach_ret_if (fun a => FinMap.contains ma a)]
    have hany : (c.aliases.any fun a => FinMap.contains ma a) =
        (c.aliases.any fun a => r.aliases.containsKey a) := by
      congr 1; funext a; exact h.aliases.contains a
    rw [hany]
    by_cases h2 : (c.aliases.any fun a => r.aliases.containsKey a) = true
    · simp only [h2, if_true]; exact ⟨by trivial, h.commands, h.aliases⟩
    · simp only [h2]
      exact ⟨by trivial, h.commands.insert c.name c,
        (h.aliases.erase c.name).foldl_insert c.aliases c.name⟩

omit [LawfulFinMap MA Str] in
/-- `Commands::get_all_command_names`, translated, is the model's `Reg.names`, whatever the order
    in which the map hands out its keys — provided the model's list is a finite map (every key
    once), which every registry reachable through the API is (`C15_registry_keys_unique`) -/
theorem C15_registry_translation_get_all_command_names (mc : MC) (ma : MA) (r : Reg)
    (h : RegRep mc ma r) (hk : r.commands.NodupKeys) :
    getAllCommandNamesGen mc ma = r.names := by
  unfold getAllCommandNamesGen Reg.names
  rw [foldl_push, List.nil_append]
  exact Reg.sortStrs_perm (h.commands.keys_perm hk)

end

/-- the side condition of `C15_registry_translation_get_all_command_names` holds of every registry
    reachable through the API from the empty one -/
theorem C15_registry_keys_unique (ops : List RegOp) :
    ((Reg.run {} ops).1).commands.NodupKeys :=
  Reg.run_induction (P := fun r => r.commands.NodupKeys) Reg.nodupKeys_set Reg.nodupKeys_remove
    {} ops KV.nodupKeys_nil

/-! ### non-vacuity -/

section Examples

/-- the laws are consistent: the model's own association lists are a lawful finite map
    (`kvLawful`), every model registry is represented by itself, so the theorems above apply to
    every `r` — the translated methods, run on the model's lists, ARE the model's methods -/
example (r : Reg) (n : Str) : getGen r.commands r.aliases n = r.get n :=
  C15_registry_translation_get _ _ r (RegRep.self r) n
example (r : Reg) (c : CmdSpec) : (setGen r.commands r.aliases c).2 = (r.set c).2 :=
  (C15_registry_translation_set _ _ r (RegRep.self r) c).1
example (r : Reg) (n : Str) (k : Str) :
    KV.get (removeGen r.commands r.aliases n).1.2 k = (r.remove n).1.aliases.get k :=
  (C15_registry_translation_remove _ _ r (RegRep.self r) n).2.aliases k

private def tA : CmdSpec := { name := "a".toList, aliases := ["x".toList], tag := 1 }
private def tX : CmdSpec := { name := "x".toList, aliases := [], tag := 2 }
private def tC : CmdSpec := { name := "c".toList, aliases := ["x".toList], tag := 3 }

/-- the history of F3 (`set a[x]; set x[]; set c[x]; remove a`) through the TRANSLATED methods:
    every step is accepted and the re-pointed alias `x ↦ c` survives the removal of `a` -/
private def afterF3 : (KV CmdSpec × KV Str) × Bool :=
  let s1 := setGen (newGen (MC := KV CmdSpec) (MA := KV Str)).1 (newGen (MC := KV CmdSpec) (MA := KV Str)).2 tA
  let s2 := setGen s1.1.1 s1.1.2 tX
  let s3 := setGen s2.1.1 s2.1.2 tC
  removeGen s3.1.1 s3.1.2 "a".toList

example : afterF3.2 = true := by decide
example : getGen afterF3.1.1 afterF3.1.2 "x".toList = some tC := by decide
example : getGen afterF3.1.1 afterF3.1.2 "a".toList = none := by decide
example : getAllCommandNamesGen afterF3.1.1 afterF3.1.2 = ["c".toList, "x".toList] := by decide
/-- a refused registration (alias already taken) changes nothing -/
example : setGen afterF3.1.1 afterF3.1.2 { name := "d".toList, aliases := ["x".toList], tag := 4 }
    = (afterF3.1, false) := by decide

end Examples

end Duck
