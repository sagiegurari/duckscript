/-
  C03, the script's own way to hand the runner an Exit / GoTo result: the SDK commands `exit` and
  `goto` (Sdk/ProcessCmd.lean) composed with the abstract machine (Spec/Machine.lean).
  "an integer non-zero exit value makes the run fail" is a statement about the RUNNER; it can be
  relied on from script text only if `exit` hands over nothing but what the runner reads as an
  integer — and rejects the rest as an error the run survives.
-/
import DuckModel.Sdk.ProcessCmd
import DuckModel.Spec.Machine

namespace Duck
open Duck.Spec

/-- whatever `exit` hands the runner as an exit value is a text the runner reads as an i32 -/
theorem C03_exit_cmd_hands_over_integers (args : List Str) (v : Option Str)
    (h : exitCmd args = .exit v) : ∃ code, v.bind parseI32 = some code := by
  unfold exitCmd at h
  match args, h with
  | [], h =>
    injection h with h; subst h
    exact ⟨0, by decide⟩
  | a :: _, h =>
    simp only at h
    cases hp : parseI32 a with
    | none => rw [hp] at h; cases h
    | some c =>
      rw [hp] at h
      injection h with h; subst h
      exact ⟨c, by simpa using hp⟩

/-- `exit` answers with an exit or an error result, nothing else -/
theorem C03_exit_cmd_result_kinds (args : List Str) :
    (∃ v, exitCmd args = .exit v) ∨ (∃ m, exitCmd args = .error m) := by
  unfold exitCmd
  match args with
  | [] => exact .inl ⟨_, rfl⟩
  | a :: _ =>
    simp only
    cases parseI32 a with
    | none => exact .inr ⟨_, rfl⟩
    | some _ => exact .inl ⟨_, rfl⟩

/-- a first argument the runner could not read as an i32 (padded, empty, out of range, …) is
    rejected with an error that quotes it -/
theorem C03_exit_cmd_rejects (a : Str) (rest : List Str) (h : parseI32 a = none) :
    exitCmd (a :: rest) = .error ("Invalid exit code: ".toList ++ a) := by
  simp only [exitCmd, h]

/-- `goto` jumps exactly when it is given ONE argument that starts with `:` — then to that label,
    without a value -/
theorem C03_goto_cmd_jumps_iff (args : List Str) (v : Option Str) (g : GoToValue) :
    gotoCmd args = .goTo v g ↔ ∃ l, args = [l] ∧ l.head? = some ':' ∧ v = none ∧ g = .label l := by
  constructor
  · intro h
    unfold gotoCmd at h
    match args, h with
    | [], h => cases h
    | [l], h =>
      simp only at h
      by_cases hl : l.head? = some ':'
      · rw [if_pos hl] at h
        injection h with h1 h2
        exact ⟨l, rfl, hl, h1.symm, h2.symm⟩
      · rw [if_neg hl] at h; cases h
    | _ :: _ :: _, h => cases h
  · rintro ⟨l, rfl, hl, rfl, rfl⟩
    simp only [gotoCmd, hl, if_true]

/-- in every other case `goto` reports an error (the run goes on with the next line) -/
theorem C03_goto_cmd_else_error (args : List Str)
    (h : ¬ ∃ l, args = [l] ∧ l.head? = some ':') : ∃ m, gotoCmd args = .error m := by
  unfold gotoCmd
  match args, h with
  | [], _ => exact ⟨_, rfl⟩
  | [l], h =>
    simp only
    by_cases hl : l.head? = some ':'
    · exact absurd ⟨l, rfl, hl⟩ h
    · rw [if_neg hl]; exact ⟨_, rfl⟩
  | _ :: _ :: _, _ => exact ⟨_, rfl⟩

/-! ### composed with the machine -/

/-- a spelling of `exit` runs `exitCmd` -/
theorem scriptedSemX_exit (names : List Str) {name : Str}
    (hn : Generated.cmdNamesExit.contains name = true) (args : List Str) (out : Option Str)
    (line : Nat) (vars : Vars) (s : ScriptedSt) :
    scriptedSemX names name args out line vars s = some (exitCmd args, vars, s) := by
  simp only [scriptedSemX, hn, if_true]

/-- no spelling of `goto` is a spelling of `exit` -/
theorem cmdNames_disjoint : ∀ n ∈ Generated.cmdNamesGoTo, Generated.cmdNamesExit.contains n = false := by
  decide

/-- a spelling of `goto` runs `gotoCmd` -/
theorem scriptedSemX_goto (names : List Str) {name : Str}
    (hn : Generated.cmdNamesGoTo.contains name = true) (args : List Str) (out : Option Str)
    (line : Nat) (vars : Vars) (s : ScriptedSt) :
    scriptedSemX names name args out line vars s = some (gotoCmd args, vars, s) := by
  have h1 := cmdNames_disjoint name (by simpa using hn)
  simp only [scriptedSemX, h1, hn, if_true, Bool.false_eq_true, if_false]

/-- a line `exit <integer ≠ 0>` (any spelling of the command): the run FAILS naming this line -/
theorem C03_exit_line_fails (names : List Str) (is : List Instruction) (c : Cfg ScriptedSt)
    (i : Instruction) (name : Str) (args : Option (List Str)) (a : Str) (rest : List Str) (code : Int)
    (hi : is[c.pc]? = some i) (hinv : invocationOf i = some (name, args))
    (hn : Generated.cmdNamesExit.contains name = true)
    (hb : bind c.vars args = a :: rest) (hp : parseI32 a = some code) (hc : code ≠ 0) :
    Step (scriptedSemX names) is c
      (.inr (.fail ("Exit with error code: ".toList ++ intToStr code) i.mi c.st)) := by
  refine Step.exitCode c i name args (some a) code c.vars c.st hi hinv ?_ (by simpa using hp) hc
  rw [scriptedSemX_exit names hn, hb]
  simp only [exitCmd, hp]

/-- a line `exit` / `exit 0` (`+0`, `-0`, `000`): the run ends successfully; the exit value is
    stored in the line's output variable -/
theorem C03_exit_line_succeeds (names : List Str) (is : List Instruction) (c : Cfg ScriptedSt)
    (i : Instruction) (name : Str) (args : Option (List Str))
    (hi : is[c.pc]? = some i) (hinv : invocationOf i = some (name, args))
    (hn : Generated.cmdNamesExit.contains name = true)
    (hb : bind c.vars args = [] ∨ ∃ a rest, bind c.vars args = a :: rest ∧ parseI32 a = some 0) :
    ∃ v, Step (scriptedSemX names) is c (.inr (.ok (Vars.updateOutput c.vars (outputOf i) (some v)) c.st)) := by
  rcases hb with hb | ⟨a, rest, hb, hp⟩
  · refine ⟨"0".toList, Step.exitOk c i name args (some "0".toList) c.vars c.st hi hinv ?_ ?_⟩
    · rw [scriptedSemX_exit names hn, hb]
      rfl
    · intro code h
      have : parseI32 "0".toList = some 0 := by decide
      simp only [Option.bind_some, this, Option.some.injEq] at h
      exact h.symm
  · refine ⟨a, Step.exitOk c i name args (some a) c.vars c.st hi hinv ?_ ?_⟩
    · rw [scriptedSemX_exit names hn, hb]
      simp only [exitCmd, hp]
    · intro code h
      simp only [Option.bind_some, hp, Option.some.injEq] at h
      exact h.symm

/-- a line `exit <not an i32>` without an `on_error` command: NOT an exit — the line's output
    variable becomes `false` and the run goes on with the next line -/
theorem C03_exit_line_rejected (names : List Str) (is : List Instruction) (c : Cfg ScriptedSt)
    (i : Instruction) (name : Str) (args : Option (List Str)) (a : Str) (rest : List Str)
    (hi : is[c.pc]? = some i) (hinv : invocationOf i = some (name, args))
    (hn : Generated.cmdNamesExit.contains name = true)
    (hb : bind c.vars args = a :: rest) (hp : parseI32 a = none)
    (hoe : names.contains onErrorName = false) :
    Step (scriptedSemX names) is c
      (.inl ⟨c.pc + 1, Vars.updateOutput c.vars (outputOf i) (some "false".toList), c.st⟩) := by
  refine Step.errorNoHandler c i name args ("Invalid exit code: ".toList ++ a) c.vars c.st hi hinv ?_ ?_
  · rw [scriptedSemX_exit names hn, hb]
    simp only [exitCmd, hp]
  · have h1 : Generated.cmdNamesExit.contains onErrorName = false := by decide
    have h2 : Generated.cmdNamesGoTo.contains onErrorName = false := by decide
    unfold scriptedSemX
    rw [h1, h2]
    simp only [Bool.false_eq_true, if_false]
    unfold scriptedSem
    rw [hoe]
    simp only [Bool.false_eq_true, if_false]

/-- a line `goto :l` jumps to the line carrying `l` -/
theorem C03_goto_line_jumps (names : List Str) (is : List Instruction) (c : Cfg ScriptedSt)
    (i : Instruction) (name : Str) (args : Option (List Str)) (l : Str) (k : Nat)
    (hi : is[c.pc]? = some i) (hinv : invocationOf i = some (name, args))
    (hn : Generated.cmdNamesGoTo.contains name = true)
    (hb : bind c.vars args = [l]) (hl : l.head? = some ':') (hk : IsLabelLine is l k) :
    Step (scriptedSemX names) is c (.inl ⟨k, Vars.updateOutput c.vars (outputOf i) none, c.st⟩) := by
  refine Step.gotoLabel c i name args none l k c.vars c.st hi hinv ?_ hk
  rw [scriptedSemX_goto names hn, hb]
  simp only [gotoCmd, hl, if_true]

/-! non-vacuity: padded exit codes and the limits of i32.
    `rw [String.toList_ofList]` turns `"…".toList` into the list of its characters before the kernel
    evaluates the goal; the kernel is slow at decoding a string literal. -/
example : exitCmd ["1 ".toList] = .error "Invalid exit code: 1 ".toList := by
  repeat rw [String.toList_ofList]
  decide +kernel
example : exitCmd [" 3".toList] = .error "Invalid exit code:  3".toList := by
  repeat rw [String.toList_ofList]
  decide +kernel
example : exitCmd ["2147483648".toList] = .error "Invalid exit code: 2147483648".toList := by
  repeat rw [String.toList_ofList]
  decide +kernel
example : exitCmd ["-2147483648".toList] = .exit (some "-2147483648".toList) := by
  repeat rw [String.toList_ofList]
  decide +kernel
example : exitCmd ["+7".toList, "x".toList] = .exit (some "+7".toList) := by
  repeat rw [String.toList_ofList]
  decide +kernel
example : gotoCmd [":a".toList, [] ] = .error "Multiple labels provided.".toList := by
  repeat rw [String.toList_ofList]
  decide +kernel
example : gotoCmd [":".toList] = .goTo none (.label ":".toList) := by
  repeat rw [String.toList_ofList]
  decide +kernel

end Duck
