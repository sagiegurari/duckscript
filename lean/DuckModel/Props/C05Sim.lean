/-
  C05, simulation — programs with functions run like their trees.
  A program is a list of function definitions followed by a main block
  (`Spec.withDefs defs main`).  The goto-machine (runner + transcribed flow-control / function
  commands with their call stacks) and the tree-walking interpreter (`Spec.execCall`,
  `Spec.afterCall`, `Spec.bindParams`) reach the same observables: emit trace, final variables,
  collections — through calls with arguments and output variables, `return` from inside nested
  if / while blocks (the blocks' stack entries stay behind as garbage and are proved harmless),
  falling off the end of a function, `<scope>` functions (caller's variables restored exactly, plus
  the output variable), and calls from function bodies to functions defined earlier.

  Fragment (`Spec.progOK`, Spec/TreeFn.lean): bodies and main block in the simple2 fragment plus call
  lines; `return` only in function bodies and not lexically inside a for-in body (finding
  C05/return-inside-for: the iteration entry survives the return); no recursion; conditions do not start with a
  defined function; a for-in body contains no call (the coarse call oracle `faAll`).
  Hypothesis `FnCondArgsSafe`: as in C04_sim_cmdcond_partial, for the conditions evaluated in the
  tree run including those inside called functions.
-/
import DuckModel.Lemmas.SimFnMain

namespace Duck
open Duck.Spec Duck.Generated

/-- the full statement (kept visible; not proved): every well-formed program whose tree
    interpretation ends normally -/
def C05_sim_statement : Prop :=
  ∀ (b : Block) (vars : Vars) (fuelT : Nat) (t' : TState),
    b.wf = true →
    execBlock (program b) fuelT b { vars := vars, sdk := {} } = .normal t' →
    ∃ fuelM rs, interpRun fuelM (program b) vars {} = (rs, .reachedEnd) ∧
      rs.vars = t'.vars ∧ rs.st.emitted = t'.sdk.emitted ∧ rs.st.handles = t'.sdk.handles

/-- plain and `<scope>` functions, calls (as statements or output-assigning) from
    the main block and from function bodies to earlier functions, `return` with or without a
    value from any nesting of if / while inside a function -/
theorem C05_sim_partial (defs : List FnDecl) (main : Block) (vars : Vars) (fuelT : Nat) (t' : TState)
    (hok : progOK defs main = true) (hsafe : FnCondArgsSafe fuelT defs main vars)
    (h : execBlock (program (withDefs defs main)) fuelT (withDefs defs main)
          { vars := vars, sdk := {} } = .normal t') :
    ∃ fuelM rs, interpRun fuelM (program (withDefs defs main)) vars {} = (rs, .reachedEnd) ∧
      rs.vars = t'.vars ∧ rs.st.emitted = t'.sdk.emitted ∧ rs.st.handles = t'.sdk.handles :=
  sim_programF defs main vars fuelT t' hok hsafe h

end Duck
