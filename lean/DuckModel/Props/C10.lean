/-
  C10 — command errors are reported, positioned and survivable (or fatal when asked).

  All theorems are about the model runner (`runStep` / `runLoop`, Runner.lean) executing an
  ARBITRARY program with the error-reporting family (`Sdk/OnError.lean`) composed with an
  ARBITRARY other command library `base` (`withOnError base`).  A script-implemented library
  command, a function body, a loop body — whatever produces the `Error` result — is covered by
  `base` being arbitrary and `rs.line` being arbitrary: the position reported is the meta
  information of the instruction at the current line (`is[rs.line]`).
  Props/C10Scripts.lean (script-implemented commands) is imported so that the target
  `DuckModel.Props.C10` builds all of C10.
-/
import DuckModel.Sdk.OnError
import DuckModel.Spec.ErrorProtocol
import DuckModel.Spec.Machine
import DuckModel.Lemmas.OnErrorLemmas
import DuckModel.Props.C10Scripts

namespace Duck
open Duck.Spec Duck.OnError

/-- **Error protocol.**  The command of the instruction at the current line (any command: of
    the other library or of the family itself) reports the error `m` while errors are not
    fatal: the output variable (if one is written) becomes "false", the record holds `m`, the
    instruction's line as decimal text ("0" if unknown) and its source ("" if unknown), and the
    run continues with the next line. -/
theorem C10_error_protocol {σ : Type} (base : CmdSem σ) (is : List Instruction)
    (labels : List (Str × Nat)) (halt : Nat → σ × ErrSt → Bool) (rs : RunState (σ × ErrSt))
    (i : Instruction) (name : Str) (args : Option (List Str)) (m : Str) (vars' : Vars)
    (st' : σ × ErrSt)
    (hh : halt rs.polls rs.st = false) (hi : is[rs.line]? = some i)
    (hinv : invocationOf i = some (name, args))
    (hsem : withOnError base name (bind rs.vars args) (outputOf i) rs.line rs.vars rs.st =
      some (.error m, vars', st'))
    (hflag : rs.st.2.exitOnError = false) :
    runStep (withOnError base) is labels halt rs =
      .inl { line := rs.line + 1, polls := rs.polls + 1,
             vars := Vars.updateOutput vars' (outputOf i) (some "false".toList),
             st := (st'.1, { lastError := some m, lastErrorLine := some (lineText i.mi),
                             lastErrorSource := some (sourceText i.mi), exitOnError := false }) } := by
  have hst := withOnError_error_st base name _ _ _ _ _ _ _ m hsem
  rw [runStep_invocation _ is labels halt rs hh hi hinv hsem]
  rw [← hst] at hflag
  simp [afterInstr, runOnError_withOnError, hflag]

/-- the same for a command of the other library (its name is not one of the family) -/
theorem C10_error_protocol_base {σ : Type} (base : CmdSem σ) (is : List Instruction)
    (labels : List (Str × Nat)) (halt : Nat → σ × ErrSt → Bool) (rs : RunState (σ × ErrSt))
    (i : Instruction) (name : Str) (args : Option (List Str)) (m : Str) (vars' : Vars) (s1' : σ)
    (hh : halt rs.polls rs.st = false) (hi : is[rs.line]? = some i)
    (hinv : invocationOf i = some (name, args)) (hname : famOf name = none)
    (hsem : base name (bind rs.vars args) (outputOf i) rs.line rs.vars rs.st.1 =
      some (.error m, vars', s1'))
    (hflag : rs.st.2.exitOnError = false) :
    ∃ rs', runStep (withOnError base) is labels halt rs = .inl rs' ∧
      rs'.line = rs.line + 1 ∧
      rs'.vars = Vars.updateOutput vars' (outputOf i) (some "false".toList) ∧
      (∀ o, outputOf i = some o → Vars.get rs'.vars o = some "false".toList) ∧
      rs'.st.1 = s1' ∧
      rs'.st.2.lastError = some m ∧
      rs'.st.2.lastErrorLine = some (lineText i.mi) ∧
      rs'.st.2.lastErrorSource = some (sourceText i.mi) ∧
      rs'.st.2.exitOnError = false := by
  have hsem' : withOnError base name (bind rs.vars args) (outputOf i) rs.line rs.vars rs.st =
      some (.error m, vars', (s1', rs.st.2)) := by
    rw [withOnError_base base name hname, hsem]
  refine ⟨_, C10_error_protocol base is labels halt rs i name args m vars' _ hh hi hinv hsem' hflag,
    rfl, rfl, ?_, rfl, rfl, rfl, rfl, rfl⟩
  intro o ho
  simp [ho, Vars.updateOutput, Vars.set, Vars.get]

/-- **Queries.**  The three queries return exactly the stored values (whatever their text:
    nothing is expanded or split again), for any arguments, and change nothing. -/
theorem C10_getters {σ : Type} (base : CmdSem σ) (args : List Str) (out : Option Str) (line : Nat)
    (vars : Vars) (s : σ × ErrSt) :
    withOnError base "get_last_error".toList args out line vars s =
      some (.continue s.2.lastError, vars, s) ∧
    withOnError base "get_last_error_line".toList args out line vars s =
      some (.continue s.2.lastErrorLine, vars, s) ∧
    withOnError base "get_last_error_source".toList args out line vars s =
      some (.continue s.2.lastErrorSource, vars, s) := by
  exact ⟨withOnError_fam base _ _ famOf_getLastError .., withOnError_fam base _ _ famOf_getLastErrorLine ..,
    withOnError_fam base _ _ famOf_getLastErrorSource ..⟩

/-- a query line `x = get_last_error…` executed by the runner stores the recorded value in `x`
    (or deletes `x` when nothing is recorded) and goes on -/
theorem C10_getters_step {σ : Type} (base : CmdSem σ) (is : List Instruction)
    (labels : List (Str × Nat)) (halt : Nat → σ × ErrSt → Bool) (rs : RunState (σ × ErrSt))
    (i : Instruction) (name : Str) (args : Option (List Str)) (f : Fam)
    (hh : halt rs.polls rs.st = false) (hi : is[rs.line]? = some i)
    (hinv : invocationOf i = some (name, args)) (hf : famOf name = some f)
    (hq : f = .getLastError ∨ f = .getLastErrorLine ∨ f = .getLastErrorSource) :
    runStep (withOnError base) is labels halt rs =
      .inl { line := rs.line + 1, polls := rs.polls + 1,
             vars := Vars.updateOutput rs.vars (outputOf i)
               (match f with
                | .getLastError => rs.st.2.lastError
                | .getLastErrorLine => rs.st.2.lastErrorLine
                | _ => rs.st.2.lastErrorSource),
             st := rs.st } := by
  rw [runStep_invocation _ is labels halt rs hh hi hinv (withOnError_fam base name f hf ..)]
  rcases hq with rfl | rfl | rfl <;> rfl

/-- **Latest wins (fold).**  After any `n` iterations of the runner loop the record is the fold
    of `Record.after` over the events of those iterations. -/
theorem C10_record_is_fold {σ : Type} (base : CmdSem σ) (is : List Instruction)
    (labels : List (Str × Nat)) (halt : Nat → σ × ErrSt → Bool) (n : Nat)
    (rs rs' : RunState (σ × ErrSt))
    (h : runN (withOnError base) is labels halt n rs = some rs') :
    recOf rs'.st.2 = (recOf rs.st.2).afterAll (eventsN base is labels halt n rs) := by
  induction n generalizing rs with
  | zero =>
    cases h
    rfl
  | succ n ih =>
    simp only [runN] at h
    cases hs : runStep (withOnError base) is labels halt rs with
    | inr x => simp [hs] at h
    | inl rs1 =>
      simp only [hs] at h
      rw [ih rs1 h, runStep_record base is labels halt rs rs1 hs]
      simp [eventsN, hs, Record.afterAll]

/-- **Latest wins.**  If the last event that touches the stored values (everything after it is
    quiet or a mode switch) is the error `m` reported by the instruction with meta information
    `mi`, the three queries return `m`, the line of `mi` and the source of `mi` — whatever
    errors were recorded before. -/
theorem C10_latest_wins {σ : Type} (base : CmdSem σ) (is : List Instruction)
    (labels : List (Str × Nat)) (halt : Nat → σ × ErrSt → Bool) (n : Nat)
    (rs rs' : RunState (σ × ErrSt)) (pre post : List Ev) (m : Str) (mi : Meta)
    (h : runN (withOnError base) is labels halt n rs = some rs')
    (hev : eventsN base is labels halt n rs = pre ++ .error m mi :: post)
    (hpost : ∀ e ∈ post, e.keepsReport = true)
    (args : List Str) (out : Option Str) (line : Nat) (vars : Vars) :
    withOnError base "get_last_error".toList args out line vars rs'.st =
      some (.continue (some m), vars, rs'.st) ∧
    withOnError base "get_last_error_line".toList args out line vars rs'.st =
      some (.continue (some (lineText mi)), vars, rs'.st) ∧
    withOnError base "get_last_error_source".toList args out line vars rs'.st =
      some (.continue (some (sourceText mi)), vars, rs'.st) := by
  have hr := C10_record_is_fold base is labels halt n rs rs' h
  rw [hev] at hr
  obtain ⟨a, b, c⟩ := afterAll_last_error (recOf rs.st.2) pre post m mi hpost
  rw [← hr] at a b c
  simp only [recOf] at a b c
  obtain ⟨g1, g2, g3⟩ := C10_getters base args out line vars rs'.st
  rw [g1, g2, g3, a, b, c]
  exact ⟨rfl, rfl, rfl⟩

/-- **Fatal mode, one step.**  The same error step while `exit_on_error` is on ends the run
    with a failure carrying the message and the failing instruction's meta information; the
    output variable is already "false", nothing is recorded. -/
theorem C10_exit_on_error {σ : Type} (base : CmdSem σ) (is : List Instruction)
    (labels : List (Str × Nat)) (halt : Nat → σ × ErrSt → Bool) (rs : RunState (σ × ErrSt))
    (i : Instruction) (name : Str) (args : Option (List Str)) (m : Str) (vars' : Vars)
    (st' : σ × ErrSt)
    (hh : halt rs.polls rs.st = false) (hi : is[rs.line]? = some i)
    (hinv : invocationOf i = some (name, args))
    (hsem : withOnError base name (bind rs.vars args) (outputOf i) rs.line rs.vars rs.st =
      some (.error m, vars', st'))
    (hflag : rs.st.2.exitOnError = true) :
    runStep (withOnError base) is labels halt rs =
      .inr ({ line := rs.line, polls := rs.polls + 1,
              vars := Vars.updateOutput vars' (outputOf i) (some "false".toList), st := st' },
            .fail m i.mi) ∧ st'.2 = rs.st.2 := by
  have hst := withOnError_error_st base name _ _ _ _ _ _ _ m hsem
  rw [runStep_invocation _ is labels halt rs hh hi hinv hsem]
  rw [← hst] at hflag
  refine ⟨?_, hst⟩
  simp [afterInstr, runOnError_withOnError, hflag]

/-- **The switch.**  `exit_on_error v …` sets the mode to the truth value of `v` (false for "",
    "0", "false", "no" in any letter case; true otherwise) and returns it as "true"/"false";
    without arguments it only reports the mode. -/
theorem C10_exit_on_error_switch {σ : Type} (base : CmdSem σ) (v : Str) (rest : List Str)
    (out : Option Str) (line : Nat) (vars : Vars) (s : σ × ErrSt) :
    withOnError base "exit_on_error".toList (v :: rest) out line vars s =
      some (.continue (some (boolStr (isTrue (some v)))), vars,
            (s.1, { s.2 with exitOnError := isTrue (some v) })) ∧
    withOnError base "exit_on_error".toList [] out line vars s =
      some (.continue (some (boolStr s.2.exitOnError)), vars, s) := by
  exact ⟨withOnError_fam base _ _ famOf_exitOnError .., withOnError_fam base _ _ famOf_exitOnError ..⟩

/-- **Fatal mode, whole run, toggling included.**  Whatever happened during the first `n`
    iterations: the mode is the fold over the events (the latest `exit_on_error <value>`
    decides, `C10_mode_latest_wins`); if it is on when the next instruction reports the error
    `m`, the run fails with `m` and that instruction's meta information. -/
theorem C10_exit_on_error_run {σ : Type} (base : CmdSem σ) (is : List Instruction)
    (labels : List (Str × Nat)) (halt : Nat → σ × ErrSt → Bool) (n : Nat)
    (rs rs' : RunState (σ × ErrSt)) (m : Str) (mi : Meta)
    (h : runN (withOnError base) is labels halt n rs = some rs')
    (hmode : ((recOf rs.st.2).afterAll (eventsN base is labels halt n rs)).fatal = true)
    (hh : halt rs'.polls rs'.st = false)
    (hev : eventOf base is rs' = .error m mi) (fuel : Nat) :
    ∃ fin, runLoop (withOnError base) is labels halt (n + (fuel + 1)) rs = (fin, .fail m mi) := by
  rw [runLoop_of_runN _ is labels halt n rs rs' (fuel + 1) h]
  rw [← C10_record_is_fold base is labels halt n rs rs' h] at hmode
  simp only [recOf] at hmode
  obtain ⟨i, name, args, vars', st', hi, hinv, hsem, rfl⟩ := eventOf_eq_error base is rs' m mi hev
  obtain ⟨hstep, _⟩ := C10_exit_on_error base is labels halt rs' i name args m vars' st'
    hh hi hinv hsem hmode
  exact ⟨_, by rw [runLoop_succ, hstep]⟩

/-- the mode after any `n` iterations is decided by the latest `exit_on_error <value>` -/
theorem C10_mode_latest_wins {σ : Type} (base : CmdSem σ) (is : List Instruction)
    (labels : List (Str × Nat)) (halt : Nat → σ × ErrSt → Bool) (n : Nat)
    (rs rs' : RunState (σ × ErrSt)) (pre post : List Ev) (b : Bool)
    (h : runN (withOnError base) is labels halt n rs = some rs')
    (hev : eventsN base is labels halt n rs = pre ++ .mode b :: post)
    (hpost : ∀ e ∈ post, e.keepsMode = true) :
    rs'.st.2.exitOnError = b := by
  have hr := C10_record_is_fold base is labels halt n rs rs' h
  rw [hev] at hr
  have := afterAll_last_mode (recOf rs.st.2) pre post b hpost
  rw [← hr] at this
  simpa [recOf] using this

/-- **trigger_error / assert_error / set_error.**  `trigger_error [msg …]` reports `msg`
    ("Error" without arguments), `assert_error [msg …]` reports `msg` ("Assert failed." without
    arguments), `set_error` without arguments reports "Invalid input provided."; none of them
    changes anything — so they follow `C10_error_protocol` / `C10_exit_on_error` like any
    other failing command. -/
theorem C10_trigger_assert {σ : Type} (base : CmdSem σ) (args : List Str) (out : Option Str)
    (line : Nat) (vars : Vars) (s : σ × ErrSt) :
    withOnError base "trigger_error".toList args out line vars s =
      some (.error (args.headD "Error".toList), vars, s) ∧
    withOnError base "assert_error".toList args out line vars s =
      some (.error (args.headD "Assert failed.".toList), vars, s) ∧
    withOnError base "set_error".toList [] out line vars s =
      some (.error "Invalid input provided.".toList, vars, s) := by
  exact ⟨withOnError_fam base _ _ famOf_triggerError .., withOnError_fam base _ _ famOf_assertError ..,
    withOnError_fam base _ _ famOf_setError ..⟩

/-- `set_error msg` is not an error: it stores `msg`, the current instruction INDEX
    (`context.line`, 0-based — not the source line) and removes the source -/
theorem C10_set_error {σ : Type} (base : CmdSem σ) (msg : Str) (rest : List Str) (out : Option Str)
    (line : Nat) (vars : Vars) (s : σ × ErrSt) :
    withOnError base "set_error".toList (msg :: rest) out line vars s =
      some (.continue none, vars,
        (s.1, { s.2 with lastError := some msg, lastErrorLine := some (natToStr line),
                         lastErrorSource := none })) :=
  withOnError_fam base _ _ famOf_setError ..

/-- **Position = the current instruction** (abstract machine of C03).  For every configuration
    — whatever jumps led to `c.pc` — an error reported by the command of `is[c.pc]` is
    recorded with the meta information of `is[c.pc]` (not of a block opener, a function
    definition or an include directive), resp. fails the run with it in fatal mode. -/
theorem C10_position_is_current_instruction {σ : Type} (base : CmdSem σ) (is : List Instruction)
    (c : Cfg (σ × ErrSt)) (i : Instruction) (name : Str) (args : Option (List Str)) (m : Str)
    (vars' : Vars) (st' : σ × ErrSt)
    (hi : is[c.pc]? = some i) (hinv : invocationOf i = some (name, args))
    (hsem : withOnError base name (bind c.vars args) (outputOf i) c.pc c.vars c.st =
      some (.error m, vars', st')) :
    (c.st.2.exitOnError = false →
      Step (withOnError base) is c
        (.inl ⟨c.pc + 1, Vars.updateOutput vars' (outputOf i) (some "false".toList),
               (st'.1, { lastError := some m, lastErrorLine := some (lineText i.mi),
                         lastErrorSource := some (sourceText i.mi), exitOnError := false })⟩)) ∧
    (c.st.2.exitOnError = true →
      Step (withOnError base) is c (.inr (.fail m i.mi st'))) := by
  refine ⟨fun hflag => runStep_sound _ is ⟨c.pc, 0, c.vars, c.st⟩ _ ?_,
    fun hflag => runStep_sound _ is ⟨c.pc, 0, c.vars, c.st⟩ _ ?_⟩
  · rw [C10_error_protocol base is _ noHalt ⟨c.pc, 0, c.vars, c.st⟩ i name args m vars' st'
      rfl hi hinv hsem hflag]
    rfl
  · rw [(C10_exit_on_error base is _ noHalt ⟨c.pc, 0, c.vars, c.st⟩ i name args m vars' st'
      rfl hi hinv hsem hflag).1]
    rfl

/-! ### non-vacuity: a concrete program -/

-- runner states can be compared, so that `run3` below is checked by evaluation
deriving instance DecidableEq for RunState

namespace C10Example

def src : Option Str := some "main.ds".toList

/-- line 1 `x = boom`, line 2 `e = get_last_error`, line 3 `exit_on_error yes`, line 4 `boom`
    (source `main.ds`); `boom` is a command of the other library reporting `bang ${x}` -/
def prog : List Instruction :=
  [ ⟨{ line := some 1, source := src }, .script { output := some "x".toList, command := some "boom".toList }⟩,
    ⟨{ line := some 2, source := src }, .script { output := some "e".toList, command := some "get_last_error".toList }⟩,
    ⟨{ line := some 3, source := src }, .script { command := some "exit_on_error".toList, args := some ["yes".toList] }⟩,
    ⟨{ line := some 4, source := src }, .script { command := some "boom".toList }⟩ ]

def base : CmdSem Unit := fun name _ _ _ vars s =>
  if name = "boom".toList then some (.error "bang ${x}".toList, vars, s) else none

def start : RunState (Unit × ErrSt) := { line := 0, polls := 0, vars := [], st := ((), {}) }

/-- `boom` is no member of the family, so it is `base` that answers -/
private theorem boom (args : List Str) (out : Option Str) (line : Nat) (vars : Vars)
    (s : Unit × ErrSt) :
    withOnError base "boom".toList args out line vars s = some (.error "bang ${x}".toList, vars, s) :=
  withOnError_base base _ (by decide +kernel) ..

/-- the hypotheses of the protocol theorem are satisfiable: line 1 -/
example : runStep (withOnError base) prog [] (fun _ _ => false) start =
    .inl { line := 1, polls := 1, vars := [("x".toList, "false".toList)],
           st := ((), { lastError := some "bang ${x}".toList, lastErrorLine := some "1".toList,
                        lastErrorSource := some "main.ds".toList, exitOnError := false }) } :=
  C10_error_protocol base prog [] _ start _ "boom".toList none _ [] ((), {}) rfl rfl rfl (boom ..) rfl

def after3 : RunState (Unit × ErrSt) :=
  { line := 3, polls := 3,
    vars := [("e".toList, "bang ${x}".toList), ("x".toList, "false".toList)],
    st := ((), { lastError := some "bang ${x}".toList, lastErrorLine := some "1".toList,
                 lastErrorSource := some "main.ds".toList, exitOnError := true }) }

/-- three iterations: error, query, switch -/
private theorem run3 : runN (withOnError base) prog [] (fun _ _ => false) 3 start = some after3 := by
  decide +kernel

private theorem events3 : eventsN base prog [] (fun _ _ => false) 3 start =
    [.error "bang ${x}".toList { line := some 1, source := src }, .quiet, .mode true] := by
  decide +kernel

example : eventsN base prog [] (fun _ _ => false) 3 start =
    [.error "bang ${x}".toList { line := some 1, source := src }, .quiet, .mode true] :=
  events3

/-- the whole run: the second `boom` (line 4) is fatal and is reported with ITS line -/
example : ∃ fin, runLoop (withOnError base) prog [] (fun _ _ => false) 10 start =
    (fin, .fail "bang ${x}".toList { line := some 4, source := src }) :=
  C10_exit_on_error_run base prog [] _ 3 start after3 _ _ run3 (by rw [events3]; rfl) rfl
    (eventOf_error base prog after3 rfl rfl (boom ..) rfl) 6

/-- "latest wins" is applicable: after the three iterations the queries answer from line 1 -/
example : withOnError base "get_last_error_line".toList [] none 0 [] after3.st =
    some (.continue (some (lineText { line := some 1, source := src })), [], after3.st) :=
  (C10_latest_wins base prog [] _ 3 start after3 [] [.quiet, .mode true] "bang ${x}".toList
    { line := some 1, source := src } run3 events3 (by decide) [] none 0 []).2.1

/-- the abstract machine agrees, for the configuration at line 4 -/
example : Step (withOnError base) prog
    ⟨3, [], ((), { exitOnError := true })⟩
    (.inr (.fail "bang ${x}".toList { line := some 4, source := src } ((), { exitOnError := true }))) :=
  (C10_position_is_current_instruction base prog ⟨3, [], ((), { exitOnError := true })⟩ _
    "boom".toList none _ [] _ rfl rfl (boom ..)).2 rfl

end C10Example

end Duck
