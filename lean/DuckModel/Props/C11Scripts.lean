/-
  C11 - `unset` RUN FROM ITS REGENERATED SOURCE (`Generated.scripts`, std/var/unset/script.ds):
  the alias wrapper + `for name in ${arguments}` / `set_by_name ${name}` remove exactly the named
  variables (and, through the wrapper's `clear`, the command's own name space `scope::unset::`),
  for every argument list, variable map and state.  This ties the function `VarScope.cmdUnset`
  (the model of `unset` the C11 theorems of Props/C11.lean are about) to the script text: the
  source-run model computes it.

  Hypotheses:
    * `hnotin`: no argument is the name `scope::unset::arguments` (the loop's own handle variable:
      unsetting it ends the loop early - the remaining names stay defined; in /repo too);
    * `hempty`: without arguments the script's `for` reads a variable the wrapper did not set; the
      caller's value of it (if any) must not name an array;
    * `hstale`, `hcache`: the flow-control state (see Props/C12Scripts.lean); the instruction
      budget covers `3·n + 3` instructions.
-/
import DuckModel.Lemmas.ScriptLoopUnset

namespace Duck
open Duck.Alias Duck.Coll Duck.ScriptRun Duck.Spec

theorem unset_run (depth fuel : Nat) (args : List Str) (vars : Vars) (st : ScriptSt)
    (hstale : NoStaleFor uScope st.forStack) (hcache : CacheOK st.forMeta "scope::unset::1".toList 3)
    (hempty : args = [] → ∀ l, tget st.coll.tbl ((vars.get uArgs).getD []) ≠ some (.list l)) (hnotin : uArgs ∉ args)
    (hfuel : 3 * args.length + 3 ≤ fuel) :
    runScriptCmdF (depth + 1) fuel "unset".toList args vars st =
      (.continue none, clear uScope (VarScope.eraseAll vars args), uFinal args st) :=
  (run_of_bound (run := fun n => runScriptCmdF (depth + 1) n "unset".toList args vars st) (P := (· = _))
    ⟨_, fun k => Nat.add_assoc k _ 3 ▸ unset_runF depth k args vars st hstale hcache hempty hnotin, rfl⟩ hfuel).2

/-- `unset` from source = `VarScope.cmdUnset` (result `Continue(None)`, variables), and pointwise:
    a variable is defined afterwards iff it was defined, is not named by an argument and is not in
    the command's own name space - with the value it had. -/
theorem C11_script_unset_correct (args : List Str) (vars : Vars) (st : ScriptSt)
    (hstale : NoStaleFor "scope::unset".toList st.forStack)
    (hcache : CacheOK st.forMeta "scope::unset::1".toList 3)
    (hempty : args = [] → ∀ l, tget st.coll.tbl ((vars.get "scope::unset::arguments".toList).getD []) ≠ some (.list l))
    (hnotin : "scope::unset::arguments".toList ∉ args)
    (hfuel : 3 * args.length + 3 ≤ scriptFuel) :
    (runScriptCmd "unset".toList args vars st).1 = (VarScope.cmdUnset vars args).2 ∧
    (runScriptCmd "unset".toList args vars st).2.1 = (VarScope.cmdUnset vars args).1 ∧
    (∀ k, Vars.get (runScriptCmd "unset".toList args vars st).2.1 k =
      if k ∈ args ∨ underPrefix "scope::unset".toList k = true then none else Vars.get vars k) := by
  rw [show runScriptCmd "unset".toList args vars st = _ from unset_run 5 _ args vars st hstale hcache hempty hnotin hfuel]
  refine ⟨rfl, rfl, ?_⟩
  intro x
  exact unset_get vars args x

/-- the table reads as before (the temporary argument array is gone again), the allocator drew
    one name (none without arguments), line context and both call stacks are as before -/
theorem C11_script_unset_frame (args : List Str) (vars : Vars) (st : ScriptSt)
    (hfree : tget st.coll.tbl (Coll.handleName st.coll.next) = none)
    (hstale : NoStaleFor "scope::unset".toList st.forStack)
    (hcache : CacheOK st.forMeta "scope::unset::1".toList 3)
    (hempty : args = [] → ∀ l, tget st.coll.tbl ((vars.get "scope::unset::arguments".toList).getD []) ≠ some (.list l))
    (hnotin : "scope::unset::arguments".toList ∉ args)
    (hfuel : 3 * args.length + 3 ≤ scriptFuel) :
    LookupEq (runScriptCmd "unset".toList args vars st).2.2.coll.tbl st.coll.tbl ∧
    (runScriptCmd "unset".toList args vars st).2.2.coll.next = st.coll.next + (if args = [] then 0 else 1) ∧
    (runScriptCmd "unset".toList args vars st).2.2.ctx = st.ctx ∧
    (runScriptCmd "unset".toList args vars st).2.2.forStack = st.forStack ∧
    (runScriptCmd "unset".toList args vars st).2.2.ifStack = st.ifStack ∧
    NoStaleFor "scope::unset".toList (runScriptCmd "unset".toList args vars st).2.2.forStack ∧
    CacheOK (runScriptCmd "unset".toList args vars st).2.2.forMeta "scope::unset::1".toList 3 := by
  rw [show runScriptCmd "unset".toList args vars st = _ from unset_run 5 _ args vars st hstale hcache hempty hnotin hfuel]
  refine ⟨?_, ?_, rfl, rfl, rfl, hstale, cacheOK_forMetaAfter _ _ _ hcache⟩
  · intro h
    by_cases ha : args = []
    · simp [uFinal, ha]
    · simp only [uFinal, ha, if_false, tget_tremove, tget_tinsert]
      by_cases e : h = Coll.handleName st.coll.next
      · simp [e, hfree]
      · simp [e]
  · by_cases ha : args = [] <;> simp [uFinal, ha]

/-- termination: every budget of at least `3·n + 3` instructions gives the same run -/
theorem C11_script_unset_terminates (depth fuel : Nat) (args : List Str) (vars : Vars) (st : ScriptSt)
    (hstale : NoStaleFor "scope::unset".toList st.forStack)
    (hcache : CacheOK st.forMeta "scope::unset::1".toList 3)
    (hempty : args = [] → ∀ l, tget st.coll.tbl ((vars.get "scope::unset::arguments".toList).getD []) ≠ some (.list l))
    (hnotin : "scope::unset::arguments".toList ∉ args)
    (hfuel : 3 * args.length + 3 ≤ fuel) :
    runScriptCmdF (depth + 1) fuel "unset".toList args vars st =
      runScriptCmdF (depth + 1) (3 * args.length + 3) "unset".toList args vars st := by
  rw [unset_run depth fuel args vars st hstale hcache hempty hnotin hfuel,
    unset_run depth _ args vars st hstale hcache hempty hnotin (Nat.le_refl _)]

/-- `hnotin` cannot be dropped: naming the loop's own handle variable ends the loop early, the
    later names stay defined (here `b`); the specified function removes all three -/
theorem C11_script_unset_own_handle_variable :
    let vars : Vars := [("a".toList, "1".toList), ("b".toList, "2".toList)]
    let args := ["a".toList, "scope::unset::arguments".toList, "b".toList]
    Vars.get (runScriptCmd "unset".toList args vars {}).2.1 "b".toList = some "2".toList ∧
    Vars.get (runScriptCmd "unset".toList args vars {}).2.1 "a".toList = none ∧
    Vars.get (VarScope.cmdUnset vars args).1 "b".toList = none := by
  decide +kernel

/-- non-vacuity: the hypotheses hold in the initial state -/
example : NoStaleFor "scope::unset".toList ({} : ScriptSt).forStack ∧
    CacheOK ({} : ScriptSt).forMeta "scope::unset::1".toList 3 := by
  refine ⟨?_, Or.inl rfl⟩
  intro e h
  cases h

end Duck
