/-
  C14 with the SDK's own `goto` / `exit`: the theorems of Props/C14Run.lean ("running the file =
  running the pasted text") hold for every command semantics that does not look at the line index
  and never asks for a jump to an absolute line.  Adding the real `exit` and `goto`
  (Sdk/ProcessCmd.lean) to such a semantics keeps both: `goto` jumps by LABEL only — labels belong to
  the whole script, wherever the line that carries them was included from — and neither command
  reads the line it stands on.  So "include = paste" covers scripts that jump with `goto :label`
  across file boundaries (the include runs of the correspondence check use exactly `scriptedSemX`).
-/
import DuckModel.Sdk.ProcessCmd
import DuckModel.Lemmas.DirectiveLemmas
import DuckModel.Props.C03Sdk
import DuckModel.Props.C14Run

namespace Duck

/-- a command semantics extended with the SDK's `exit` and `goto` under all their spellings -/
def withExitGoto {σ : Type} (sem : CmdSem σ) : CmdSem σ :=
  fun name args out line vars s =>
    if Generated.cmdNamesExit.contains name then some (exitCmd args, vars, s)
    else if Generated.cmdNamesGoTo.contains name then some (gotoCmd args, vars, s)
    else sem name args out line vars s

/-- the semantics of the `runx` / include-run streams is this extension of the scripted commands -/
theorem C14_scriptedSemX_eq (names : List Str) : scriptedSemX names = withExitGoto (scriptedSem names) := rfl

theorem C14_exit_goto_line_insensitive {σ : Type} (sem : CmdSem σ) (h : LineInsensitive sem) :
    LineInsensitive (withExitGoto sem) := by
  intro name args out l l' vars s
  unfold withExitGoto
  by_cases h1 : Generated.cmdNamesExit.contains name = true
  · simp only [h1, if_true]
  · by_cases h2 : Generated.cmdNamesGoTo.contains name = true
    · simp only [h1, h2, if_true, Bool.false_eq_true, if_false]
    · simp only [h1, h2, Bool.false_eq_true, if_false]
      exact h name args out l l' vars s

/-- `exit` never jumps; `goto` jumps to a label, never to an absolute line -/
theorem C14_exit_goto_no_absolute_jumps {σ : Type} (sem : CmdSem σ) (h : NoAbsoluteJumps sem) :
    NoAbsoluteJumps (withExitGoto sem) := by
  intro name args out l vars s v n vars' s'
  unfold withExitGoto
  by_cases h1 : Generated.cmdNamesExit.contains name = true
  · simp only [h1, if_true]
    intro hc
    have hc' : exitCmd args = .goTo v (.line n) := by injection hc with hc; exact (Prod.mk.inj hc).1
    rcases C03_exit_cmd_result_kinds args with ⟨w, hw⟩ | ⟨m, hm⟩
    · rw [hw] at hc'; cases hc'
    · rw [hm] at hc'; cases hc'
  · by_cases h2 : Generated.cmdNamesGoTo.contains name = true
    · simp only [h1, h2, if_true, Bool.false_eq_true, if_false]
      intro hc
      have hc' : gotoCmd args = .goTo v (.line n) := by injection hc with hc; exact (Prod.mk.inj hc).1
      unfold gotoCmd at hc'
      match args, hc' with
      | [], hc' => cases hc'
      | [lb], hc' =>
        simp only at hc'
        by_cases hl : lb.head? = some ':'
        · rw [if_pos hl] at hc'; injection hc' with _ hg; cases hg
        · rw [if_neg hl] at hc'; cases hc'
      | _ :: _ :: _, hc' => cases hc'
    · simp only [h1, h2, Bool.false_eq_true, if_false]
      exact h name args out l vars s v n vars' s'

/-- "include = paste" for scripts that use the SDK's `goto` / `exit` next to ANY line-insensitive
    commands without absolute jumps: `C14_behaves_like_inlined` instantiated -/
theorem C14_behaves_like_inlined_with_goto {σ : Type} (fs : Fs) (fuel : Nat) (root : Str)
    (ls : List (Meta × Str))
    (hin : Spec.inline (worldOf fs) fuel root = (ls, none))
    (hok : ∀ p ∈ ls, ∃ ty, lineOutcome p.2 = .ok ty)
    (sem : CmdSem σ) (hL : LineInsensitive sem) (hN : NoAbsoluteJumps sem)
    (halt : Nat → σ → Bool) (hH : StateOnlyHalt halt) (vars : Vars) (s : σ) :
    ∃ is, parseFileF fs fuel root = .ok is ∧
    (∀ f f', Finished (run (withExitGoto sem) halt f is vars s) →
      Finished (run (withExitGoto sem) halt f' (ls.map instrOf) vars s) →
      SameOutcome (run (withExitGoto sem) halt f is vars s) (run (withExitGoto sem) halt f' (ls.map instrOf) vars s)) := by
  obtain ⟨is, hp, _, _, h3⟩ := C14_behaves_like_inlined fs fuel root ls hin hok (withExitGoto sem)
    (C14_exit_goto_line_insensitive sem hL) (C14_exit_goto_no_absolute_jumps sem hN) halt hH vars s
  exact ⟨is, hp, h3⟩

/-! non-vacuity: a semantics that meets both hypotheses, and what the extension answers -/
example : LineInsensitive (fun _ _ _ _ vars (s : Unit) => some (CmdResult.continue none, vars, s)) := fun _ _ _ _ _ _ _ => rfl
example : NoAbsoluteJumps (fun _ _ _ _ vars (s : Unit) => some (CmdResult.continue none, vars, s)) := by
  intro _ _ _ _ _ _ _ _ _ _ h; cases h
example : withExitGoto (fun _ _ _ _ vars (s : Unit) => some (CmdResult.continue none, vars, s)) "goto".toList [":finish".toList] none 7 [] () =
    some (.goTo none (.label ":finish".toList), [], ()) := by decide +kernel

end Duck
