/-
  C18 — file commands behave like operations on a simple file tree.

  PARTIAL by nature: the truth of these commands lives in the operating system (and in the
  third-party crates fsio / fs_extra / glob).  `DuckModel/Sdk/FsTree.lean` IS the reference
  file-tree model the property speaks of (model = spec); the theorems below are facts about that
  model, and the tie to /repo is purely the correspondence check (harness/src/props/c18.rs),
  which walks the real directory after every command.

  Observations are made with `stat t q` (nothing / a file with its bytes / a directory at the
  component path `q`): two trees with the same `stat` everywhere have the same listing.

  Props/C18History.lean : what holds over HISTORIES — frame for every command, the asking commands
                          change nothing, well-formedness of every reachable tree, last writer
                          wins, directory sources of mv/cp are skipped.
-/
import DuckModel.Props.C18History
import DuckModel.Lemmas.FsTreeHistoryLemmas
import DuckModel.Lemmas.Utf8DecodeLemmas

namespace Duck
open Duck.FsTree

/-! ### what was written is what is read -/

/-- after a successful `writefile p s`: `readfile p` gives `s` back (and `readbinfile` its UTF-8
    bytes), every proper ancestor of `p` is a directory, and the observation at every other
    path is what it was (frame) -/
theorem C18_read_after_write (t t' : Node) (p : P) (s : Str) (v : Val)
    (h : writeText t p s = (t', .ok v)) :
    readText t' p = .ok (.text s) ∧
    readBytes t' p = .ok (.bytes (utf8Encode s)) ∧
    (∀ q, q <+: p.comps → q ≠ p.comps → stat t' q = some .dir) ∧
    (∀ q, ¬ q <+: p.comps → stat t' q = stat t q) := by
  obtain ⟨htr, hold, hp⟩ := writeGen_ok_new h
  have hr := writeGen_read htr hp
  exact ⟨by simp [readText, hr, utf8_roundtrip], by simp [readBytes, hr], stat_putAt_prefix hp,
    stat_putAt_file_frame hp hold⟩

/-- the same for the binary pair `writebinfile` / `readbinfile`, for arbitrary bytes -/
theorem C18_read_after_write_bytes (t t' : Node) (p : P) (data : Bytes) (v : Val)
    (h : writeBytes t p data = (t', .ok v)) :
    readBytes t' p = .ok (.bytes data) ∧
    (∀ q, q <+: p.comps → q ≠ p.comps → stat t' q = some .dir) ∧
    (∀ q, ¬ q <+: p.comps → stat t' q = stat t q) := by
  obtain ⟨htr, hold, hp⟩ := writeGen_ok_new h
  have hr := writeGen_read htr hp
  exact ⟨by simp [readBytes, hr], stat_putAt_prefix hp, stat_putAt_file_frame hp hold⟩

/-- `appendfile` extends: an existing file's bytes get the UTF-8 bytes of the text appended, a
    missing file is created with exactly the text; ancestors are directories; frame -/
theorem C18_append_extends (t t' : Node) (p : P) (s : Str) (v : Val)
    (h : appendText t p s = (t', .ok v)) :
    (∀ old, readBytes t p = .ok (.bytes old) →
        readBytes t' p = .ok (.bytes (old ++ utf8Encode s))) ∧
    (stat t p.comps = none → readBytes t' p = .ok (.bytes (utf8Encode s)) ∧
        readText t' p = .ok (.text s)) ∧
    (∀ q, q <+: p.comps → q ≠ p.comps → stat t' q = some .dir) ∧
    (∀ q, ¬ q <+: p.comps → stat t' q = stat t q) := by
  obtain ⟨htr, hold, hp⟩ := writeGen_ok h
  have hr := writeGen_read htr hp
  refine ⟨?_, ?_, stat_putAt_prefix hp, stat_putAt_file_frame hp hold⟩
  · intro old ho
    unfold readBytes at ho
    split at ho
    · next b hb =>
      cases ho
      simp [readBytes, hr, written, (resolve_file_iff.mp hb).1]
    · cases ho
  · intro hs
    have hl : lookup t p.comps = none := by
      cases hl : lookup t p.comps with
      | none => rfl
      | some n => simp [stat, hl] at hs
    simp [readBytes, readText, hr, written, hl, utf8_roundtrip]

/-! ### copy -/

/-- a successful `cp src dst` (file source): the source is a file and still is, with the same
    bytes; the target is a file with equal bytes; missing parents of the target were created
    (every proper ancestor of the target is a directory); nothing else changed -/
theorem C18_cp_file (t t' : Node) (src dst : P) (v : Val)
    (h : cp t src dst = (t', .ok v)) :
    ∃ b, stat t src.comps = some (.file b) ∧
      stat t' src.comps = some (.file b) ∧
      stat t' dst.comps = some (.file b) ∧
      (∀ q, q <+: dst.comps → q ≠ dst.comps → stat t' q = some .dir) ∧
      (∀ q, ¬ q <+: dst.comps → stat t' q = stat t q) := by
  rcases cp_cases t src dst with ⟨r, e, hr⟩ | ⟨b, hres, ⟨heq, e⟩ | ⟨t'', hne, hold, hp, e⟩⟩ <;>
    rw [e] at h
  · exact absurd (Prod.mk.inj h).2 (hr v)
  all_goals
    cases h
    obtain ⟨hl, htr⟩ := resolve_file_iff.mp hres
    have hs : stat t src.comps = some (.file b) := stat_of_lookup hl
    refine ⟨b, hs, ?_⟩
  · refine ⟨hs, heq ▸ hs, ?_, fun _ _ => rfl⟩
    intro q h1 h2
    obtain ⟨r, hr, e⟩ := prefix_rest h1 h2
    rw [heq, ← e] at hl
    obtain ⟨es, he⟩ := lookup_prefix_dir hl hr
    exact stat_of_lookup he
  · have hsrc := (resolve_file_iff.mp (src_survives hl htr hp hne hold)).1
    exact ⟨stat_of_lookup hsrc, by simpa [Node.obs] using stat_putAt_self hp,
      stat_putAt_prefix hp, stat_putAt_file_frame hp hold⟩

/-! ### move = copy then delete -/

/-- PARTIAL (file sources only; directory sources are outside the property's domain):
    a successful `mv src dst` of a file leaves exactly the tree of "copy to the target the
    code's rule selects, then delete the source".  The target is `dst` itself when `dst` is an
    existing file, or is missing, has no trailing separator and its name has an extension
    ("move to file"); otherwise it is `dst/<basename of src>` ("move into the — possibly new —
    directory `dst`").  The copy succeeds and the delete succeeds.
    That a directory source is answered `skip` with the tree untouched, and that a successful
    `mv` always had a file source, are theorems: `C18_mv_directory_source_skipped`,
    `C18_mv_outcome_by_source` (Props/C18History.lean). -/
theorem C18_mv_eq_cp_rm_partial (t t' : Node) (src dst : P) (v : Val)
    (h : mv t src dst = (t', .ok v)) :
    let target : P := { comps := mvTarget t src dst, trail := false }
    (cp t src target).2 = .ok .unit ∧
    rm (cp t src target).1 false src = (t', .ok .unit) := by
  intro target
  rcases mv_cases t src dst with
    ⟨r, e, hr⟩ | ⟨b, hres, ⟨t1, hfile, hp, e⟩ | ⟨t1, t2, hfile, hmk, hnone, hp, e⟩⟩ <;> rw [e] at h
  · exact absurd (Prod.mk.inj h).2 (hr v)
  all_goals
    cases h
    obtain ⟨hl, htr⟩ := resolve_file_iff.mp hres
  · -- move to file
    have htarget : target = { comps := dst.comps, trail := false } := by
      simp [target, mvTarget, hfile]
    have hnd := mvTargetIsFile_not_dir hfile
    rw [htarget]
    by_cases heq : src.comps = dst.comps
    · have ht1 : t1 = t := by
        have := putAt_id hl
        rw [heq, hp] at this
        exact (Option.some.inj this)
      subst ht1
      simp [cp, hres, heq, rm, Node.isFile]
    · have hcp : cp t src { comps := dst.comps, trail := false } = (t1, .ok .unit) := by
        unfold cp
        simp only [hres, heq, hp]
        cases hd : lookup t dst.comps with
        | none => simp
        | some n =>
          cases n with
          | file x => simp
          | dir es => exact absurd hd (hnd es)
      have hsv := src_survives hl htr hp heq hnd
      simp [hcp, rm, hsv]
  · -- move into the directory dst
    have hshape : mvTarget t src dst = dst.comps ++ src.comps.getLast?.toList := by
      simp [mvTarget, hfile]
    have hp' : putAt t (mvTarget t src dst) (.file b) = some t2 := by
      rw [hshape, ← putAt_mkdirs hmk]; rw [← hshape]; exact hp
    have hnone' : lookup t (mvTarget t src dst) = none := by
      cases hq : lookup t (mvTarget t src dst) with
      | none => rfl
      | some n =>
        obtain ⟨n', hn'⟩ := lookup_mkdirs_some hmk hq
        rw [hnone] at hn'; cases hn'
    have hne : src.comps ≠ mvTarget t src dst := by
      intro e; rw [← e, hl] at hnone'; cases hnone'
    have hnd : ∀ es, lookup t (mvTarget t src dst) ≠ some (.dir es) := by
      intro es e; rw [hnone'] at e; cases e
    have hcp : cp t src target = (t2, .ok .unit) := by
      unfold cp
      simp [target, hres, hne, hp', hnone']
    have hsv := src_survives hl htr hp' hne hnd
    simp [hcp, rm, hsv]

/-! ### delete -/

/-- a successful `rm [-r] p`: when nothing is at `p` the tree is unchanged; otherwise exactly
    the named path disappears — nothing is observed at `p` or below it any more, and the
    observation at every path outside `p`'s subtree is what it was -/
theorem C18_rm_exact (t t' : Node) (r : Bool) (p : P) (v : Val) (hp : p.comps ≠ [])
    (h : rm t r p = (t', .ok v)) :
    (resolve t p = none → t' = t) ∧
    (resolve t p ≠ none →
      (∀ r', stat t' (p.comps ++ r') = none) ∧
      (∀ q, ¬ p.comps <+: q → stat t' q = stat t q)) := by
  rcases rm_cases t r p with e | ⟨hn, e⟩ | ⟨hne, e⟩ <;> rw [e] at h <;> cases h
  · exact ⟨fun _ => rfl, fun hne => absurd hn hne⟩
  · exact ⟨fun hn => absurd hn hne, fun _ =>
      ⟨fun r' => by simp [stat, lookup_removeAt_below t p.comps hp r'],
        fun q hq => stat_removeAt_other t p.comps q hq⟩⟩

/-- a non-empty directory goes only with `-r`: plain `rm` and `rmdir` fail and leave the tree
    as it is, `rm -r` removes it -/
theorem C18_rm_nonempty_needs_r (t : Node) (p : P) (es : Entries)
    (hd : resolve t p = some (.dir es)) (hne : es.isEmpty = false) :
    rm t false p = (t, .err) ∧ rmdir t p = (t, .err) ∧
    rm t true p = (removeAt t p.comps, .ok .unit) := by
  simp [rm, rmdir, hd, hne]

/-- … while an EMPTY directory is removed by all three -/
theorem C18_rm_empty_dir (t : Node) (p : P) (es : Entries)
    (hd : resolve t p = some (.dir es)) (he : es.isEmpty = true) :
    rm t false p = (removeAt t p.comps, .ok .unit) ∧
    rmdir t p = (removeAt t p.comps, .ok .unit) := by
  simp [rm, rmdir, hd, he]

/-! ### a failing operation leaves the tree unchanged -/

/-- every command that reports a failure (`err`: output `false` or an error) leaves the tree
    EQUAL — for all sixteen commands, in every tree -/
theorem C18_failed_op_unchanged (t : Node) (op : Op) (h : (step t op).2 = .err) :
    (step t op).1 = t :=
  (step_same_or_ok t op).resolve_right (by rw [h]; simp)

/-- the same for a command outside the domain (directory source of cp / mv): not modelled,
    tree untouched -/
theorem C18_skipped_op_unchanged (t : Node) (op : Op) (h : (step t op).2 = .skip) :
    (step t op).1 = t :=
  (step_same_or_ok t op).resolve_right (by rw [h]; simp)

/-! ### basename / dirname / join_path -/

/-- laws of the path-string functions: for a normal name `b` (no separator, not `.`/`..`),
    `basename (d/b) = b` for EVERY `d`; `dirname (d/b) = d` whenever `d` is not empty and does
    not end in a separator or `/.`; `join_path` never leaves a `//` and changes nothing when
    there was none -/
theorem C18_path_functions :
    (∀ d b, PlainName b → basename (d ++ '/' :: b) = some b) ∧
    (∀ d b, PlainName b → d ≠ [] → CleanEnd d → dirname (d ++ '/' :: b) = some d) ∧
    (∀ args, hasDouble (joinPath args) = false) ∧
    (∀ args, hasDouble (joinSlash args) = false → joinPath args = joinSlash args) :=
  ⟨basename_join, dirname_join, fun _ => hasDouble_squeeze _, fun _ h => squeeze_id _ h⟩

/-! ### non-vacuity: a concrete 3-level tree `a/b/c/f.txt` -/

namespace FsTree.Example

def t3 : Node :=
  .dir (.cons "a".toList (.dir (.cons "b".toList (.dir (.cons "c".toList
    (.dir (.cons "f.txt".toList (.file [104, 105]) .nil)) .nil)) .nil)) .nil)

def f : P := { comps := ["a".toList, "b".toList, "c".toList, "f.txt".toList] }
def a : P := { comps := ["a".toList] }

-- the tree is what the commands build from the empty directory
example : ((run FsTree.empty [.mkdir { comps := ["a".toList, "b".toList, "c".toList] },
    .writeText f "hi".toList]).map (·.1)) = [.ok .unit, .ok .unit] := by decide +kernel
example : stat t3 f.comps = some (.file [104, 105]) := by decide +kernel

-- read after write with new parents, non-ASCII text
example : (writeText t3 { comps := ["a".toList, "n".toList, "é.txt".toList] } "héllo".toList).2
    = .ok .unit := by decide +kernel
-- append to an existing file
example : (appendText t3 f "!".toList).2 = .ok .unit ∧
    readBytes (appendText t3 f "!".toList).1 f = .ok (.bytes [104, 105, 33]) := by decide +kernel
-- copy creates x/y
example : (cp t3 f { comps := ["x".toList, "y".toList, "g.txt".toList] }).2 = .ok .unit ∧
    stat (cp t3 f { comps := ["x".toList, "y".toList, "g.txt".toList] }).1 ["x".toList, "y".toList]
      = some .dir := by decide +kernel
-- the three shapes of mv: into an existing directory, to a file name, into a new directory
example : (mv t3 f a).2 = .ok .unit ∧ mvTarget t3 f a = ["a".toList, "f.txt".toList] := by decide +kernel
example : (mv t3 f { comps := ["z.md".toList] }).2 = .ok .unit ∧
    mvTarget t3 f { comps := ["z.md".toList] } = ["z.md".toList] := by decide +kernel
example : (mv t3 f { comps := ["new".toList] }).2 = .ok .unit ∧
    mvTarget t3 f { comps := ["new".toList] } = ["new".toList, "f.txt".toList] ∧
    stat (mv t3 f { comps := ["new".toList] }).1 f.comps = none := by decide +kernel
-- rm: non-empty directory only with -r
example : (rm t3 false a).2 = .err ∧ (rm t3 true a).2 = .ok .unit ∧
    stat (rm t3 true a).1 f.comps = none := by decide +kernel
-- failing operations (a file among the ancestors; a directory where a file is expected;
-- trailing separator)
example : (writeText t3 { comps := f.comps ++ ["x".toList] } "t".toList).2 = .err := by decide +kernel
example : (writeText t3 a "t".toList).2 = .err ∧ (touch t3 a).2 = .err ∧
    (mkdir t3 f).2 = .err ∧ (writeText t3 { comps := ["q".toList, "r".toList], trail := true } []).2 = .err := by
  decide +kernel
-- path strings
example : basename "a/b/f.txt".toList = some "f.txt".toList ∧
    dirname "a/b/f.txt".toList = some "a/b".toList ∧
    joinPath ["a/".toList, "/b".toList] = "a/b".toList := by decide +kernel
example : PlainName "f.txt".toList ∧ CleanEnd "a/b".toList := by
  refine ⟨⟨by decide +kernel, by decide +kernel, by decide +kernel, by decide +kernel⟩, ?_⟩
  intro x hx
  have : (splitSlash "a/b".toList).getLast? = some "b".toList := by decide +kernel
  rw [this] at hx; cases hx; decide +kernel

end FsTree.Example

end Duck
