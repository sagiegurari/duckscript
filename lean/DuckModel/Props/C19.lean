/-
  C19 - script-implemented library commands leave no trace in the caller's variables.

  General part: theorems about `aliasRun` (model of `AliasCommand::run`) for an ARBITRARY body.
  Finite part: facts about every entry of the regenerated table `Generated.scripts`
  (one entry per `script.ds` of /repo), proved by evaluation and therefore re-proved whenever a
  `script.ds` or a `create_alias_command(..)` call changes.

  The command's OUTPUT variable is not written by the wrapper: the runner's `update_output`
  (`Vars.updateOutput`, shared runner model) does that with the result `aliasRun` returns.  "The
  caller's variables are unchanged" below therefore means: unchanged by the command itself; the
  runner then sets exactly the output variable.
-/
import DuckModel.Lemmas.AliasCmdLemmas
import DuckModel.Props.C19Scripts

namespace Duck.Alias
open Duck

variable {σ : Type}

/-! ### hypotheses of the frame theorem -/

/-- the body writes only keys under the prefix `scope ++ "::"`: every other key reads the same
    before and after the body -/
def BodyFrame (scope : Str) (body : Vars → σ → BodyResult × Vars × σ) : Prop :=
  ∀ vars st k, underPrefix scope k = false → Vars.get (body vars st).2.1 k = Vars.get vars k

/-- the caller has no variable under the prefix -/
def CallerClean (scope : Str) (vars : Vars) : Prop :=
  ∀ k, underPrefix scope k = true → Vars.get vars k = none

end Duck.Alias

namespace Duck
open Duck.Alias

variable {σ : Type}

/-! ### the frame -/

/-- If the body writes only under the command's prefix and the caller had nothing under that
    prefix, the caller's variables after the call read exactly as before - on EVERY path: too few
    arguments, body finished (`Continue`), `Error`, `Crash`, `Exit`, `GoTo` label, and also when
    the leak detector fires.  (The conclusion does not depend on how the body ended.) -/
theorem C19_wrapper_frame (H : HandleOps σ) (amount : Nat)
    (body : Vars → σ → BodyResult × Vars × σ) (scope : Str) (args : List Str) (vars : Vars) (st : σ)
    (hbody : BodyFrame scope body) (hcaller : CallerClean scope vars) :
    ∀ k, Vars.get (aliasRun H amount body scope args vars st).2.1 k = Vars.get vars k := by
  intro k
  by_cases h : args.length < amount
  · rw [aliasRun_few H amount body scope args vars st h]
  · rw [aliasRun_run H amount body scope args vars st h]
    simp only [cleanup]
    rw [get_clear]
    cases hk : underPrefix scope k with
    | true => simp [hcaller k hk]
    | false =>
      simp only [Bool.false_eq_true, if_false]
      rw [hbody _ _ k hk, get_publish H scope args vars _ k hk]

/-- The result on every path.  With the frame hypotheses and unique keys the leak counter does
    not fire, and the body's flow result is handed to the caller unchanged (an `Error` stays an
    `Error` - the runner then reports it at the caller's line -, `Crash` stays `Crash`, `Exit`
    stays `Exit`); a `GoTo` label inside the body becomes an `Error`; too few arguments are an
    `Error` before anything is touched. -/
theorem C19_error_path (H : HandleOps σ) (amount : Nat)
    (body : Vars → σ → BodyResult × Vars × σ) (scope : Str) (args : List Str) (vars : Vars) (st : σ)
    (hbody : BodyFrame scope body) (hcaller : CallerClean scope vars) (hnk : NK vars)
    (hbnk : ∀ v s, NK v → NK (body v s).2.1) :
    (aliasRun H amount body scope args vars st).1 =
      if args.length < amount then .error invalidArgsMsg
      else
        match (body (publish H scope args vars (H.setCtx st scope)).2.1
                    (publish H scope args vars (H.setCtx st scope)).2.2).1 with
        | .finished out => .continue out
        | .exit v => .exit v
        | .error m => .error m
        | .crash m => .crash m
        | .gotoLabel _ _ => .error gotoLabelMsg := by
  by_cases h : args.length < amount
  · rw [aliasRun_few H amount body scope args vars st h]; simp [h]
  · have hframe := C19_wrapper_frame H amount body scope args vars st hbody hcaller
    rw [aliasRun_run H amount body scope args vars st h] at hframe ⊢
    simp only [h, if_false]
    have hlen := length_eq_of_get_eq
      (a := (cleanup H scope (H.getCtx st) (publish H scope args vars (H.setCtx st scope)).1
        (body (publish H scope args vars (H.setCtx st scope)).2.1
              (publish H scope args vars (H.setCtx st scope)).2.2).2.1
        (body (publish H scope args vars (H.setCtx st scope)).2.1
              (publish H scope args vars (H.setCtx st scope)).2.2).2.2).1)
      (nk_clear (hbnk _ _ (nk_publish H scope args (H.setCtx st scope) hnk)) scope) hnk hframe
    have hnot : ¬ vars.length < (cleanup H scope (H.getCtx st) (publish H scope args vars (H.setCtx st scope)).1
        (body (publish H scope args vars (H.setCtx st scope)).2.1
              (publish H scope args vars (H.setCtx st scope)).2.2).2.1
        (body (publish H scope args vars (H.setCtx st scope)).2.1
              (publish H scope args vars (H.setCtx st scope)).2.2).2.2).1.length := by omega
    rw [if_neg hnot]
    cases (body (publish H scope args vars (H.setCtx st scope)).2.1
                (publish H scope args vars (H.setCtx st scope)).2.2).1 <;> rfl

/-! ### the temporary argument array -/

/-- Publication allocates exactly one fresh handle (none when there are no arguments); after the
    call the handle table is what the BODY left, minus that handle - on every path, because the
    removal does not look at the body's result.  So the table after the call equals the table
    before plus/minus only what the body itself allocated/released.  The line-context name is
    restored. -/
theorem C19_temp_array_released (H : HandleOps σ) (hl : H.Lawful) (amount : Nat)
    (body : Vars → σ → BodyResult × Vars × σ) (scope : Str) (args : List Str) (vars : Vars) (st : σ)
    (hargs : ¬ args.length < amount) :
    let p := publish H scope args vars (H.setCtx st scope)
    let b := body p.2.1 p.2.2
    let final := (aliasRun H amount body scope args vars st).2.2
    (p.1.isSome = !args.isEmpty) ∧
    (∀ k, H.live p.2.2 k = (H.live st k || p.1 == some k)) ∧
    (∀ h, p.1 = some h → H.live st h = false) ∧
    (∀ k, H.live final k = (H.live b.2.2 k && !(p.1 == some k))) ∧
    (∀ h, p.1 = some h → H.live final h = false) ∧
    H.getCtx final = H.getCtx st := by
  intro p b final
  have hfinal : final = (cleanup H scope (H.getCtx st) p.1 b.2.1 b.2.2).2 := by
    show (aliasRun H amount body scope args vars st).2.2 = _
    rw [aliasRun_run H amount body scope args vars st hargs]
  have hlive : ∀ k, H.live final k = (H.live b.2.2 k && !(p.1 == some k)) := by
    intro k
    rw [hfinal]
    simp only [cleanup]
    rw [hl.live_setCtx]
    cases hp : p.1 with
    | none => simp
    | some h =>
      simp only [hl.live_remove]
      rw [bne_eq_not_some_beq]
  by_cases he : args.isEmpty = true
  · have hp : p = (none, vars, H.setCtx st scope) := by
      show publish H scope args vars (H.setCtx st scope) = _
      simp [publish, he]
    refine ⟨by simp [hp, he], ?_, by simp [hp], hlive, by simp [hp], ?_⟩
    · intro k; simp [hp, hl.live_setCtx]
    · rw [hfinal]; simp [cleanup, hp, hl.ctx_setCtx]
  · have hp : p = (some (H.put (H.setCtx st scope) args).1,
        (publishArgs scope 0 args vars).set (argsKey scope) (H.put (H.setCtx st scope) args).1,
        (H.put (H.setCtx st scope) args).2) := by
      show publish H scope args vars (H.setCtx st scope) = _
      simp [publish, he]
    have hfresh : H.live st (H.put (H.setCtx st scope) args).1 = false := by
      rw [← hl.live_setCtx st scope]; exact hl.fresh_put _ _
    refine ⟨by simp [hp, he], ?_, ?_, hlive, ?_, ?_⟩
    · intro k
      rw [hp]
      simp only [hl.live_put, hl.live_setCtx]
      rw [beq_eq_some_beq]
    · intro h hh
      rw [hp] at hh
      simp only [Option.some.injEq] at hh
      rw [← hh]; exact hfresh
    · intro h hh
      rw [hlive h, hh]; simp
    · rw [hfinal]
      simp only [cleanup, hp, hl.ctx_setCtx]

/-- a body that leaves the handle table as it found it (on this run) ⇒ the whole call does -/
theorem C19_handles_neutral (H : HandleOps σ) (hl : H.Lawful) (amount : Nat)
    (body : Vars → σ → BodyResult × Vars × σ) (scope : Str) (args : List Str) (vars : Vars) (st : σ)
    (hneutral : ∀ k, H.live (body (publish H scope args vars (H.setCtx st scope)).2.1
                                  (publish H scope args vars (H.setCtx st scope)).2.2).2.2 k =
                     H.live (publish H scope args vars (H.setCtx st scope)).2.2 k) :
    ∀ k, H.live (aliasRun H amount body scope args vars st).2.2 k = H.live st k := by
  intro k
  by_cases h : args.length < amount
  · rw [aliasRun_few H amount body scope args vars st h]
  · obtain ⟨_, h2, h3, h4, _, _⟩ := C19_temp_array_released H hl amount body scope args vars st h
    rw [h4 k, hneutral k, h2 k]
    cases hp : (publish H scope args vars (H.setCtx st scope)).1 == some k with
    | false => simp
    | true =>
      have : (publish H scope args vars (H.setCtx st scope)).1 = some k := by simpa using hp
      simp [h3 k this]

/-! ### the run-time leak detector -/

/-- If the body keeps the caller's variables and leaves one extra variable that is NOT under the
    prefix (so `clear` does not remove it), the command answers `Crash`. -/
theorem C19_leak_detected (H : HandleOps σ) (amount : Nat)
    (body : Vars → σ → BodyResult × Vars × σ) (scope : Str) (args : List Str) (vars : Vars) (st : σ)
    (hargs : ¬ args.length < amount) (hnk : NK vars) (hcaller : CallerClean scope vars)
    (hkeep : ∀ k, Vars.get vars k ≠ none →
      Vars.get (body (publish H scope args vars (H.setCtx st scope)).2.1
                     (publish H scope args vars (H.setCtx st scope)).2.2).2.1 k ≠ none)
    (extra : Str) (hx1 : underPrefix scope extra = false) (hx2 : Vars.get vars extra = none)
    (hx3 : Vars.get (body (publish H scope args vars (H.setCtx st scope)).2.1
                          (publish H scope args vars (H.setCtx st scope)).2.2).2.1 extra ≠ none) :
    ∃ msg, (aliasRun H amount body scope args vars st).1 = .crash msg := by
  rw [aliasRun_run H amount body scope args vars st hargs]
  have hlt : vars.length <
      (cleanup H scope (H.getCtx st) (publish H scope args vars (H.setCtx st scope)).1
        (body (publish H scope args vars (H.setCtx st scope)).2.1
              (publish H scope args vars (H.setCtx st scope)).2.2).2.1
        (body (publish H scope args vars (H.setCtx st scope)).2.1
              (publish H scope args vars (H.setCtx st scope)).2.2).2.2).1.length := by
    show vars.length <
      (clear scope (body (publish H scope args vars (H.setCtx st scope)).2.1
                         (publish H scope args vars (H.setCtx st scope)).2.2).2.1).length
    apply length_lt_of_keys hnk extra
    · intro x hx
      have hpx : underPrefix scope x = false := by
        cases hu : underPrefix scope x with
        | false => rfl
        | true => exact absurd (hcaller x hu) hx
      rw [get_clear]; simp only [hpx, Bool.false_eq_true, if_false]; exact hkeep x hx
    · exact hx2
    · rw [get_clear]; simp only [hx1, Bool.false_eq_true, if_false]; exact hx3
  exact ⟨_, by simp only []; rw [if_pos hlt]⟩

/-- What the detector can NOT see - this is why `C19_wrapper_frame` needs the frame hypothesis
    on the body and cannot lean on the detector: "whenever the call changes the value a caller
    variable reads, the command crashes". -/
def C19_DetectorSeesModification : Prop :=
  ∀ (body : Vars → Store → BodyResult × Vars × Store) (scope : Str) (args : List Str) (vars : Vars)
    (st : Store), NK vars → CallerClean scope vars →
    (∃ k, Vars.get (aliasRun storeOps 0 body scope args vars st).2.1 k ≠ Vars.get vars k) →
    ∃ msg, (aliasRun storeOps 0 body scope args vars st).1 = .crash msg

def c19OverwritingBody : Vars → Store → BodyResult × Vars × Store :=
  fun vars st => (.finished none, vars.set "x".toList "changed".toList, st)

/-- refuted: a body that overwrites the caller's `x` keeps the count, and the call "succeeds" -/
example : ¬ C19_DetectorSeesModification := by
  intro h
  have hc := h c19OverwritingBody "scope::t".toList [] [("x".toList, "1".toList)] {}
    (by simp [NK, keys])
    (by intro k hk
        have hne : ¬ ("x".toList = k) := by intro e; rw [← e] at hk; revert hk; decide +kernel
        show (if "x".toList = k then some "1".toList else none) = none
        rw [if_neg hne])
    ⟨"x".toList, by decide +kernel⟩
  obtain ⟨msg, hm⟩ := hc
  have hr : (aliasRun storeOps 0 c19OverwritingBody "scope::t".toList [] [("x".toList, "1".toList)] {}).1
      = .continue none := by decide +kernel
  rw [hr] at hm
  cases hm

/-! ### bodies that are scripts -/

/-- a body that is a parsed script: if all its output variables are under the prefix and every
    command it can call writes only under the prefix, it satisfies the frame hypothesis
    (whatever the fuel and whenever the embedder halts the evaluation) -/
theorem C19_script_body_frame {scope : Str} {sem : CmdSem σ} {is : List Instruction}
    (hsem : SemFrame scope sem) (hout : OutputsUnder scope is) (halt : Nat → Bool) (fuel : Nat) :
    BodyFrame scope (scriptBody sem halt fuel is) := by
  intro vars st k hk
  unfold scriptBody
  cases h : evalInstructions sem halt is fuel 0 0 none vars st with
  | none => rfl
  | some res => exact evalInstructions_frame halt hsem hout fuel 0 0 none vars st res h k hk

/-! ### per-script facts over the regenerated table -/

/-- every `script.ds` parses (so `AliasCommand::new` succeeds and the SDK loads) -/
theorem C19_scripts_parse : ∀ s ∈ Generated.scripts, ∃ is, parseText s.script = .ok is := by
  intro s hs
  have h := scriptOK_of_mem hs
  unfold scriptOK at h
  cases hp : parseText s.script with
  | ok is => exact ⟨is, rfl⟩
  | error e => rw [hp] at h; cases h

/-- every output variable and every `for … in` loop variable written in a script starts with the
    command's own scope prefix `scopeName ++ "::"` - no exception is needed for any script -/
theorem C19_scripts_prefix_discipline :
    ∀ s ∈ Generated.scripts, ∀ is, parseText s.script = .ok is →
      ∀ v ∈ writtenVars is, underPrefix s.scopeName v = true := by
  intro s hs is hp v hv
  have h := scriptOK_of_mem hs
  unfold scriptOK at h
  rw [hp] at h
  simp only [Bool.and_eq_true] at h
  exact List.all_eq_true.mp h.1 v hv

/-- every command word a script uses is a callee without variable effects (the explicit list
    `Alias.noVariableEffect` in Lemmas/AliasCmdLemmas.lean - TRUSTED, exercised by the harness), another script command,
    or the documented exception (`unset` → `set_by_name` on the caller's names) -/
theorem C19_scripts_callees :
    ∀ s ∈ Generated.scripts, ∀ is, parseText s.script = .ok is →
      ∀ c ∈ callees is, c ∈ noVariableEffect ∨ isScriptCommand c = true ∨
        (s.scopeName = "scope::unset".toList ∧ c = "set_by_name".toList) := by
  intro s hs is hp c hc
  have h := scriptOK_of_mem hs
  unfold scriptOK at h
  rw [hp] at h
  simp only [Bool.and_eq_true] at h
  have hc' := List.all_eq_true.mp h.2 c hc
  simp only [calleeOK, documentedEffect, Bool.or_eq_true, Bool.and_eq_true, beq_iff_eq,
    List.contains_iff_mem] at hc'
  rcases hc' with (h1 | h2) | h3
  · exact Or.inl h1
  · exact Or.inr (Or.inl h2)
  · exact Or.inr (Or.inr h3)

/-- the table and the general theorem together: for every script command, if the commands it can
    reach write variables only under its prefix, an invocation from a caller without variables
    under that prefix leaves the caller's variables as they were -/
theorem C19_scripts_frame :
    ∀ s ∈ Generated.scripts, ∀ is, parseText s.script = .ok is →
      ∀ (H : HandleOps σ) (sem : CmdSem σ) (halt : Nat → Bool) (fuel : Nat) (args : List Str)
        (vars : Vars) (st : σ),
        SemFrame s.scopeName sem → CallerClean s.scopeName vars →
        ∀ k, Vars.get (aliasRun H s.argumentsAmount (scriptBody sem halt fuel is) s.scopeName args vars st).2.1 k
              = Vars.get vars k := by
  intro s hs is hp H sem halt fuel args vars st hsem hcaller
  apply C19_wrapper_frame H _ _ _ _ _ _ _ hcaller
  apply C19_script_body_frame hsem _ halt fuel
  intro i hi si hty o ho
  apply C19_scripts_prefix_discipline s hs is hp
  simp only [writtenVars, List.mem_flatMap]
  exact ⟨i, hi, by simp [writtenBy, hty, ho]⟩

/-! ### non-vacuity -/

/-- the table is not empty and contains `unset` with the scope the exception names -/
example : Generated.scripts.length = 21 := by decide +kernel
example : ∃ s ∈ Generated.scripts, s.scopeName = "scope::unset".toList ∧ s.argumentsAmount = 0 :=
  ⟨Generated.cmd_var_unset, by simp [Generated.scripts], by decide +kernel, rfl⟩

/-- `HandleOps.Lawful` is inhabited -/
example : storeOps.Lawful := storeOps_lawful

/-- a body inside the frame: it writes its own working variable only (and fails) -/
def c19OkBody : Vars → Store → BodyResult × Vars × Store :=
  fun vars st => (.error "boom".toList, vars.set "scope::t::tmp".toList "1".toList, st)

example : BodyFrame "scope::t".toList c19OkBody := by
  intro vars st k hk
  have hne : k ≠ "scope::t::tmp".toList := by intro e; rw [e] at hk; revert hk; decide +kernel
  show Vars.get (Vars.set vars "scope::t::tmp".toList "1".toList) k = Vars.get vars k
  rw [get_set, if_neg hne]

/-- the error path end to end: arguments published, body fails, everything is cleaned -/
example :
    aliasRun storeOps 1 c19OkBody "scope::t".toList ["a".toList, "b c".toList]
      [("x".toList, "1".toList)] {} =
    (.error "boom".toList, [("x".toList, "1".toList)], {}) := by decide +kernel

/-- too few arguments -/
example :
    aliasRun storeOps 3 c19OkBody "scope::t".toList ["a".toList] [("x".toList, "1".toList)] {} =
    (.error invalidArgsMsg, [("x".toList, "1".toList)], {}) := by decide +kernel

/-- a leaking body (non-prefix variable `oops`) is turned into a crash -/
def c19LeakyBody : Vars → Store → BodyResult × Vars × Store :=
  fun vars st => (.finished (some "v".toList), vars.set "oops".toList "1".toList, st)

example : ∃ msg, (aliasRun storeOps 0 c19LeakyBody "scope::t".toList [] [("x".toList, "1".toList)] {}).1
    = .crash msg := ⟨_, rfl⟩

end Duck
