/-
  C16 — text, comparison and range commands compute the documented function.
  One unit everywhere: BYTES of the UTF-8 encoding (`enc s = utf8Encode s`).
  The reference operations are Lean core `List` notions: `<+:` (prefix), `<:+` (suffix),
  `<:+:` (infix), `List.intercalate`, `take`/`drop`.

  `less_than`/`greater_than` on an exact model of `str::parse::<f64>` (correctly rounded IEEE-754
  binary64) and of the IEEE comparison: Props/C16F64.lean (`C16_f64_…`).
  `uppercase`/`lowercase` over all of Unicode: Props/C16Case.lean (`C16_case_…`);
  `calc` against ordinary arithmetic in ℚ: Props/C16Calc.lean (`C16_calc_…`).
-/
import DuckModel.Sdk.Strings
import DuckModel.Props.C16Case
import DuckModel.Props.C16Calc
import DuckModel.Props.C16F64
import DuckModel.Lemmas.StringsLemmas
import DuckModel.Lemmas.Utf8DecodeLemmas

namespace Duck
open Duck.Strings

/-! ### length / indexof / last_indexof -/

theorem C16_length (s : Str) (rest : List Str) :
    length (s :: rest) = .nat (utf8Encode s).length ∧ length [] = .err := ⟨rfl, rfl⟩

/-- `indexof` answers the FIRST byte offset at which the needle occurs -/
theorem C16_indexof_first (s t : Str) (rest : List Str) (k : Nat)
    (h : indexof (s :: t :: rest) = .nat k) :
    enc t <+: (enc s).drop k ∧ k ≤ (enc s).length ∧ ∀ j, j < k → ¬ enc t <+: (enc s).drop j :=
  find_some (optNat_eq_nat.mp h)

/-- no result exactly when the needle does not occur -/
theorem C16_indexof_none (s t : Str) (rest : List Str) :
    indexof (s :: t :: rest) = .none ↔ ¬ enc t <:+: enc s := by
  rw [← find_isSome_iff_infix, indexof, optNat_eq_none]
  cases find (enc t) (enc s) <;> simp

/-- `last_indexof` answers the LAST byte offset at which the needle occurs -/
theorem C16_last_indexof_last (s t : Str) (rest : List Str) (k : Nat)
    (h : lastIndexof (s :: t :: rest) = .nat k) :
    enc t <+: (enc s).drop k ∧ k ≤ (enc s).length ∧
      ∀ j, k < j → j ≤ (enc s).length → ¬ enc t <+: (enc s).drop j :=
  rfind_some (optNat_eq_nat.mp h)

theorem C16_last_indexof_none (s t : Str) (rest : List Str)
    (h : lastIndexof (s :: t :: rest) = .none) : ∀ j, ¬ enc t <+: (enc s).drop j :=
  rfind_none (optNat_eq_none.mp h)

/-! ### substring -/

/-- the three-argument form, completely: inside the domain (0 ≤ start ≤ end < len, both on
    character boundaries) the byte slice; everywhere else the error result.
    (The model answers `err` for `end = len` as the code does; the property leaves that case
    open and the harness does not constrain it.) -/
theorem C16_substring_spec (b : Bytes) (st en : Int) :
    substr3 b st en =
      if 0 ≤ st ∧ st ≤ en ∧ en < b.length ∧ isBoundary b st.toNat = true ∧
          isBoundary b en.toNat = true
      then .str ((b.drop st.toNat).take (en.toNat - st.toNat)) else .err := by
  unfold substr3
  simp only
  by_cases h1 : st > (b.length : Int) - 1
  · rw [if_pos h1, if_neg (by omega)]
  · rw [if_neg h1]
    by_cases h2 : en ≥ st
    · rw [if_pos h2]
      by_cases h3 : en > (b.length : Int) - 1
      · rw [if_pos h3, if_neg (by omega)]
      · rw [if_neg h3]
        by_cases h0 : 0 ≤ st
        · rw [finish_nonneg b h0 (by omega), slice_eq]
          have hle : st.toNat ≤ en.toNat := by omega
          by_cases hb : isBoundary b st.toNat = true ∧ isBoundary b en.toNat = true
          · rw [if_pos ⟨hle, hb⟩, if_pos ⟨h0, by omega, by omega, hb⟩]
          · rw [if_neg (fun h => hb h.2), if_neg (fun h => hb h.2.2.2)]
        · rw [if_neg (fun h => h0 h.1)]
          simp [finish, toUsize, h0]
    · rw [if_neg h2, if_neg (by omega)]

/-- how the written arguments reach `substr3`: both must be `i64` literals -/
theorem C16_substring_args (s a b : Str) (rest : List Str) :
    substring (s :: a :: b :: rest) =
      match parseI64 a, parseI64 b with
      | some st, some en => substr3 (enc s) st en
      | _, _ => .err := by
  simp only [substring]
  cases ha : parseI64 a with
  | none => rfl
  | some st =>
    simp only
    by_cases h1 : st > ((enc s).length : Int) - 1
    · rw [if_pos h1]
      cases hb : parseI64 b with
      | none => rfl
      | some en => simp [substr3, h1]
    · rw [if_neg h1]
      cases hb : parseI64 b <;> rfl

/-- non-numeric indexes give the error result -/
theorem C16_substring_non_numeric (s a : Str) (rest : List Str) (h : parseI64 a = none) :
    substring (s :: a :: rest) = .err := by
  cases rest with
  | nil => simp [substring, h]
  | cons b r => simp [substring, h]

theorem C16_substring_never_panics (args : List Str) : substring args ≠ .panic := by
  cases args with
  | nil => exact Out.noConfusion
  | cons s rest =>
    rcases substring_shape s rest with h | ⟨x, y, h⟩ <;> rw [h]
    · exact Out.noConfusion
    · exact finish_ne_panic _ _ _

/-- whatever arity and sign form: a returned text is the encoding of a run of scalars of the
    input (never a slice through a multi-byte character) -/
theorem C16_substring_valid_utf8 (s : Str) (rest : List Str) (r : Bytes)
    (h : substring (s :: rest) = .str r) : ∃ p m q, s = p ++ m ++ q ∧ r = enc m := by
  rcases substring_shape s rest with he | ⟨x, y, he⟩ <;> rw [he] at h
  · cases h
  · obtain ⟨a, e, hs⟩ := finish_str h
    obtain ⟨p, m, q, h1, h2, _, _⟩ := slice_valid hs
    exact ⟨p, m, q, h1, h2⟩

/-! ### one unit for length, indexof and substring -/

/-- `substring(s, 0, indexof(s, t))` followed by `t` is a prefix of `s`; the index is at most
    the length; and the index is always accepted by `substring` (it lies on a character
    boundary) as long as it is smaller than the length -/
theorem C16_units_consistent (s t : Str) (rest : List Str) (k : Nat)
    (h : indexof (s :: t :: rest) = .nat k) :
    (enc s).take k ++ enc t <+: enc s ∧
    length [s] = .nat (enc s).length ∧ k ≤ (enc s).length ∧
    (k < (enc s).length → substr3 (enc s) 0 k = .str ((enc s).take k)) := by
  have hf : find (enc t) (enc s) = some k := optNat_eq_nat.mp h
  obtain ⟨hpre, hle, _⟩ := find_some hf
  refine ⟨?_, rfl, hle, ?_⟩
  · refine ⟨(enc s).drop (k + (enc t).length), ?_⟩
    have := find_some_split hf
    rw [List.append_assoc]
    exact this.symm
  · intro hlt
    have hb : isBoundary (enc s) k = true := by
      by_cases ht : t = []
      · subst ht
        rw [show enc [] = [] from rfl, find_nil_pat] at hf
        cases hf
        exact isBoundary_zero _
      · exact match_boundary ht hpre
    rw [C16_substring_spec]
    have h0 : isBoundary (enc s) (0 : Int).toNat = true := isBoundary_zero _
    rw [if_pos ⟨by omega, by omega, by omega, h0, by simpa using hb⟩]
    simp

/-! ### split / replace -/

/-- the pieces joined by the separator give back the text (for EVERY separator, the empty
    one included) -/
theorem C16_split_join (s t : Str) : (enc t).intercalate (split s t) = enc s := by
  unfold split
  split
  · rename_i ht
    subst ht
    show ([] : Bytes).intercalate _ = utf8Encode s
    rw [intercalate_nil_sep]
    simp [utf8Encode, List.flatMap]
  · exact splitF_join _ _ _

/-- how the pieces are cut (non-empty separator): up to the FIRST occurrence of the separator,
    then the same again after it; no occurrence: the text itself -/
theorem C16_split_first_match (s t : Str) (ht : t ≠ []) :
    split s t =
      match find (enc t) (enc s) with
      | none => [enc s]
      | some k => (enc s).take k ::
          splitF (enc t) (((enc s).drop (k + (enc t).length)).length + 1)
            ((enc s).drop (k + (enc t).length)) := by
  have hne : enc t ≠ [] := fun h => ht (utf8Encode_eq_nil h)
  unfold split
  rw [if_neg ht, splitF_succ]
  cases hf : find (enc t) (enc s) with
  | none => rfl
  | some k =>
    simp only
    congr 1
    have hpl : 0 < (enc t).length := List.length_pos_iff.mpr hne
    have hle := find_some_le hf
    apply splitF_fuel _ hne <;> simp only [List.length_drop] <;> omega

/-- `replace` is: split at the pattern, join with the replacement (every pattern, the empty
    one included) -/
theorem C16_replace_spec (s p rep : Str) :
    replace s p rep = (enc rep).intercalate (split s p) := by
  unfold replace split
  split
  · have hne : s.map utf8EncodeChar ++ [[]] ≠ [] := by simp
    rw [intercalate_cons_of_ne_nil _ _ hne, intercalate_map_trailing]
    simp
  · exact replaceF_eq _ _ _ _

/-! ### predicates -/

theorem C16_contains (s t : Str) (rest : List Str) (b : Bool)
    (h : contains (s :: t :: rest) = .bool b) : b = true ↔ enc t <:+: enc s := by
  simp only [contains, Out.bool.injEq] at h
  rw [← h]
  exact find_isSome_iff_infix _ _

theorem C16_starts_with (s t : Str) (rest : List Str) (b : Bool)
    (h : startsWith (s :: t :: rest) = .bool b) : b = true ↔ enc t <+: enc s := by
  simp only [startsWith, Out.bool.injEq] at h
  rw [← h]
  exact List.isPrefixOf_iff_prefix

theorem C16_ends_with (s t : Str) (rest : List Str) (b : Bool)
    (h : endsWith (s :: t :: rest) = .bool b) : b = true ↔ enc t <:+ enc s := by
  simp only [endsWith, Out.bool.injEq] at h
  rw [← h]
  exact List.isSuffixOf_iff_suffix

theorem C16_equals (s t : Str) (rest : List Str) (b : Bool)
    (h : equals (s :: t :: rest) = .bool b) : b = true ↔ s = t := by
  simp only [equals, Out.bool.injEq] at h
  rw [← h]
  constructor
  · intro he
    exact utf8Encode_injective (by simpa using he)
  · intro he
    subst he
    simp

theorem C16_is_empty (s : Str) (rest : List Str) :
    isEmpty (s :: rest) = .bool (decide (s = [])) ∧ isEmpty [] = .bool true := by
  refine ⟨?_, rfl⟩
  simp only [isEmpty]
  congr 1
  cases s with
  | nil => rfl
  | cons c r =>
    obtain ⟨l, r', hc, _, _⟩ := utf8EncodeChar_shape c
    simp [enc, utf8Encode_cons, hc]

theorem C16_concat (args : List Str) :
    concat args = .str ((args.map enc).flatten) := by
  simp only [concat, enc]
  congr 1
  induction args with
  | nil => rfl
  | cons a r ih => simp [utf8Encode_append, ih]

/-! ### trim -/

/-- `trim_start` removes exactly the leading run of white space; `trim_end` the trailing one;
    `trim` both -/
theorem C16_trim_spec (s : Str) :
    (∃ lead, s = lead ++ trimStart s ∧ (∀ c ∈ lead, isWs c = true) ∧
        ∀ c r, trimStart s = c :: r → isWs c = false) ∧
    (∃ tail, s = trimEnd s ++ tail ∧ (∀ c ∈ tail, isWs c = true) ∧
        ∀ c r, (trimEnd s).reverse = c :: r → isWs c = false) ∧
    (∃ lead tail, s = lead ++ trim s ++ tail ∧ (∀ c ∈ lead, isWs c = true) ∧
        (∀ c ∈ tail, isWs c = true) ∧ (∀ c r, trim s = c :: r → isWs c = false) ∧
        ∀ c r, (trim s).reverse = c :: r → isWs c = false) := by
  have hstart : ∀ l : Str, ∃ lead, l = lead ++ trimStart l ∧ (∀ c ∈ lead, isWs c = true) ∧
      ∀ c r, trimStart l = c :: r → isWs c = false := by
    intro l
    exact ⟨l.takeWhile isWs, by simp [trimStart], List.all_eq_true.mp List.all_takeWhile,
      fun c r h => dropWhile_head_not _ _ c r h⟩
  have hend : ∀ l : Str, ∃ tail, l = trimEnd l ++ tail ∧ (∀ c ∈ tail, isWs c = true) ∧
      ∀ c r, (trimEnd l).reverse = c :: r → isWs c = false := by
    intro l
    refine ⟨(l.reverse.takeWhile isWs).reverse, ?_, ?_, ?_⟩
    · have := congrArg List.reverse (List.takeWhile_append_dropWhile (p := isWs) (l := l.reverse))
      simp only [List.reverse_append, List.reverse_reverse] at this
      simpa [trimEnd] using this.symm
    · intro c hc
      exact List.all_eq_true.mp List.all_takeWhile c (by simpa using hc)
    · intro c r h
      simp only [trimEnd, List.reverse_reverse] at h
      exact dropWhile_head_not _ _ c r h
  refine ⟨hstart s, hend s, ?_⟩
  obtain ⟨lead, h1, h2, h3⟩ := hstart s
  obtain ⟨tail, h4, h5, h6⟩ := hend (trimStart s)
  refine ⟨lead, tail, ?_, h2, h5, ?_, h6⟩
  · show s = lead ++ trimEnd (trimStart s) ++ tail
    rw [List.append_assoc, ← h4]
    exact h1
  · -- the first scalar of the result is the first scalar after the leading white space
    intro c r h
    have h' : trimEnd (trimStart s) = c :: r := h
    rw [h'] at h4
    exact h3 c (r ++ tail) (by rw [h4]; rfl)

/-! ### range -/

theorem C16_range_half_open (a b : Int) :
    (rangeList a b).length = (b - a).toNat ∧
    (∀ i : Nat, i < (b - a).toNat → (rangeList a b)[i]? = some (a + i)) ∧
    (∀ v, v ∈ rangeList a b ↔ a ≤ v ∧ v < b) := by
  refine ⟨by simp [rangeList], ?_, ?_⟩
  · intro i hi
    simp [rangeList, hi]
  · intro v
    simp only [rangeList, List.mem_map, List.mem_range]
    constructor
    · rintro ⟨i, hi, rfl⟩
      constructor <;> omega
    · rintro ⟨h1, h2⟩
      exact ⟨(v - a).toNat, by omega, by simp; omega⟩

/-- the command: both bounds must be `i64` literals, start ≤ end, else the error result -/
theorem C16_range_cmd (a b : Str) (rest : List Str) :
    range (a :: b :: rest) =
      match parseI64 a, parseI64 b with
      | some x, some y => if x > y then .err else .ints (rangeList x y)
      | _, _ => .err := rfl

/-! ### non-vacuity: ASCII, multi-byte ("aé漢" = 61 c3a9 e6bca2), empty, error branches -/

-- a string literal is `String.ofList` of its characters; rewriting with `String.toList_ofList`
-- exposes them to the evaluation
example : enc "aé漢".toList = [0x61, 0xC3, 0xA9, 0xE6, 0xBC, 0xA2] := by
  rw [String.toList_ofList]
  decide +kernel
example : length ["aé漢".toList] = .nat 6 := by decide +kernel
example : indexof ["aé漢".toList, "漢".toList] = .nat 3 := by
  rw [String.toList_ofList, String.toList_ofList]
  decide +kernel
example : indexof ["abc".toList, "abcd".toList] = .none := by decide +kernel
example : lastIndexof ["abab".toList, "ab".toList] = .nat 2 := by decide +kernel
example : lastIndexof ["ab".toList, []] = .nat 2 := by decide +kernel
example : substring ["aé漢".toList, "1".toList, "3".toList] = .str (enc "é".toList) := by
  rw [String.toList_ofList, String.toList_ofList, String.toList_ofList, String.toList_ofList]
  decide +kernel
example : substring ["aé漢".toList, "0".toList, "2".toList] = .err := by   -- inside é
  rw [String.toList_ofList, String.toList_ofList, String.toList_ofList]
  decide +kernel
example : substring ["abc".toList, "-1".toList, "2".toList] = .err := by decide +kernel   -- negative start
example : substring ["abc".toList, "-1".toList] = .str (enc "ab".toList) := by
  rw [String.toList_ofList, String.toList_ofList, String.toList_ofList]
  decide +kernel
example : substring ["abc".toList, "x".toList] = .err := by decide +kernel
example : substring ["abc".toList, "1".toList, "3".toList] = .err := by decide +kernel    -- end = len
example : split "a,b,,c".toList ",".toList = [[0x61], [0x62], [], [0x63]] := by
  rw [String.toList_ofList, String.toList_ofList]
  decide +kernel
example : split "aé".toList [] = [[], [0x61], [0xC3, 0xA9], []] := by decide +kernel
example : split [] ",".toList = [[]] := by decide +kernel
example : replace "aXbX".toList "X".toList "é".toList = enc "aébé".toList := by
  rw [String.toList_ofList, String.toList_ofList, String.toList_ofList, String.toList_ofList]
  decide +kernel
example : replace "ab".toList [] "-".toList = enc "-a-b-".toList := by
  rw [String.toList_ofList, String.toList_ofList, String.toList_ofList]
  decide +kernel
example : contains ["aé漢".toList, "é漢".toList] = .bool true := by
  rw [String.toList_ofList, String.toList_ofList]
  decide +kernel
example : startsWith ["a".toList, "ab".toList] = .bool false := by decide +kernel
example : endsWith ["aé".toList, "é".toList] = .bool true := by decide +kernel
example : range ["-2".toList, "3".toList] = .ints [-2, -1, 0, 1, 2] := by decide +kernel
example : range ["3".toList, "3".toList] = .ints [] := by decide +kernel
example : range ["4".toList, "3".toList] = .err := by decide +kernel
example : range ["1".toList, " 3".toList] = .err := by decide +kernel
example : parseInt "+5".toList = some 5 ∧ parseInt "+".toList = none ∧ parseInt [] = none ∧
    parseInt " 1".toList = none ∧ parseInt "-0".toList = some 0 ∧
    parseI64 "9223372036854775808".toList = none ∧
    parseI64 "-9223372036854775808".toList = some (-9223372036854775808) := by
  rw [String.toList_ofList, String.toList_ofList, String.toList_ofList,
    String.toList_ofList, String.toList_ofList, String.toList_ofList]
  decide +kernel
example : lessThan ["-2".toList, "1.5".toList] = .bool true := by decide +kernel
example : greaterThan ["0.10".toList, "0.1".toList] = .bool false := by decide +kernel
example : lessThan ["1e5".toList, "2".toList] = .bool false := by decide +kernel
example : lessThan ["abc".toList, "2".toList] = .err := by decide +kernel
example : trimWith trim [" a b ".toList] = .str (enc "a b".toList) := by
  rw [String.toList_ofList, String.toList_ofList]
  decide +kernel

end Duck
