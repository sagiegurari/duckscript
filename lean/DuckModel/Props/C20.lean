/-
  C20 — the command-line tool reports what the library decided.

  Model: `DuckModel/Cli.lean` (`dispatch` = `run_cli`, `exitStatus` = `main`, linter.rs) with the
  flag literals of `Generated/CliFlags.lean`, re-extracted from duckscript_cli/src/main.rs on
  every check run — every theorem below that mentions the flag lists is re-proved against the
  current literals.

  The library actions (`run_script`, `run_script_file`, `repl`) enter as an arbitrary function
  `lib : Action → Res`; that the real executable's status/stdout agree with the in-process
  library result is what the correspondence harness (harness/src/props/c20.rs) tests.

  "Lower-case" is `text.to_lowercase() == text` with Rust's full Unicode mapping, modelled by
  `isLowerText` (UnicodeLower.lean: no ASCII capital, no character of the table of characters
  that `char::to_lowercase` changes; the table is compared with the toolchain on every run).
-/
import DuckModel.Cli
import DuckModel.Lemmas.CliLemmas

namespace Duck
open Duck.Cli Duck.Generated

/-- a value that lower-casing leaves alone (an absent value counts as lower-case) -/
def Cli.LowerFixed (o : Option Str) : Prop := ∀ t, o = some t → isLowerText t = true

/-- the script instruction is all lower-case where the linter looks: label, command, output -/
def Cli.LowerInstr (s : ScriptInstr) : Prop :=
  LowerFixed s.label ∧ LowerFixed s.command ∧ LowerFixed s.output

/-- the flags named by the property are the ones the code tests, and no flag belongs to two
    groups (so the order of the tests in `run_cli` cannot matter) -/
theorem C20_flags :
    "--version".toList ∈ versionFlags ∧ "--help".toList ∈ helpFlags ∧
    "-e".toList ∈ evalFlags ∧ "--eval".toList ∈ evalFlags ∧
    "-l".toList ∈ lintFlags ∧ "--lint".toList ∈ lintFlags ∧
    (∀ a ∈ versionFlags, a ∉ helpFlags ∧ a ∉ evalFlags ∧ a ∉ lintFlags) ∧
    (∀ a ∈ helpFlags, a ∉ evalFlags ∧ a ∉ lintFlags) ∧
    (∀ a ∈ evalFlags, a ∉ lintFlags) := by
  decide

theorem versionFlags_disjoint :
    ∀ a ∈ versionFlags, a ∉ helpFlags ∧ a ∉ evalFlags ∧ a ∉ lintFlags := C20_flags.2.2.2.2.2.2.1
theorem helpFlags_disjoint : ∀ a ∈ helpFlags, a ∉ evalFlags ∧ a ∉ lintFlags :=
  C20_flags.2.2.2.2.2.2.2.1
theorem evalFlags_disjoint : ∀ a ∈ evalFlags, a ∉ lintFlags := C20_flags.2.2.2.2.2.2.2.2

/-- the decision logic of `run_cli`, one clause per form of the argument vector
    (`args[0]` = program name `p`, `a` = `args[1]`, `v` = `args[2]`) -/
theorem C20_dispatch (args : List Str) :
    (args.length < 2 → dispatch args = .repl) ∧
    (∀ p a rest, args = p :: a :: rest →
      (a ∈ versionFlags → dispatch args = .version) ∧
      (a ∉ versionFlags → a ∈ helpFlags → dispatch args = .help) ∧
      (a ∉ versionFlags → a ∉ helpFlags →
        (rest = [] → dispatch args = .runFile a) ∧
        (∀ v more, rest = v :: more →
          (a ∈ evalFlags → dispatch args = .evalText v) ∧
          (a ∉ evalFlags → a ∈ lintFlags → dispatch args = .lint v) ∧
          (a ∉ evalFlags → a ∉ lintFlags → dispatch args = .runFile a)))) := by
  refine ⟨fun h => ?_, ?_⟩
  · match args, h with
    | [], _ => rfl
    | [_], _ => rfl
    | _ :: _ :: _, h => simp at h; omega
  · rintro p a rest rfl
    refine ⟨fun hv => ?_, fun hv hh => ?_, fun hv hh => ⟨?_, ?_⟩⟩
    · simp [dispatch, hv]
    · simp [dispatch, hv, hh]
    · rintro rfl; simp [dispatch, hv, hh]
    · rintro v more rfl
      refine ⟨fun he => ?_, fun he hl => ?_, fun he hl => ?_⟩ <;> simp [dispatch, *]

/-- the same decision read backwards: which argument vectors select each action -/
theorem C20_dispatch_iff (args : List Str) :
    (dispatch args = .repl ↔ args.length < 2) ∧
    (dispatch args = .version ↔ ∃ p a rest, args = p :: a :: rest ∧ a ∈ versionFlags) ∧
    (dispatch args = .help ↔ ∃ p a rest, args = p :: a :: rest ∧ a ∈ helpFlags) ∧
    (∀ t, dispatch args = .evalText t ↔
      ∃ p a more, args = p :: a :: t :: more ∧ a ∈ evalFlags) ∧
    (∀ f, dispatch args = .lint f ↔
      ∃ p a more, args = p :: a :: f :: more ∧ a ∈ lintFlags) ∧
    (∀ f, dispatch args = .runFile f ↔
      ∃ p rest, args = p :: f :: rest ∧ f ∉ versionFlags ∧ f ∉ helpFlags ∧
        (rest = [] ∨ (f ∉ evalFlags ∧ f ∉ lintFlags))) := by
  -- In every branch `C20_dispatch` says which action `dispatch args` is.  The iff for that action
  -- holds with the branch's own `p`, `a`, `rest`; the other five are false on both sides: left by
  -- constructor mismatch, right because the flag groups are disjoint or `rest` has the wrong shape.
  match args with
  | [] => simp [dispatch]
  | [_] => simp [dispatch]
  | p :: a :: rest =>
    obtain ⟨Dv, Dh, Dr⟩ := (C20_dispatch (p :: a :: rest)).2 p a rest rfl
    by_cases hv : a ∈ versionFlags
    · have := versionFlags_disjoint a hv
      rw [Dv hv]; grind
    · by_cases hh : a ∈ helpFlags
      · have := helpFlags_disjoint a hh
        rw [Dh hv hh]; grind
      · obtain ⟨Dr0, Dr1⟩ := Dr hv hh
        cases rest with
        | nil => rw [Dr0 rfl]; grind
        | cons v more =>
          obtain ⟨De, Dl, Df⟩ := Dr1 v more rfl
          by_cases he : a ∈ evalFlags
          · have := evalFlags_disjoint a he
            rw [De he]; grind
          · by_cases hl : a ∈ lintFlags
            · rw [Dl he hl]; grind
            · rw [Df he hl]; grind

/-- `main`: the exit status is 0 exactly when the selected action succeeded (then `main` prints
    nothing of its own); a failure gives a non-zero status and the line `Error: <message>` -/
theorem C20_exit_status (lib : Action → Res) (args : List Str) :
    ((runCli lib args).1 = 0 ↔ lib (dispatch args) = .ok) ∧
    (lib (dispatch args) = .ok → (runCli lib args).2 = []) ∧
    (∀ msg, lib (dispatch args) = .err msg →
      (runCli lib args).1 ≠ 0 ∧
      (runCli lib args).2 = "Error: ".toList ++ msg ++ "\n".toList) := by
  unfold runCli
  cases h : lib (dispatch args) with
  | ok => simp [exitStatus]
  | err m => simp [exitStatus, errorPrefix]

/-- lower-casing fixes a text exactly when it has no ASCII capital letter and no character of
    the table of non-ASCII characters that `char::to_lowercase` changes (`Ä`, `É`, `Σ`, …) -/
theorem C20_lower_fixed_iff (t : Str) :
    isLowerText t = true ↔ ∀ c ∈ t, ¬ ('A'.toNat ≤ c.toNat ∧ c.toNat ≤ 'Z'.toNat) ∧
      ∀ r ∈ notLowerRanges, ¬ (r.1 ≤ c.toNat ∧ c.toNat ≤ r.2) := by
  unfold isLowerText lowerFixedChar
  simp only [List.all_eq_true, Bool.and_eq_true, beq_iff_eq, Bool.not_eq_true', List.any_eq_false,
    decide_eq_true_eq]
  constructor
  · intro h c hc
    obtain ⟨h1, h2⟩ := h c hc
    exact ⟨(asciiLowerChar_fixed_iff c).1 h1, fun r hr hh => h2 r hr (by simpa using hh)⟩
  · intro h c hc
    obtain ⟨h1, h2⟩ := h c hc
    exact ⟨(asciiLowerChar_fixed_iff c).2 h1, fun r hr hh => h2 r hr (by simpa using hh)⟩

theorem Cli.lowerFixed_iff (o : Option Str) : LowerFixed o ↔ isLowerCase o = true :=
  (isLowerCase_iff o).symm

/-- the loop body accepts an instruction exactly when it is lower-case where the linter looks -/
theorem Cli.lintOne_ok_iff (i : Instruction) :
    lintOne i = .ok () ↔ ∀ s, i.ty = .script s → LowerInstr s := by
  rcases i with ⟨mi, ty⟩
  cases ty with
  | script s => simp [lintOne, lintInstruction_ok_iff, LowerInstr, lowerFixed_iff]
  | empty => simp [lintOne]
  | preProcess c a => simp [lintOne]

/-- the lint accepts exactly when the file parses and the label, command and output (when
    present) of every script instruction are fixed points of lower-casing.  `parsed` is the
    result of `parser::parse_file` (instructions of included files are part of it). -/
theorem C20_lint_iff (parsed : Except ParseFail (List Instruction)) :
    lintParsed parsed = .ok ↔
      ∃ is, parsed = .ok is ∧ ∀ i ∈ is, ∀ s, i.ty = .script s → LowerInstr s := by
  simp only [lintParsed_ok_iff, lintInstructions_ok_iff, lintOne_ok_iff]

/-- the same for a script text without includes (`lintText`) and for a file on a file system
    (`lintFile`) -/
theorem C20_lint_text_iff (text : Str) (fs : Fs) (fuel : Nat) (file : Str) :
    (lintText text = .ok ↔
      ∃ is, parseText text = .ok is ∧ ∀ i ∈ is, ∀ s, i.ty = .script s → LowerInstr s) ∧
    (lintFile fs fuel file = .ok ↔
      ∃ is, parseFileF fs fuel file = .ok is ∧ ∀ i ∈ is, ∀ s, i.ty = .script s → LowerInstr s) :=
  ⟨C20_lint_iff _, C20_lint_iff _⟩

/-- a rejected lint names the FIRST offending instruction (its line and source) and the first
    offending part in the order label, command, output; a file that does not parse is reported
    as the parse error -/
theorem C20_lint_failure (parsed : Except ParseFail (List Instruction)) :
    (∀ e, lintParsed parsed = .parseError e ↔ parsed = .error e) ∧
    (∀ mi m, lintParsed parsed = .fail mi m ↔
      ∃ pre i post s, parsed = .ok (pre ++ i :: post) ∧ i.mi = mi ∧ i.ty = .script s ∧
        (∀ j ∈ pre, ∀ s', j.ty = .script s' → LowerInstr s') ∧
        ((m = .label ∧ ¬ LowerFixed s.label) ∨
         (m = .command ∧ LowerFixed s.label ∧ ¬ LowerFixed s.command) ∨
         (m = .output ∧ LowerFixed s.label ∧ LowerFixed s.command ∧ ¬ LowerFixed s.output))) := by
  have nlf : ∀ o, ¬ LowerFixed o ↔ isLowerCase o = false := fun o => by rw [lowerFixed_iff]; simp
  refine ⟨lintParsed_parseError_iff parsed, fun mi m => ?_⟩
  rw [lintParsed_fail_iff]
  constructor
  · rintro ⟨is, rfl, h⟩
    obtain ⟨pre, i, post, rfl, hp, hi, hm⟩ := (lintInstructions_error_iff is mi m).1 h
    rcases i with ⟨imi, ty⟩
    cases ty with
    | empty => simp [lintOne] at hi
    | preProcess c a => simp [lintOne] at hi
    | script s =>
      refine ⟨pre, ⟨imi, .script s⟩, post, s, rfl, hm, rfl,
        fun j hj => (lintOne_ok_iff j).1 (hp j hj), ?_⟩
      simp only [lintOne] at hi
      have := (lintInstruction_error_iff s m).1 hi
      simpa only [lowerFixed_iff, nlf, Bool.not_eq_true] using this
  · rintro ⟨pre, i, post, s, rfl, hm, hs, hp, hk⟩
    refine ⟨_, rfl, (lintInstructions_error_iff _ mi m).2
      ⟨pre, i, post, rfl, fun j hj => (lintOne_ok_iff j).2 (hp j hj), ?_, hm⟩⟩
    simp only [lintOne, hs]
    apply (lintInstruction_error_iff s m).2
    simpa only [lowerFixed_iff, nlf, Bool.not_eq_true] using hk

/-- a lint run through `main`: status 0 exactly when the lint accepted; a rejection prints
    `Error: Source: <file> Line: <n> - <which part> should be all lowercase.` -/
theorem C20_lint_exit (showParse : ParseFail → Str) (parsed : Except ParseFail (List Instruction)) :
    ((exitStatus (lintRes showParse (lintParsed parsed))).1 = 0 ↔ lintParsed parsed = .ok) ∧
    (∀ mi m, lintParsed parsed = .fail mi m →
      (exitStatus (lintRes showParse (lintParsed parsed))).2 =
        "Error: ".toList ++ displayRuntime mi (lintMessage m) ++ "\n".toList) := by
  cases h : lintParsed parsed with
  | ok => simp [lintRes, exitStatus]
  | fail mi m => simp [lintRes, exitStatus, errorPrefix]
  | parseError e => simp [lintRes, exitStatus]

/-- the case of arguments never matters: the linter's verdict (and the instruction it names)
    depends only on the instructions with their arguments erased -/
theorem C20_lint_ignores_arguments (is js : List Instruction)
    (h : is.map eraseArgs = js.map eraseArgs) :
    lintParsed (.ok is) = lintParsed (.ok js) ∧
    (∀ s : ScriptInstr, ∀ a, lintInstruction { s with args := a } = lintInstruction s) := by
  refine ⟨?_, fun s a => rfl⟩
  have : lintInstructions is = lintInstructions js := by
    rw [← lintInstructions_eraseArgs is, ← lintInstructions_eraseArgs js, h]
  simp only [lintParsed, this]

/-! ### non-vacuity -/

section Examples
private def prog : Str := "duck".toList

example : dispatch [prog] = .repl := by decide
example : dispatch [prog, "-e".toList, "echo hi".toList] = .evalText "echo hi".toList := by decide
example : dispatch [prog, "--eval".toList, "echo hi".toList, "x".toList] = .evalText "echo hi".toList := by decide
example : dispatch [prog, "-l".toList, "a.ds".toList] = .lint "a.ds".toList := by decide
example : dispatch [prog, "--lint".toList, "a.ds".toList] = .lint "a.ds".toList := by decide
example : dispatch [prog, "a.ds".toList] = .runFile "a.ds".toList := by decide
example : dispatch [prog, "a.ds".toList, "-e".toList] = .runFile "a.ds".toList := by decide
-- a flag without its value is taken as a file name
example : dispatch [prog, "-e".toList] = .runFile "-e".toList := by decide
example : dispatch [prog, "-l".toList] = .runFile "-l".toList := by decide
example : dispatch [prog, "--version".toList, "a.ds".toList] = .version := by decide
example : dispatch [prog, "-h".toList] = .help := by decide
example : runCli (fun _ => .err "boom".toList) [prog, "a.ds".toList] = (1, "Error: boom\n".toList) := by decide
example : runCli (fun _ => .ok) [prog, "a.ds".toList] = (0, []) := by decide

-- (`rw [String.toList_ofList]` as in Props/C03Sdk.lean)
-- accepted: upper-case only in arguments
example : lintText "echo Hello WORLD\n:lab out = set ${X}".toList = .ok := by
  repeat rw [String.toList_ofList]
  decide +kernel
-- rejected: label / command / output, with the line of the first offender
example : lintText "echo a\n:Lab echo b\nECHO c".toList = .fail { line := some 2 } .label := by
  repeat rw [String.toList_ofList]
  decide +kernel
example : lintText "echo a\nx = Set b".toList = .fail { line := some 2 } .command := by
  repeat rw [String.toList_ofList]
  decide +kernel
example : lintText "Out = set b".toList = .fail { line := some 1 } .output := by
  repeat rw [String.toList_ofList]
  decide +kernel
-- label is reported before command and output of the same line
example : lintText ":L O = C".toList = .fail { line := some 1 } .label := by
  repeat rw [String.toList_ofList]
  decide +kernel
-- non-ASCII capitals count (Rust lower-cases with the full Unicode mapping), non-ASCII lower-case letters pass
example : lintText "Äpfel = set 1".toList = .fail { line := some 1 } .output := by
  repeat rw [String.toList_ofList]
  decide +kernel
example : lintText ":Étiquette\necho hi".toList = .fail { line := some 1 } .label := by
  repeat rw [String.toList_ofList]
  decide +kernel
example : lintText ":é ß2 = set 日本".toList = .ok := by
  repeat rw [String.toList_ofList]
  decide +kernel
example : isLowerText "Σ".toList = false ∧ isLowerText "σς".toList = true ∧ isLowerText "ǅ".toList = false := by
  repeat rw [String.toList_ofList]
  decide +kernel
-- a text that does not parse
example : lintText "echo \"abc".toList = .parseError ⟨.missingEndQuotes, { line := some 1 }⟩ := by
  repeat rw [String.toList_ofList]
  decide +kernel
example : displayRuntime { line := some 2, source := some "a.ds".toList } (lintMessage .label) =
    "Source: a.ds Line: 2 - Labels should be all lowercase.".toList := by
  repeat rw [String.toList_ofList]
  decide +kernel
end Examples

end Duck
