/-
  C18 over HISTORIES — what a script relies on across several file commands.

  The per-command theorems of Props/C18.lean say what ONE command does at its own path.  The
  theorems here say what a command does NOT do (frame), that the asking commands change nothing,
  that every tree a history can reach is well-formed, and that a written file is read back after
  any number of later commands that stay away from it.  As everywhere in C18 the statements are
  facts about the reference file-tree model `DuckModel/Sdk/FsTree.lean` (model = spec); the tie to
  /repo is the correspondence check, which walks the real directory after every command.

  Definitions used in the statements (`apart`, `Op.args`, `Op.paths`, `Apart`, `Unrelated`,
  `Op.isQuery`, `nameOk`, `Node.WF`, `P.OK`, `Op.ArgsOK`, `treeAfter`) are at the top of
  Lemmas/FsTreeHistoryLemmas.lean.  Observations are made with `stat` / `lookup` as in
  Props/C18.lean.
-/
import DuckModel.Sdk.FsTree
import DuckModel.Lemmas.FsTreeLemmas
import DuckModel.Lemmas.FsTreeHistoryLemmas
import DuckModel.Lemmas.Utf8DecodeLemmas

namespace Duck
open Duck.FsTree

/-! ### `mkdir` and `touch` on their own -/

/-- a successful `mkdir p` (= `create_dir_all`): `p` and every ancestor of `p` is a directory
    afterwards, and the observation at every other path — inside an already existing `p`
    included — is what it was -/
theorem C18_mkdir_creates (t t' : Node) (p : P) (v : Val) (h : mkdir t p = (t', .ok v)) :
    (∀ q, q <+: p.comps → stat t' q = some .dir) ∧
    (∀ q, ¬ q <+: p.comps → stat t' q = stat t q) := by
  rcases mkdir_cases t p with e | ⟨t'', hm, e⟩ <;> rw [e] at h <;> cases h
  refine ⟨fun q hq => ?_, stat_mkdirs_frame hm⟩
  obtain ⟨es, he⟩ := lookup_mkdirs_prefix hm q hq
  exact stat_of_lookup he

/-- a successful `touch p` (= `ensure_exists`): an existing file is left as it is (same tree);
    a missing one is created EMPTY below (possibly new) directories; nothing else changes -/
theorem C18_touch_creates (t t' : Node) (p : P) (v : Val) (h : touch t p = (t', .ok v)) :
    (stat t p.comps ≠ none → t' = t) ∧
    (stat t p.comps = none → stat t' p.comps = some (.file []) ∧
      ∀ q, q <+: p.comps → q ≠ p.comps → stat t' q = some .dir) ∧
    (∀ q, ¬ q <+: p.comps → stat t' q = stat t q) := by
  rcases touch_cases t p with ⟨r, e, hr⟩ | ⟨b, hb, e⟩ | ⟨t'', hl, hp, e⟩ <;> rw [e] at h
  · exact absurd (Prod.mk.inj h).2 (hr v)
  · cases h
    refine ⟨fun _ => rfl, fun hs => ?_, fun _ _ => rfl⟩
    simp [stat, (resolve_file_iff.mp hb).1] at hs
  · cases h
    exact ⟨fun hs => by simp [stat, hl] at hs,
      fun _ => ⟨by simpa [Node.obs] using stat_putAt_self hp, stat_putAt_prefix hp⟩,
      stat_putAt_file_frame hp (by simp [hl])⟩

/-! ### frame -/

/-- FRAME, for all sixteen commands, in every tree (whether the command succeeds, fails or is
    skipped): a path `q` that is unrelated to the command — for every path argument `a` (and for
    `mv` the computed target `mvTarget`), `q` is not a prefix of `a` (not `a` itself, not an
    ancestor) and `a` is not a prefix of `q` (`q` is not inside `a`) — is observed the same
    before and after -/
theorem C18_frame (t : Node) (op : Op) (q : List Str) (h : Unrelated op t q = true) :
    stat (step t op).1 q = stat t q := by
  rw [Unrelated_eq_Apart] at h
  exact stat_step_apart t op q h

/-- `Unrelated` in plain terms: every path of the command is incomparable with `q` -/
theorem C18_unrelated_iff (t : Node) (op : Op) (q : List Str) :
    Unrelated op t q = true ↔ ∀ a ∈ op.paths t, ¬ q <+: a ∧ ¬ a <+: q := by
  simp [Unrelated, List.all_eq_true, apart_iff]

/-- the tree argument of `Unrelated` adds nothing: a path apart from the destination of `mv` is
    apart from the computed target (`dst` or `dst/<basename of src>`) in every tree.  This is what
    lets a condition on a whole history be stated without the intermediate trees -/
theorem C18_unrelated_tree_free (t : Node) (op : Op) (q : List Str) :
    Unrelated op t q = Apart op q :=
  Unrelated_eq_Apart op t q

/-! ### the asking commands change nothing -/

/-- readfile, readbinfile, is_path_exists, is_file, is_dir, get_file_size and the listing leave
    the tree EQUAL, whatever they answer -/
theorem C18_queries_pure (t : Node) (op : Op) (h : op.isQuery = true) : (step t op).1 = t :=
  step_query t op h

/-! ### well-formedness along a history -/

/-- what `WF` says, at every directory of the tree: the entry names are pairwise different and
    each is a normal file name (not empty, no `/`, not `.` or `..`).  `Entries.put` replaces an
    existing entry in place and `Entries.erase` removes all entries of a name, but the TYPE
    `Entries` is a plain association list and does not rule out repeated names — uniqueness is
    this invariant, not a structural fact -/
theorem C18_wf_meaning (t : Node) (ht : t.WF) (q : List Str) (es : Entries)
    (h : lookup t q = some (.dir es)) :
    (es.toList.map (·.1)).Nodup ∧ ∀ n ∈ es.toList.map (·.1), PlainName n :=
  Entries.WF_names ((Node.WF_dir es).mp (WF_lookup ht h))

/-- one command keeps a well-formed tree well-formed, when every component of its path arguments
    is a normal file name (success, failure and skip alike) -/
theorem C18_step_wf (t : Node) (op : Op) (ht : t.WF) (hop : op.ArgsOK) : (step t op).1.WF :=
  WF_step op ht hop

/-- `rm`, `rmdir` and the asking commands keep well-formedness for ANY path argument -/
theorem C18_step_wf_no_new_names (t : Node) (op : Op) (ht : t.WF)
    (h : op.isQuery = true ∨ (∃ r p, op = .rm r p) ∨ (∃ p, op = .rmdir p)) :
    (step t op).1.WF := by
  rcases h with h | ⟨r, p, rfl⟩ | ⟨p, rfl⟩
  · rw [C18_queries_pure t op h]; exact ht
  · rcases rm_shape t r p with h | h <;> simp only [step] <;> rw [h]
    · exact ht
    · exact WF_removeAt _ _ ht
  · rcases rmdir_shape t p with h | h <;> simp only [step] <;> rw [h]
    · exact ht
    · exact WF_removeAt _ _ ht

/-- every tree of every history from the empty directory (or from any well-formed tree) is
    well-formed -/
theorem C18_history_wf (ops : List Op) (hops : ∀ op ∈ ops, op.ArgsOK) :
    (∀ x ∈ run empty ops, x.2.WF) ∧
    (∀ t : Node, t.WF → ∀ x ∈ run t ops, x.2.WF) := by
  have key : ∀ t : Node, t.WF → ∀ x ∈ run t ops, x.2.WF := by
    intro t ht x hx
    obtain ⟨pre, op, post, he, rfl⟩ := mem_run hx
    refine WF_treeAfter _ ht ?_
    intro o ho
    refine hops o ?_
    rw [he]
    simp only [List.mem_append, List.mem_cons, List.mem_nil_iff, or_false] at ho ⊢
    rcases ho with ho | ho
    · exact .inl ho
    · exact .inr (.inl ho)
  exact ⟨key empty WF_empty, key⟩

/-- the hypothesis on the path arguments is met by every path the commands' path parser
    `parsePath` accepts (the only way a path enters the model from a request of the
    correspondence check): its components are normal file names -/
theorem C18_parsed_paths_ok (s : Str) (p : P) (h : parsePath s = some p) : p.OK :=
  parsePath_ok h

/-- … so every tree of every history over parsed paths is well-formed -/
theorem C18_history_wf_parsed (ops : List Op)
    (hops : ∀ op ∈ ops, ∀ a ∈ op.args, ∃ s p, parsePath s = some p ∧ p.comps = a) :
    ∀ x ∈ run empty ops, x.2.WF := by
  refine (C18_history_wf ops ?_).1
  intro op ho a ha
  obtain ⟨s, p, hp, rfl⟩ := hops op ho a ha
  exact parsePath_ok hp

/-! ### last writer wins -/

/-- the trace of a history and `treeAfter` agree: the last entry of `run t (ops ++ [op])` is the
    result of `op` in the tree after `ops`, with the tree after `ops ++ [op]` -/
theorem C18_run_last (t : Node) (ops : List Op) (op : Op) :
    (run t (ops ++ [op])).getLast? =
      some ((step (treeAfter t ops) op).2, treeAfter t (ops ++ [op])) := by
  rw [run_append]
  simp [run, treeAfter_append]

/-- a path that every command of a history either only asks about or is unrelated to is observed
    the same after the whole history -/
theorem C18_history_frame (t : Node) (ops : List Op) (q : List Str)
    (h : ∀ op ∈ ops, op.isQuery = true ∨ Apart op q = true) : stat (treeAfter t ops) q = stat t q :=
  stat_treeAfter_apart t ops q h

/-- LAST WRITER WINS: in a history `pre ++ writefile p s :: post` whose `writefile` succeeds and
    whose later commands all either only ask (reading `p` itself included) or are unrelated to
    `p` (in the sense of `C18_frame`), `readfile p` after the whole history returns `s` (and `readbinfile p` its UTF-8 bytes) -/
theorem C18_history_read_last_write (t : Node) (pre post : List Op) (p : P) (s : Str) (v : Val)
    (hw : (step (treeAfter t pre) (.writeText p s)).2 = .ok v)
    (hpost : ∀ op ∈ post, op.isQuery = true ∨ Apart op p.comps = true) :
    readText (treeAfter t (pre ++ .writeText p s :: post)) p = .ok (.text s) ∧
    readBytes (treeAfter t (pre ++ .writeText p s :: post)) p = .ok (.bytes (utf8Encode s)) := by
  have hr := resolve_after_last_write t pre post _ p _ v (fun _ => rfl) hw hpost
  exact ⟨by simp [readText, hr, utf8_roundtrip], by simp [readBytes, hr]⟩

/-- the same read off the trace: the last result of
    `run t (pre ++ writefile p s :: post ++ [readfile p])` is the text `s` -/
theorem C18_history_read_last_write_run (t : Node) (pre post : List Op) (p : P) (s : Str) (v : Val)
    (hw : (run t (pre ++ [.writeText p s])).getLast?.map (·.1) = some (.ok v))
    (hpost : ∀ op ∈ post, op.isQuery = true ∨ Apart op p.comps = true) :
    (run t ((pre ++ .writeText p s :: post) ++ [.readText p])).getLast?.map (·.1)
      = some (.ok (.text s)) := by
  rw [C18_run_last] at hw ⊢
  simp only [Option.map_some, Option.some.injEq] at hw
  simpa [step] using (C18_history_read_last_write t pre post p s v hw hpost).1

/-- the same by POSITION: the command at position `i` of `ops` is a successful `writefile p s`
    and no command at a later position is related to `p` -/
theorem C18_history_read_last_write_at (t : Node) (ops : List Op) (i : Nat) (p : P) (s : Str)
    (v : Val) (hi : ops[i]? = some (.writeText p s))
    (hw : (step (treeAfter t (ops.take i)) (.writeText p s)).2 = .ok v)
    (hlater : ∀ j op, i < j → ops[j]? = some op → op.isQuery = true ∨ Apart op p.comps = true) :
    readText (treeAfter t ops) p = .ok (.text s) := by
  obtain ⟨hlt, hget⟩ := List.getElem?_eq_some_iff.mp hi
  have hsplit : ops = ops.take i ++ .writeText p s :: ops.drop (i + 1) := by
    rw [← hget, ← List.drop_eq_getElem_cons hlt, List.take_append_drop]
  have hpost : ∀ op ∈ ops.drop (i + 1), op.isQuery = true ∨ Apart op p.comps = true := by
    intro op hop
    obtain ⟨k, hk⟩ := List.getElem?_of_mem hop
    rw [List.getElem?_drop] at hk
    exact hlater (i + 1 + k) op (by omega) hk
  have := (C18_history_read_last_write t (ops.take i) (ops.drop (i + 1)) p s v hw hpost).1
  rwa [← hsplit] at this

/-- the binary pair: `writebinfile p data`, later commands unrelated to `p`, then `readbinfile p`
    returns `data` — for arbitrary bytes -/
theorem C18_history_read_last_write_bytes (t : Node) (pre post : List Op) (p : P) (data : Bytes)
    (v : Val) (hw : (step (treeAfter t pre) (.writeBytes p data)).2 = .ok v)
    (hpost : ∀ op ∈ post, op.isQuery = true ∨ Apart op p.comps = true) :
    readBytes (treeAfter t (pre ++ .writeBytes p data :: post)) p = .ok (.bytes data) := by
  have hr := resolve_after_last_write t pre post _ p _ v (fun _ => rfl) hw hpost
  simp [readBytes, hr]

/-! ### the partiality of the `mv` theorem, as theorems -/

/-- a DIRECTORY source is outside the model: `mv` answers `skip` and leaves the tree alone
    (whatever the destination is) -/
theorem C18_mv_directory_source_skipped (t : Node) (src dst : P) (es : Entries)
    (h : resolve t src = some (.dir es)) : mv t src dst = (t, .skip) := by
  simp [mv, h]

/-- … and that is the ONLY way `mv` is skipped; a missing source is an error; so a successful
    `mv` (the hypothesis of `C18_mv_eq_cp_rm_partial`) had a file source: the theorem covers
    every `mv` the model gives an answer to -/
theorem C18_mv_outcome_by_source (t : Node) (src dst : P) :
    ((mv t src dst).2 = .skip ↔ ∃ es, resolve t src = some (.dir es)) ∧
    (resolve t src = none → mv t src dst = (t, .err)) ∧
    (∀ v, (mv t src dst).2 = .ok v → ∃ b, resolve t src = some (.file b)) := by
  refine ⟨⟨?_, ?_⟩, ?_, ?_⟩
  · intro h
    unfold mv at h
    split at h
    · cases h
    · next es hd => exact ⟨es, hd⟩
    · exfalso
      revert h
      repeat' split
      all_goals simp
  · rintro ⟨es, h⟩; simp [mv, h]
  · intro h; simp [mv, h]
  · intro v h
    rcases mv_cases t src dst with ⟨r, e, hr⟩ | ⟨b, hb, _⟩
    · rw [e] at h; exact absurd h (hr v)
    · exact ⟨b, hb⟩

/-- the same for `cp` -/
theorem C18_cp_directory_source_skipped (t : Node) (src dst : P) (es : Entries)
    (h : resolve t src = some (.dir es)) : cp t src dst = (t, .skip) := by
  simp [cp, h]

/-! ### non-vacuity: a concrete tree `a/b/f.txt`, `a/g.txt`, `d/` -/

namespace FsTree.HistoryExample

def t4 : Node :=
  .dir (.cons "a".toList (.dir (.cons "b".toList (.dir (.cons "f.txt".toList (.file [104, 105]) .nil))
      (.cons "g.txt".toList (.file [120]) .nil)))
    (.cons "d".toList (.dir .nil) .nil))

def f : P := { comps := ["a".toList, "b".toList, "f.txt".toList] }
def g : P := { comps := ["a".toList, "g.txt".toList] }
def d : P := { comps := ["d".toList] }
def ab : P := { comps := ["a".toList, "b".toList] }

example : stat t4 f.comps = some (.file [104, 105]) ∧ stat t4 g.comps = some (.file [120]) ∧
    stat t4 d.comps = some .dir := by decide +kernel

-- 0. mkdir of an existing directory, of new nested ones; touch of an existing and of a new file
example : (mkdir t4 ab).2 = .ok .unit ∧ stat (mkdir t4 ab).1 f.comps = stat t4 f.comps ∧
    (mkdir t4 { comps := ["a".toList, "n".toList, "m".toList] }).2 = .ok .unit ∧
    (touch t4 f).2 = .ok .unit ∧ stat (touch t4 f).1 f.comps = some (.file [104, 105]) ∧
    (touch t4 { comps := ["n".toList, "e".toList] }).2 = .ok .unit ∧
    stat (touch t4 { comps := ["n".toList, "e".toList] }).1 ["n".toList, "e".toList]
      = some (.file []) := by decide +kernel

-- 1. frame: `mv a/g.txt d` (into the existing directory d: target d/g.txt) is unrelated to
--    a/b/f.txt and to a/b, which are observed as before; it is RELATED to a, to d and to d/g.txt
example : Unrelated (.mv g d) t4 f.comps = true ∧ Unrelated (.mv g d) t4 ab.comps = true ∧
    (step t4 (.mv g d)).2 = .ok .unit ∧ mvTarget t4 g d = ["d".toList, "g.txt".toList] ∧
    Unrelated (.mv g d) t4 ["a".toList] = false ∧ Unrelated (.mv g d) t4 d.comps = false ∧
    Unrelated (.mv g d) t4 ["d".toList, "g.txt".toList] = false := by decide +kernel
-- the condition cannot simply be dropped: paths inside, equal to, or above the argument change
example : stat (step t4 (.rm true ab)).1 f.comps ≠ stat t4 f.comps ∧
    stat (step t4 (.mv g d)).1 ["d".toList, "g.txt".toList] ≠ stat t4 ["d".toList, "g.txt".toList] ∧
    stat (step t4 (.mkdir { comps := ["n".toList, "m".toList] })).1 ["n".toList]
      ≠ stat t4 ["n".toList] := by decide +kernel

-- 2. the asking commands
example : (Op.readText f).isQuery = true ∧ (Op.ls ab).isQuery = true ∧
    (step t4 (.readText f)).2 = .ok (.text "hi".toList) ∧
    (step t4 (.ls { comps := ["a".toList] })).2 = .ok (.names ["b".toList, "g.txt".toList]) := by
  decide +kernel

-- … while each of the other nine constructors changes this tree for suitable arguments
example : Node.beq (step t4 (.writeText f [])).1 t4 = false ∧
    Node.beq (step t4 (.appendText f "!".toList)).1 t4 = false ∧
    Node.beq (step t4 (.writeBytes f [255])).1 t4 = false ∧
    Node.beq (step t4 (.touch { comps := ["n".toList] })).1 t4 = false ∧
    Node.beq (step t4 (.mkdir { comps := ["n".toList] })).1 t4 = false ∧
    Node.beq (step t4 (.cp f { comps := ["n".toList] })).1 t4 = false ∧
    Node.beq (step t4 (.mv g d)).1 t4 = false ∧ Node.beq (step t4 (.rm false g)).1 t4 = false ∧
    Node.beq (step t4 (.rmdir d)).1 t4 = false := by decide +kernel

-- 3. well-formedness: t4 is, a tree with a repeated name / an empty name / a name with a
--    separator is not (the invariant is not vacuous on the type); the path arguments of a history
example : t4.WF := by decide +kernel
example : ¬ (Node.dir (.cons "a".toList (.file []) (.cons "a".toList (.dir .nil) .nil))).WF := by
  decide +kernel
example : ¬ (Node.dir (.cons [] (.file []) .nil)).WF ∧
    ¬ (Node.dir (.cons "x/y".toList (.file []) .nil)).WF ∧
    ¬ (Node.dir (.cons "..".toList (.file []) .nil)).WF := by decide +kernel
def hist : List Op :=
  [.mkdir ab, .writeText f "v1".toList, .writeText g "x".toList, .writeText f "hi".toList,
   .mkdir d, .readText f, .mv g d, .appendText { comps := ["d".toList, "g.txt".toList] } "y".toList,
   .rm true { comps := ["zz".toList] }, .fileSize f, .ls ab,
   .cp { comps := ["d".toList, "g.txt".toList] } g]
example : ∀ op ∈ hist, op.ArgsOK := by decide +kernel
example : (run empty hist).map (·.1) =
    [.ok .unit, .ok .unit, .ok .unit, .ok .unit, .ok .unit, .ok (.text "hi".toList), .ok .unit,
     .ok .unit, .ok .unit, .ok (.num 2), .ok (.names ["f.txt".toList]), .ok .unit] := by decide +kernel
example : parsePath "a//b/./f.txt".toList = some f ∧ f.OK ∧
    parsePath "a/../x".toList = none := by decide +kernel

-- 4. last writer wins: the second `writefile a/b/f.txt` is at position 3; the eight later
--    commands all succeed; five (mkdir d, mv a/g.txt d, appendfile d/g.txt, rm -r zz,
--    cp d/g.txt a/g.txt) are unrelated to a/b/f.txt, three only ask — about a/b/f.txt itself and
--    about its parent
example : hist = hist.take 3 ++ .writeText f "hi".toList :: hist.drop 4 ∧
    (step (treeAfter empty (hist.take 3)) (.writeText f "hi".toList)).2 = .ok .unit ∧
    (∀ op ∈ hist.drop 4, op.isQuery = true ∨ Apart op f.comps = true) ∧
    readText (treeAfter empty hist) f = .ok (.text "hi".toList) := by decide +kernel
example : hist[3]? = some (.writeText f "hi".toList) ∧
    (∀ j op, 3 < j → hist[j]? = some op → op.isQuery = true ∨ Apart op f.comps = true) := by
  refine ⟨by decide +kernel, ?_⟩
  intro j op hj hget
  have hmem : op ∈ hist.drop 4 := by
    obtain ⟨hlt, rfl⟩ := List.getElem?_eq_some_iff.mp hget
    exact List.mem_drop_iff_getElem.mpr ⟨j - 4, by omega, by congr 1; omega⟩
  have hall : ∀ o ∈ hist.drop 4, o.isQuery = true ∨ Apart o f.comps = true := by decide +kernel
  exact hall op hmem
-- … and the FIRST write (position 1) does not qualify: a later command writes to its path
example : ¬ (∀ op ∈ hist.drop 2, op.isQuery = true ∨ Apart op f.comps = true) := by decide +kernel

-- 5. directory source
example : (resolve t4 ab).map Node.obs = some .dir ∧
    (mv t4 ab d).2 = .skip ∧ Node.beq (mv t4 ab d).1 t4 = true ∧
    (cp t4 ab d).2 = .skip ∧ Node.beq (cp t4 ab d).1 t4 = true := by decide +kernel

end FsTree.HistoryExample

end Duck
