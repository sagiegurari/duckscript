/-
  C09 — wrapping a command in if / elseif / while / not / a user alias / eval does not change
  its arguments.

  The wrappers rebuild a script line from the already-bound values (`eval::parse`), parse it
  and bind it again (`Reser.roundTrip`, model in `Sdk/Reserialize.lean`).  The property as
  stated — for ALL values the command receives the same arguments — is FALSE on the pinned
  tree (`C09_counterexamples`; one witness per recorded finding class K1–K7:
  `C09_each_class_refutes`).  Proved here:
  a decidable class of values for which it holds in every variable environment
  (`C09_safe_partial`; `Safe` allows spaces, `#` with a space, an inner `"` without a space,
  backslashes, tabs, `=`, a `$` that is not `${` / backslash-`$`, any Unicode), that every
  value outside that class falls in one of the listed classes (`C09_classes_cover`,
  `C09_position_iff`), and that all wrappers go through the same path
  (`C09_wrappers_same_path`, `C09_flow_condition_path`).
  Props/C09Translated.lean (the tie of `serializeArg` / `serializeLine` / `evalParse` to the
  source) is imported so that this module builds the whole property.
-/
import DuckModel.Lemmas.ReserializeLemmas
import DuckModel.Props.C09Translated

namespace Duck
open Duck.Reser Duck.Spec

/-! ### the statement, and why it is only partly true -/

/-- the property as stated: for every command name that can be written in a script, every
    argument list and every variable environment, the wrapped command receives exactly the
    arguments of the direct call -/
def C09_statement : Prop :=
  ∀ (vars : Vars) (cmd : Str) (vals : List Str), cmdOK cmd = true →
    roundTrip vars (cmd :: vals) = some (some cmd, vals)

def C09_cap : Str := "cap".toList

/-- the environment of the witnesses: `x` is defined -/
def C09_env : Vars := [("x".toList, "XV".toList)]

/-- K1: CR / LF are deleted -/
theorem C09_K1_crlf :
    roundTrip C09_env [C09_cap, "a\nb".toList] = some (some C09_cap, ["ab".toList]) := by
  decide +kernel

/-- K2: a bare value is cut at `#` -/
theorem C09_K2_hash :
    roundTrip C09_env [C09_cap, "a#b".toList] = some (some C09_cap, ["a".toList]) := by
  decide +kernel

/-- K3a: a value starting with `"` — the rebuilt line does not parse (missing end quote) -/
theorem C09_K3_leading_quote : roundTrip C09_env [C09_cap, "\"ab".toList] = none := by
  decide +kernel

/-- K3b: a `"` inside a value with a space ends the quoted text early: two arguments arrive -/
theorem C09_K3_inner_quote :
    roundTrip C09_env [C09_cap, "a \"b".toList] =
      some (some C09_cap, ["a ".toList, "b\"".toList]) := by
  decide +kernel

/-- K3c: a value of the form `"…"` comes back wrapped in backslashes -/
theorem C09_K3_wrapped :
    roundTrip C09_env [C09_cap, "\"a\"".toList] = some (some C09_cap, ["\\\"a\"\\".toList]) := by
  decide +kernel

/-- K4: a `%` makes the second binding re-split the value at spaces -/
theorem C09_K4_percent :
    roundTrip C09_env [C09_cap, "p% q".toList] =
      some (some C09_cap, ["p%".toList, "q".toList]) := by
  decide +kernel

/-- K5a: `${x}` inside a value is expanded by the second binding -/
theorem C09_K5_dollar :
    roundTrip C09_env [C09_cap, "${x}".toList] = some (some C09_cap, ["XV".toList]) := by
  decide +kernel

/-- K5b: the backslash of `\$` is consumed by the second binding -/
theorem C09_K5_backslash_dollar :
    roundTrip C09_env [C09_cap, "\\$x".toList] = some (some C09_cap, ["$x".toList]) := by
  decide +kernel

/-- K6: a first argument starting with `=` turns the line into an assignment: the output
    variable is `cap`, the command called is `x`, `cap` is not called at all -/
theorem C09_K6_leading_equals :
    roundTripFull C09_env [C09_cap, "=x".toList, "y".toList] =
      some (some C09_cap, some "x".toList, ["y".toList]) := by
  decide +kernel

/-- K7: a bare last argument loses its trailing tab with the trim of the line -/
theorem C09_K7_trailing_ws :
    roundTrip C09_env [C09_cap, "x\t".toList] = some (some C09_cap, ["x".toList]) := by
  decide +kernel

/-- the full statement is false (by the K1 witness; each of the others refutes it as well:
    `C09_each_class_refutes`) -/
theorem C09_counterexamples : ¬ C09_statement := by
  intro h
  have hc : cmdOK C09_cap = true := by decide
  have h1 := h C09_env C09_cap ["a\nb".toList] hc
  rw [C09_K1_crlf] at h1
  revert h1
  decide

/-- every listed witness refutes the statement on its own -/
theorem C09_each_class_refutes :
    ∀ w ∈ [["a\nb".toList], ["a#b".toList], ["\"ab".toList], ["a \"b".toList], ["\"a\"".toList],
            ["p% q".toList], ["${x}".toList], ["\\$x".toList], ["=x".toList, "y".toList],
            ["x\t".toList]],
      roundTrip C09_env (C09_cap :: w) ≠ some (some C09_cap, w) := by
  intro w hw
  simp only [List.mem_cons, List.not_mem_nil, or_false] at hw
  rcases hw with rfl | rfl | rfl | rfl | rfl | rfl | rfl | rfl | rfl | rfl
  · rw [C09_K1_crlf]; decide
  · rw [C09_K2_hash]; decide
  · rw [C09_K3_leading_quote]; decide
  · rw [C09_K3_inner_quote]; decide
  · rw [C09_K3_wrapped]; decide
  · rw [C09_K4_percent]; decide
  · rw [C09_K5_dollar]; decide
  · rw [C09_K5_backslash_dollar]; decide
  · unfold roundTrip; rw [C09_K6_leading_equals]; decide
  · rw [C09_K7_trailing_ws]; decide

/-! ### where it holds -/

/-- the side condition on the command name is exactly "a token C01 accepts as the first
    word of a line" -/
theorem C09_cmdOK_iff (c : Str) : cmdOK c = true ↔ NameOK c ∧ NoEq c ∧ Spec.FirstOK c :=
  cmdOK_iff c

/-- the safe class, clause by clause -/
theorem C09_safe_iff (v : Str) :
    Safe v = true ↔
      (xStable .normal v = true ∧ ∀ x ∈ v, x ≠ '\r' ∧ x ≠ '\n') ∧
      ((' ' ∈ v ∧ ∀ x ∈ v, x ≠ '"') ∨
       (' ' ∉ v ∧ (∀ x ∈ v, x ≠ '#') ∧ v.head? ≠ some '"')) :=
  safe_iff v

/-- `xStable` fails only through a `%`, a `${` or a `\$` (so a value without these three is
    left alone by the second binding) -/
theorem C09_xStable_of_no_pattern (v : Str) (h1 : hasChar v '%' = false)
    (h2 : hasPair '$' '{' v = false) (h3 : hasPair '\\' '$' v = false) :
    xStable .normal v = true := by
  cases h : xStable .normal v with
  | true => rfl
  | false =>
    rcases not_xStable_normal v h with a | a | a
    · rw [h1] at a; cases a
    · rw [h2] at a; cases a
    · rw [h3] at a; cases a

/-- for safe values in admissible positions, in EVERY variable environment, the rebuilt line
    has no output variable, calls the same command and hands it the same arguments -/
theorem C09_safe_full (vars : Vars) (cmd : Str) (vals : List Str) (hc : cmdOK cmd = true)
    (hs : ∀ v ∈ vals, Safe v = true) (hp : positionOK vals = true) :
    roundTripFull vars (cmd :: vals) = some (none, some cmd, vals) := by
  unfold roundTripFull
  simp only
  rw [evalParse_of_parseLine cmd vals _ (parseLine_serialized cmd vals hc hs hp)
    (by intro c x he; cases he)]
  simp only [Option.map_some, arrive]
  rw [bind_plain vars vals (fun v hv => ((safe_iff v).mp (hs v hv)).1.1)]

theorem C09_safe_partial (vars : Vars) (cmd : Str) (vals : List Str) (hc : cmdOK cmd = true)
    (hs : ∀ v ∈ vals, Safe v = true) (hp : positionOK vals = true) :
    roundTrip vars (cmd :: vals) = some (some cmd, vals) := by
  unfold roundTrip
  rw [C09_safe_full vars cmd vals hc hs hp]
  rfl

/-- the recorded classes, as predicates on one value -/
def C09_K1 (v : Str) : Bool := hasChar v '\r' || hasChar v '\n'
def C09_K2 (v : Str) : Bool := hasChar v '#' && !hasChar v ' '
def C09_K3 (v : Str) : Bool := (hasChar v '"' && hasChar v ' ') || v.head? == some '"'
def C09_K4 (v : Str) : Bool := hasChar v '%'
def C09_K5 (v : Str) : Bool := hasPair '$' '{' v || hasPair '\\' '$' v

/-- a value is safe or falls in one of the classes K1–K5 (K6 / K7 are the two position
    conditions `firstOK` / `lastOK`): proved-safe and listed classes cover the value space -/
theorem C09_classes_cover (v : Str) :
    Safe v = true ∨ C09_K1 v = true ∨ C09_K2 v = true ∨ C09_K3 v = true ∨ C09_K4 v = true ∨
      C09_K5 v = true := by
  have hx : xStable .normal v = true ∨ C09_K4 v = true ∨ C09_K5 v = true := by
    cases h : xStable .normal v with
    | true => exact Or.inl rfl
    | false =>
      rcases not_xStable_normal v h with a | a | a
      · exact Or.inr (Or.inl a)
      · exact Or.inr (Or.inr (by simp [C09_K5, a]))
      · exact Or.inr (Or.inr (by simp [C09_K5, a]))
  rcases hx with hx | hx | hx
  · -- after `xStable`, each clause of `Safe` is the negation of one of K1–K3: a propositional
    -- identity in the six tests they are made of
    unfold Safe C09_K1 C09_K2 C09_K3
    rw [hx]
    simp only [bne]
    cases hasChar v '\r' <;> cases hasChar v '\n' <;>
      cases hasChar v ' ' <;> cases hasChar v '"' <;> cases hasChar v '#' <;>
      cases (v.head? == some '"') <;> simp_all
  · exact Or.inr (Or.inr (Or.inr (Or.inr (Or.inl hx))))
  · exact Or.inr (Or.inr (Or.inr (Or.inr (Or.inr hx))))

/-- the position conditions are exactly the complements of K6 and K7 -/
theorem C09_position_iff (vals : List Str) :
    positionOK vals = true ↔
      (∀ v, vals.head? = some v → v.head? = some '=' → ' ' ∈ v) ∧
      (∀ v c, vals.getLast? = some v → v.getLast? = some c → isWs c = true → ' ' ∈ v) := by
  unfold positionOK
  constructor
  · intro h
    simp only [Bool.and_eq_true] at h
    refine ⟨fun v hv he => ?_, fun v c hv hc hw => ?_⟩
    · have := h.1
      simp only [hv, firstOK, Bool.or_eq_true, hasChar_true] at this
      rcases this with a | b
      · exact a
      · simp [he] at b
    · have := h.2
      simp only [hv, lastOK, hc, Bool.or_eq_true, hasChar_true] at this
      rcases this with a | b
      · exact a
      · simp [hw] at b
  · rintro ⟨h1, h2⟩
    simp only [Bool.and_eq_true]
    constructor
    · cases hh : vals.head? with
      | none => rfl
      | some v =>
        simp only [firstOK, Bool.or_eq_true, hasChar_true]
        by_cases he : v.head? = some '='
        · exact Or.inl (h1 v hh he)
        · exact Or.inr (by simpa using he)
    · cases hh : vals.getLast? with
      | none => rfl
      | some v =>
        simp only [lastOK, Bool.or_eq_true, hasChar_true]
        cases hc : v.getLast? with
        | none => exact Or.inr rfl
        | some c =>
          by_cases hw : isWs c = true
          · exact Or.inl (h2 v c hh hc hw)
          · exact Or.inr (by simpa using hw)

/-! ### all wrappers take this path -/

/-- if / elseif / while / not (when the first value names a command), a user alias (stored
    arguments first) and eval all hand the command what `roundTripFull` computes -/
theorem C09_wrappers_same_path (isCmd : Str → Bool) (vars : Vars) (cmd : Str) (vals : List Str)
    (h : isCmd cmd = true) :
    (∀ w ∈ [Wrapper.ifC, .elseIf, .whileC, .notC, .eval],
      viaWrapper isCmd w vars (cmd :: vals) = some (roundTripFull vars (cmd :: vals))) ∧
    (∀ stored call, stored ++ call = vals →
      viaWrapper isCmd (.alias (cmd :: stored)) vars call =
        some (roundTripFull vars (cmd :: vals))) := by
  constructor
  · intro w hw
    simp only [List.mem_cons, List.not_mem_nil, or_false] at hw
    rcases hw with rfl | rfl | rfl | rfl | rfl <;> simp [viaWrapper, h]
  · intro stored call he
    subst he
    simp [viaWrapper]

/-- the flow-control model (`Sdk/Flow.lean`, tied to the real if/while/not by the C04
    correspondence) evaluates a command condition by running exactly the instruction
    `evalParse` yields, appended to the current instruction list -/
theorem C09_flow_condition_path (nested : EvalFn) (is : List Instruction) (first : Str)
    (rest : List Str) (vars : Vars) (s : Sdk) (instr : Instruction)
    (h1 : (resolveCmd s first).isSome = true) (h2 : evalParse (first :: rest) = some instr) :
    evalCondition nested is (first :: rest) vars s =
      match nested (is ++ [instr]) ((is ++ [instr]).length - 1) vars s with
      | (some (.continue v), _, vars', s') => (.ok (isTrue v), vars', s')
      | (some (.crash _), _, vars', s') => (.error (), vars', s')
      | (some (.error _), _, vars', s') => (.error (), vars', s')
      | (some _, _, vars', s') => (.error (), vars', s')
      | (none, out, vars', s') => (.ok (isTrue out), vars', s') := by
  unfold evalCondition
  simp only [h1, if_true, h2]
  rfl

theorem C09_flow_condition_parse_error (nested : EvalFn) (is : List Instruction) (first : Str)
    (rest : List Str) (vars : Vars) (s : Sdk)
    (h1 : (resolveCmd s first).isSome = true) (h2 : evalParse (first :: rest) = none) :
    evalCondition nested is (first :: rest) vars s = (.error (), vars, s) := by
  unfold evalCondition
  simp only [h1, if_true, h2]

/-- `instructions[0]` in `eval::parse` cannot panic -/
theorem C09_reparse_never_empty (a : Str) (as : List Str) :
    parseText (serializeLine (a :: as)) ≠ .ok [] :=
  parseText_serializeLine_ne_nil a as

/-! ### non-vacuity -/

/-- values with spaces, with `#` together with a space, with an inner `"` and no space,
    multi-byte, empty, with backslashes, with a tab inside -/
def C09_sampleVals : List Str :=
  ["a b".toList, "c #d".toList, "a\"b".toList, "é漢😀".toList, [], "a\\".toList, "\\n".toList,
   "t\tt".toList, " ".toList, "=x y".toList, "tab\t z".toList, "a$b".toList, "$$".toList,
   "cost $".toList, "\\\\$".toList, "$\\$".toList, "{x}$".toList]

example : cmdOK C09_cap = true := by decide +kernel
example : ∀ v ∈ C09_sampleVals, Safe v = true := by decide +kernel
example : positionOK C09_sampleVals = true := by decide +kernel

example (vars : Vars) : roundTrip vars (C09_cap :: C09_sampleVals) = some (some C09_cap, C09_sampleVals) :=
  C09_safe_partial vars _ _ (by decide +kernel) (by decide +kernel) (by decide +kernel)

/-- the witnesses are outside the safe class or the position conditions -/
example : Safe "a#b".toList = false ∧ Safe "${x}".toList = false ∧ Safe "a\nb".toList = false ∧
    Safe "\"ab".toList = false ∧ Safe "a \"b".toList = false ∧ Safe "p% q".toList = false ∧
    positionOK ["x\t".toList] = false ∧ positionOK ["=x".toList] = false := by decide +kernel

/-- `x\t` and `=x` are safe values: only their position makes them fail -/
example : Safe "x\t".toList = true ∧ Safe "=x".toList = true ∧
    positionOK ["x\t".toList, "z".toList] = true ∧ positionOK ["z".toList, "=x".toList] = true := by
  decide +kernel

end Duck
