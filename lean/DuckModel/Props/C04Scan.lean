/-
  C04, stage 1 — block boundary discovery is correct.
  For every well-formed (properly nested) block statement placed ANYWHERE in a program, the
  scanner `find_commands`, run with the keyword tables regenerated from the source, finds
  exactly the statement's own end line and (for `if`) exactly its own else-lines, skipping
  everything nested inside — for every nesting depth and every spelling of every keyword.
-/
import DuckModel.Lemmas.ScanLemmas

namespace Duck
open Duck.Spec Duck.Generated

/-- `if` chains: the scan started on the line after the `if` returns the else-lines and the end
    line of this very chain -/
theorem C04_scan_if (pre post : List Instruction) (kwIf : Str) (cond : List Str) (body : Block)
    (elifs : Elifs) (kwElse : Option Str) (elseBody : Block) (kwEnd : Str)
    (h : (Stmt.ifChain kwIf cond body elifs kwElse elseBody kwEnd).wf = true)
    (hn : (Stmt.ifChain kwIf cond body elifs kwElse elseBody kwEnd).noFn = true) :
    let st := Stmt.ifChain kwIf cond body elifs kwElse elseBody kwEnd
    let is := pre ++ instrsFrom pre.length st.flatten ++ post
    findCommands ifTables is (pre.length + 1) =
      .ok ⟨(elseOffsets body elifs kwElse).map (pre.length + ·), pre.length + st.flatten.length - 1⟩ := by
  intro st is
  simp only [Stmt.wf, Bool.and_eq_true] at h
  simp only [Stmt.noFn, Bool.and_eq_true] at hn
  obtain ⟨⟨⟨⟨hIf, hbw⟩, hew⟩, helse⟩, hEnd⟩ := h
  have hElse : ∀ k, kwElse = some k → isElseKw k = true := by
    intro k hk
    subst hk
    simp only [Bool.and_eq_true] at helse
    exact helse.1
  have helw : kwElse.isSome = true → elseBody.wf = true := by
    intro hs
    cases kwElse with
    | none => cases hs
    | some k =>
      simp only [Bool.and_eq_true] at helse
      exact helse.2
  have hfl := ifChain_flatten kwIf cond body elifs kwElse elseBody kwEnd
  show findCommands ifTables (pre ++ instrsFrom pre.length
      (Stmt.ifChain kwIf cond body elifs kwElse elseBody kwEnd).flatten ++ post) (pre.length + 1) =
    .ok ⟨(elseOffsets body elifs kwElse).map (pre.length + ·),
      pre.length + (Stmt.ifChain kwIf cond body elifs kwElse elseBody kwEnd).flatten.length - 1⟩
  rw [hfl]
  refine (scan_top (K := .kIf) pre post (mkInstr none kwIf cond) kwEnd _ _ hEnd
    (scan_ifInner body.flatten elifs.flatten kwElse elseBody.flatten (fun off => elifAbs off elifs)
      hElse (scanBlock .kIf _ body hbw hn.1.1) (scanElifs .kIf _ elifs hew hn.1.2)
      (fun hs => scanBlock .kIf _ elseBody (helw hs) hn.2))).trans ?_
  have hoff := elseOffsets_go_map pre.length elifs (1 + body.flatten.length) kwElse
  simp only [elseOffsets, hoff, ifMids, midK, if_true, List.length_cons, List.length_append,
    List.length_nil]
  congr 2
  · congr 1
    · congr 1; omega
    · cases kwElse <;> simp <;> omega
  · omega

/-- `while` loops: the scan started on the line after the opener returns the loop's own end line -/
theorem C04_scan_while (pre post : List Instruction) (kw : Str) (cond : List Str) (body : Block)
    (kwEnd : Str) (h : (Stmt.whileLoop kw cond body kwEnd).wf = true)
    (hn : (Stmt.whileLoop kw cond body kwEnd).noFn = true) :
    let st := Stmt.whileLoop kw cond body kwEnd
    let is := pre ++ instrsFrom pre.length st.flatten ++ post
    findCommands whileTables is (pre.length + 1) = .ok ⟨[], pre.length + st.flatten.length - 1⟩ := by
  intro st is
  simp only [Stmt.wf, Bool.and_eq_true] at h
  refine (scan_block (K := .kWhile) pre post (mkInstr none kw cond) body kwEnd h.2 h.1.2 hn).trans ?_
  simp only [st, Stmt.flatten, List.length_cons, List.length_append, List.length_nil]
  congr 2
  omega

/-- `for … in` loops: likewise -/
theorem C04_scan_for (pre post : List Instruction) (kw : Str) (v handle : Str) (body : Block)
    (kwEnd : Str) (h : (Stmt.forIn kw v handle body kwEnd).wf = true)
    (hn : (Stmt.forIn kw v handle body kwEnd).noFn = true) :
    let st := Stmt.forIn kw v handle body kwEnd
    let is := pre ++ instrsFrom pre.length st.flatten ++ post
    findCommands forTables is (pre.length + 1) = .ok ⟨[], pre.length + st.flatten.length - 1⟩ := by
  intro st is
  simp only [Stmt.wf, Bool.and_eq_true] at h
  refine (scan_block (K := .kFor) pre post (mkInstr none kw [v, "in".toList, handle]) body kwEnd h.2 h.1.2 hn).trans ?_
  simp only [st, Stmt.flatten, List.length_cons, List.length_append, List.length_nil]
  congr 2
  omega

/-- function definitions (bodies without nested definitions): the end of the definition -/
theorem C04_scan_fn (pre post : List Instruction) (kw : Str) (isSc : Bool) (name : Str) (body : Block)
    (kwEnd : Str) (h : (Stmt.fnDef kw isSc name body kwEnd).wf = true) (hn : body.noFn = true) :
    let st := Stmt.fnDef kw isSc name body kwEnd
    let is := pre ++ instrsFrom pre.length st.flatten ++ post
    findCommands fnTables is (pre.length + 1) = .ok ⟨[], pre.length + st.flatten.length - 1⟩ := by
  intro st is
  simp only [Stmt.wf, Bool.and_eq_true] at h
  refine (scan_block (K := .kFn) pre post
    (mkInstr none kw (if isSc then ["<scope>".toList, name] else [name])) body kwEnd h.2 h.1.2 hn).trans ?_
  simp only [st, Stmt.flatten, List.length_cons, List.length_append, List.length_nil]
  congr 2
  omega

/-- the regenerated tables are mutually consistent: each scanner counts the openers / closers of all
    OTHER block kinds (read off `tables_evaluated`, like the classification lemmas the proofs above use) -/
theorem C04_tables_consistent :
    (∀ k, isWhileKw k = true ∨ isForKw k = true ∨ isFnKw k = true → ifTables.startBlocks.contains k = true) ∧
    (∀ k, isIfKw k = true ∨ isForKw k = true ∨ isFnKw k = true → whileTables.startBlocks.contains k = true) ∧
    (∀ k, isIfKw k = true ∨ isWhileKw k = true ∨ isFnKw k = true → forTables.startBlocks.contains k = true) ∧
    (∀ k, isIfKw k = true ∨ isWhileKw k = true ∨ isForKw k = true → fnTables.startBlocks.contains k = true) ∧
    (∀ k, isElifKw k = true ∨ isElseKw k = true ↔ ifTables.middleNames.contains k = true) ∧
    (∀ k, isEndIfKw k = true ↔ ifTables.endNames.contains k = true) ∧
    (∀ k, isEndWhileKw k = true ↔ whileTables.endNames.contains k = true) ∧
    (∀ k, isEndForKw k = true ↔ forTables.endNames.contains k = true) ∧
    (∀ k, isEndFnKw k = true ↔ fnTables.endNames.contains k = true) :=
  ⟨fun _ h => h.elim (startBlocks_of_open (K := .kIf) (K' := .kWhile) (by decide)) fun h =>
      h.elim (startBlocks_of_open (K := .kIf) (K' := .kFor) (by decide))
        (startBlocks_of_open (K := .kIf) (K' := .kFn) (by decide)),
    fun _ h => h.elim (startBlocks_of_open (K := .kWhile) (K' := .kIf) (by decide)) fun h =>
      h.elim (startBlocks_of_open (K := .kWhile) (K' := .kFor) (by decide))
        (startBlocks_of_open (K := .kWhile) (K' := .kFn) (by decide)),
    fun _ h => h.elim (startBlocks_of_open (K := .kFor) (K' := .kIf) (by decide)) fun h =>
      h.elim (startBlocks_of_open (K := .kFor) (K' := .kWhile) (by decide))
        (startBlocks_of_open (K := .kFor) (K' := .kFn) (by decide)),
    fun _ h => h.elim (startBlocks_of_open (K := .kFn) (K' := .kIf) (by decide)) fun h =>
      h.elim (startBlocks_of_open (K := .kFn) (K' := .kWhile) (by decide))
        (startBlocks_of_open (K := .kFn) (K' := .kFor) (by decide)),
    fun k => Bool.or_eq_true _ _ ▸ middleNames_iff k,
    endNames_iff .kIf, endNames_iff .kWhile, endNames_iff .kFor, endNames_iff .kFn⟩

/-! ### non-vacuity: concrete nested programs satisfy the hypotheses, and the conclusions are
    what evaluation of the scanner gives -/

section NonVacuity

private instance : DecidableEq (Except FcErr Positions)
  | .ok a, .ok b => decidable_of_iff (a = b) ⟨congrArg _, Except.ok.inj⟩
  | .error a, .error b => decidable_of_iff (a = b) ⟨congrArg _, Except.error.inj⟩
  | .ok _, .error _ => isFalse nofun
  | .error _, .ok _ => isFalse nofun

private def ln (c : String) : Stmt := .line ⟨none, c.toList, ["x".toList]⟩

/-- `if … (while … (If … else … end) end_while) ElseIf … else (for … end) fi` -/
private def exIfParts : Block × Elifs × Block :=
  (.cons (ln "echo") (.cons
      (.whileLoop "while".toList ["c".toList]
        (.cons (.ifChain "std::flowcontrol::If".toList ["d".toList] (.cons (ln "echo") .nil) .nil
                  (some "else".toList) (.cons (.ret "return".toList none) .nil) "end".toList) .nil)
        "end_while".toList) .nil),
   .cons "std::flowcontrol::ElseIf".toList ["e".toList] (.cons (ln "set") .nil) .nil,
   .cons (.forIn "for".toList "i".toList "h".toList (.cons (ln "echo") .nil) "end".toList) .nil)

private def exIf : Stmt :=
  .ifChain "if".toList ["a".toList] exIfParts.1 exIfParts.2.1 (some "std::flowcontrol::Else".toList)
    exIfParts.2.2 "fi".toList

private def exPre : List Instruction := instrsFrom 0 [mkInstr none "echo".toList [], mkInstr none "end".toList []]
private def exPost : List Instruction := instrsFrom 20 [mkInstr none "else".toList [], mkInstr none "end".toList []]

/-- `while … (While … end) (if … end) endwhile` -/
private def exWhileBody : Block :=
  .cons (.whileLoop "std::flowcontrol::While".toList [] (.cons (ln "echo") .nil) "end".toList)
    (.cons (.ifChain "if".toList [] (.cons (ln "echo") .nil) .nil none .nil "end".toList) .nil)

/-- the closed facts of this section: the example trees are well-formed, and what the scanner returns
    on them -/
private theorem evaluated :
    exIf.wf = true ∧ exIf.noFn = true ∧ (Block.cons exIf exWhileBody).noFn = true ∧
    (Stmt.whileLoop "while".toList [] exWhileBody "endwhile".toList).wf = true ∧ exWhileBody.noFn = true ∧
    (Stmt.forIn "for".toList "i".toList "h".toList (.cons exIf exWhileBody) "end_for".toList).wf = true ∧
    (Stmt.fnDef "fn".toList true "f".toList (.cons exIf exWhileBody) "end".toList).wf = true ∧
    findCommands ifTables (exPre ++ instrsFrom exPre.length exIf.flatten ++ exPost) 3 = .ok ⟨[11, 13], 17⟩ ∧
    findCommands fnTables (exPre ++ instrsFrom exPre.length
      (Stmt.fnDef "fn".toList true "f".toList (.cons exIf exWhileBody) "end".toList).flatten ++ exPost) 3 =
    .ok ⟨[], 25⟩ := by
  decide +kernel

example : exIf.wf = true := evaluated.1
example : exIf.noFn = true := evaluated.2.1
example : exIf.flatten.length = 16 := by decide
example : elseOffsets exIfParts.1 exIfParts.2.1 (some "std::flowcontrol::Else".toList) = [9, 11] := by decide

/-- the theorem applied (between unrelated lines that contain stray `end` / `else` words) -/
example : findCommands ifTables (exPre ++ instrsFrom exPre.length exIf.flatten ++ exPost) (2 + 1) =
    .ok ⟨[11, 13], 17⟩ :=
  C04_scan_if exPre exPost "if".toList ["a".toList] exIfParts.1 exIfParts.2.1
    (some "std::flowcontrol::Else".toList) exIfParts.2.2 "fi".toList evaluated.1 evaluated.2.1

/-- … and the scanner evaluated directly -/
example : findCommands ifTables (exPre ++ instrsFrom exPre.length exIf.flatten ++ exPost) 3 =
    .ok ⟨[11, 13], 17⟩ := evaluated.2.2.2.2.2.2.2.1

example : findCommands whileTables (exPre ++ instrsFrom exPre.length
      (Stmt.whileLoop "while".toList [] exWhileBody "endwhile".toList).flatten ++ exPost) (2 + 1) =
    .ok ⟨[], 9⟩ :=
  C04_scan_while exPre exPost "while".toList [] exWhileBody "endwhile".toList evaluated.2.2.2.1
    evaluated.2.2.2.2.1

example : findCommands forTables (exPre ++ instrsFrom exPre.length
      (Stmt.forIn "for".toList "i".toList "h".toList (.cons exIf exWhileBody) "end_for".toList).flatten ++ exPost)
      (2 + 1) = .ok ⟨[], 25⟩ :=
  C04_scan_for exPre exPost "for".toList "i".toList "h".toList (.cons exIf exWhileBody) "end_for".toList
    evaluated.2.2.2.2.2.1 evaluated.2.2.1

example : findCommands fnTables (exPre ++ instrsFrom exPre.length
      (Stmt.fnDef "fn".toList true "f".toList (.cons exIf exWhileBody) "end".toList).flatten ++ exPost)
      (2 + 1) = .ok ⟨[], 25⟩ :=
  C04_scan_fn exPre exPost "fn".toList true "f".toList (.cons exIf exWhileBody) "end".toList
    evaluated.2.2.2.2.2.2.1 evaluated.2.2.1

example : findCommands fnTables (exPre ++ instrsFrom exPre.length
      (Stmt.fnDef "fn".toList true "f".toList (.cons exIf exWhileBody) "end".toList).flatten ++ exPost) 3 =
    .ok ⟨[], 25⟩ := evaluated.2.2.2.2.2.2.2.2

end NonVacuity

end Duck
