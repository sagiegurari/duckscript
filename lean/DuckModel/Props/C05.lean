/-
  C05 — functions: arguments, return values, early return and scoped isolation.
  Props/C05Core.lean : per-command theorems (call, return, end of function, scoped isolation) for
                       arbitrary states, and the kernel-evaluated refutation of the "fresh call"
                       clause (return from inside a for-in loop).
  Props/C05End.lean  : what reaching the end of a function does to the output variable (witness
                       family, machine and tree side).
  Props/C05Sim.lean  : whole-program simulation — the goto-machine run of a program with function
                       definitions equals the tree-walking interpreter (fragment `progOK`).
-/
import DuckModel.Props.C05Core
import DuckModel.Props.C05End
import DuckModel.Props.C05Sim
