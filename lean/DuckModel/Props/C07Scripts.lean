/-
  C07 (no hang) for script-implemented commands run from their regenerated source.  The
  instruction loop of `eval_instructions` over the body of the four loop-free collection scripts
  ends within 4 iterations (3 lines + the iteration that sees the end), whatever the arguments,
  variables and state: every fuel ≥ 4 gives the run that fuel 4 gives, and the result is an
  answer of the command (`Continue` / `Error`), never the model's out-of-fuel crash.  For the
  scripts with a `for … in` loop (concat, set_from_array, map_contains_value, array_concat,
  array_contains, array_join) the same with a bound linear in the number of cells.
  (`ScriptRun.runScriptCmd` uses fuel `scriptFuel` = 100000.)
-/
import DuckModel.Lemmas.ScriptCalls

namespace Duck
open Duck.Alias Duck.Coll Duck.ScriptRun Duck.Spec

theorem C07_script_array_is_empty_terminates (depth fuel : Nat) (hfuel : 4 ≤ fuel)
    (args : List Str) (vars : Vars) (st : ScriptSt) :
    runScriptCmdF depth fuel "array_is_empty".toList args vars st =
      runScriptCmdF depth 4 "array_is_empty".toList args vars st ∧
    IsAnswer (runScriptCmdF depth fuel "array_is_empty".toList args vars st).1 :=
  sizeScript_terminates arrayIsEmpty_sizeScript
    depth fuel hfuel args vars st

theorem C07_script_map_is_empty_terminates (depth fuel : Nat) (hfuel : 4 ≤ fuel)
    (args : List Str) (vars : Vars) (st : ScriptSt) :
    runScriptCmdF depth fuel "map_is_empty".toList args vars st =
      runScriptCmdF depth 4 "map_is_empty".toList args vars st ∧
    IsAnswer (runScriptCmdF depth fuel "map_is_empty".toList args vars st).1 :=
  sizeScript_terminates mapIsEmpty_sizeScript
    depth fuel hfuel args vars st

theorem C07_script_set_is_empty_terminates (depth fuel : Nat) (hfuel : 4 ≤ fuel)
    (args : List Str) (vars : Vars) (st : ScriptSt) :
    runScriptCmdF depth fuel "set_is_empty".toList args vars st =
      runScriptCmdF depth 4 "set_is_empty".toList args vars st ∧
    IsAnswer (runScriptCmdF depth fuel "set_is_empty".toList args vars st).1 :=
  sizeScript_terminates setIsEmpty_sizeScript
    depth fuel hfuel args vars st

theorem C07_script_map_contains_key_terminates (depth fuel : Nat) (hfuel : 4 ≤ fuel)
    (args : List Str) (vars : Vars) (st : ScriptSt) :
    runScriptCmdF depth fuel "map_contains_key".toList args vars st =
      runScriptCmdF depth 4 "map_contains_key".toList args vars st ∧
    IsAnswer (runScriptCmdF depth fuel "map_contains_key".toList args vars st).1 :=
  mck_terminates mapContainsKey_mckScript
    depth fuel hfuel args vars st

/-! ### scripts with a `for … in` loop: fuel bound LINEAR in the number of cells

Hypotheses about the flow-control state as in `C12_script_concat_correct` /
`C12_script_set_from_array_correct` (no stale for-in entry of the script on top of the stack,
cached block ends right). -/

/-- `concat`: `3·n + 6` instructions for `n` arguments -/
theorem C07_script_concat_terminates (depth fuel : Nat) (args : List Str) (vars : Vars) (st : ScriptSt)
    (hstale : NoStaleFor "scope::concat".toList st.forStack)
    (hcache : CacheOK st.forMeta "scope::concat::2".toList 4)
    (hempty : args = [] → ∀ l, tget st.coll.tbl ((vars.get "scope::concat::arguments".toList).getD []) ≠ some (.list l))
    (hfuel : 3 * args.length + 6 ≤ fuel) :
    runScriptCmdF (depth + 1) fuel "concat".toList args vars st =
      runScriptCmdF (depth + 1) (3 * args.length + 6) "concat".toList args vars st ∧
    IsAnswer (runScriptCmdF (depth + 1) fuel "concat".toList args vars st).1 := by
  rw [concat_run depth fuel args vars st hstale hcache hempty hfuel,
    concat_run depth _ args vars st hstale hcache hempty (Nat.le_refl _)]
  exact ⟨rfl, trivial⟩

/-- `set_from_array`: `3·n + 8` instructions for an array of `n` cells (8 when the argument names
    no array; no instruction at all without an argument) -/
theorem C07_script_set_from_array_terminates (depth fuel : Nat) (args : List Str) (vars : Vars) (st : ScriptSt)
    (hfree : tget st.coll.tbl (Coll.handleName st.coll.next) = none)
    (hfree1 : tget st.coll.tbl (Coll.handleName (st.coll.next + 1)) = none)
    (hne : args.head? ≠ some (Coll.handleName st.coll.next))
    (hok : ∀ a, args.head? = some a → ArgOK a = true)
    (hstale : NoStaleFor "scope::set_from_array".toList st.forStack)
    (hcI : IfCacheOK st.ifMeta "scope::set_from_array::1".toList 3)
    (hcF : CacheOK st.forMeta "scope::set_from_array::6".toList 8)
    (hfuel : 3 * (match args with | a :: _ => arrLen st.coll.tbl a | [] => 0) + 8 ≤ fuel) :
    runScriptCmdF (depth + 2) fuel "set_from_array".toList args vars st =
      runScriptCmdF (depth + 2) (3 * (match args with | a :: _ => arrLen st.coll.tbl a | [] => 0) + 8)
        "set_from_array".toList args vars st ∧
    IsAnswer (runScriptCmdF (depth + 2) fuel "set_from_array".toList args vars st).1 := by
  cases args with
  | nil =>
    rw [sfa_run_nil, sfa_run_nil]
    exact ⟨rfl, trivial⟩
  | cons a rest =>
    have hne' : a ≠ Coll.handleName st.coll.next := fun e => hne (by simp [e])
    obtain ⟨r, hr, h⟩ := sfa_run depth a rest vars st hfree hfree1 hne' (hok a rfl) hstale hcI hcF
    rw [hr fuel hfuel, hr _ (Nat.le_refl _)]
    refine ⟨rfl, ?_⟩
    rcases h with ⟨L, _, rfl⟩ | ⟨_, rfl⟩ <;> trivial

/-- `map_contains_value`: `6·n + 16` instructions for a map of `n` entries (a miss costs 6
    instructions per key, a hit ends the loop early through the released key array); the nested
    `map_is_empty` and the condition evaluators run inside single instructions with the same
    budget.  Every budget of at least the bound gives the run the bound gives. -/
theorem C07_script_map_contains_value_terminates (depth fuel : Nat) (a v : Str) (rest : List Str) (vars : Vars) (st : ScriptSt)
    (hfree : tget st.coll.tbl (Coll.handleName st.coll.next) = none)
    (hfree1 : tget st.coll.tbl (Coll.handleName (st.coll.next + 1)) = none)
    (hfree2 : tget st.coll.tbl (Coll.handleName (st.coll.next + 2)) = none)
    (hok : ArgOK a = true)
    (hstale : NoStaleFor "scope::map_contains_value".toList st.forStack)
    (hc4 : IfCacheOK st.ifMeta "scope::map_contains_value::4".toList 16)
    (hc12 : IfCacheOK st.ifMeta "scope::map_contains_value::12".toList 14)
    (hc8 : CacheOK st.forMeta "scope::map_contains_value::8".toList 15)
    (hkh : tget st.coll.tbl ((vars.get "scope::map_contains_value::key_array_handle".toList).getD []) = none)
    (hfuel : 6 * mapLen st.coll.tbl a + 16 ≤ fuel) :
    runScriptCmdF (depth + 2) fuel "map_contains_value".toList (a :: v :: rest) vars st =
      runScriptCmdF (depth + 2) (6 * mapLen st.coll.tbl a + 16) "map_contains_value".toList (a :: v :: rest) vars st ∧
    IsAnswer (runScriptCmdF (depth + 2) fuel "map_contains_value".toList (a :: v :: rest) vars st).1 := by
  obtain ⟨h1, hpost⟩ := mcv_run depth fuel a v rest vars st hfree hfree1 hfree2 hok hstale hc4 hc12 hc8 hkh hfuel
  refine ⟨h1, ?_⟩
  rw [hpost.res]
  unfold mcvRes
  cases tget st.coll.tbl a with
  | none => trivial
  | some w => cases w <;> trivial

/-- `array_concat` on live arrays: `6·n + 3·c + 9` instructions for `n` arguments with `c` cells
    in total - LINEAR in the total length although the loops are nested -/
theorem C07_script_array_concat_terminates (depth fuel : Nat) (a : Str) (rest : List Str) (vars : Vars) (st : ScriptSt)
    (hfree : tget st.coll.tbl (Coll.handleName st.coll.next) = none)
    (hfree1 : tget st.coll.tbl (Coll.handleName (st.coll.next + 1)) = none)
    (hlive : ∀ x ∈ a :: rest, ∃ l, tget st.coll.tbl x = some (.list l))
    (hok : ∀ x ∈ a :: rest, ArgOK x = true)
    (hstale : NoStaleFor "scope::array_concat".toList st.forStack)
    (hc1 : CacheOK st.forMeta "scope::array_concat::1".toList 5)
    (hc2 : IfCacheOK st.ifMeta "scope::array_concat::2".toList 4)
    (hc9 : CacheOK st.forMeta "scope::array_concat::9".toList 13)
    (hc10 : CacheOK st.forMeta "scope::array_concat::10".toList 12)
    (hfuel : 6 * (a :: rest).length + 3 * (acCells st.coll.tbl (a :: rest)).length + 9 ≤ fuel) :
    runScriptCmdF (depth + 2) fuel "array_concat".toList (a :: rest) vars st =
      runScriptCmdF (depth + 2) (6 * (a :: rest).length + 3 * (acCells st.coll.tbl (a :: rest)).length + 9)
        "array_concat".toList (a :: rest) vars st ∧
    IsAnswer (runScriptCmdF (depth + 2) fuel "array_concat".toList (a :: rest) vars st).1 := by
  obtain ⟨h1, hpost⟩ := ac_run depth fuel a rest vars st hfree hfree1 hlive hok hstale hc1 hc2 hc9 hc10 hfuel
  refine ⟨h1, ?_⟩
  rw [hpost.res]; trivial

/-- `array_contains`: `7·n + 12` instructions for an array of `n` cells (a miss costs 7
    instructions per cell; a hit ends the loop early through the unset handle variable) -/
theorem C07_script_array_contains_terminates (depth fuel : Nat) (a v : Str) (rest : List Str) (vars : Vars) (st : ScriptSt)
    (hfree : tget st.coll.tbl (Coll.handleName st.coll.next) = none)
    (hne : a ≠ Coll.handleName st.coll.next)
    (hstale : NoStaleFor "scope::array_contains".toList st.forStack)
    (hc5 : CacheOK st.forMeta "scope::array_contains::5".toList 14)
    (hc8 : IfCacheOK st.ifMeta "scope::array_contains::8".toList 11)
    (hE : ∀ l, tget st.coll.tbl [] ≠ some (.list l))
    (hlen : arrLen st.coll.tbl a < Calc.two53)
    (hfuel : 7 * arrLen st.coll.tbl a + 12 ≤ fuel) :
    runScriptCmdF (depth + 1) fuel "array_contains".toList (a :: v :: rest) vars st =
      runScriptCmdF (depth + 1) (7 * arrLen st.coll.tbl a + 12) "array_contains".toList (a :: v :: rest) vars st ∧
    IsAnswer (runScriptCmdF (depth + 1) fuel "array_contains".toList (a :: v :: rest) vars st).1 := by
  obtain ⟨h1, hpost⟩ := kc_run depth fuel a v rest vars st hfree hne hstale hc5 hc8 hE hlen hfuel
  refine ⟨h1, ?_⟩
  rw [hpost.res]; trivial

/-- `array_join` (handle and separator of the class `ArgOK`): `3·n + 16` instructions for an
    array of `n` cells; the nested `array_is_empty`, the condition evaluators, `strlen`, `calc`,
    `substring` run inside single instructions -/
theorem C07_script_array_join_terminates (depth fuel : Nat) (a sep : Str) (rest : List Str) (vars : Vars) (st : ScriptSt)
    (hfree : tget st.coll.tbl (Coll.handleName st.coll.next) = none)
    (hfree1 : tget st.coll.tbl (Coll.handleName (st.coll.next + 1)) = none)
    (hne : a ≠ Coll.handleName st.coll.next)
    (hok : ArgOK a = true) (hsepOK : ArgOK sep = true)
    (hstale : NoStaleFor "scope::array_join".toList st.forStack)
    (hc1 : IfCacheOK st.ifMeta "scope::array_join::1".toList 3)
    (hc5 : IfCacheOK st.ifMeta "scope::array_join::5".toList 16)
    (hc10 : IfCacheOK st.ifMeta "scope::array_join::10".toList 15)
    (hc6 : CacheOK st.forMeta "scope::array_join::6".toList 8)
    (hstr : vars.get "scope::array_join::string".toList = none)
    (hsize : ∀ l, tget st.coll.tbl a = some (.list l) →
      (utf8Encode (joinStr sep (l.map Item.render))).length + (utf8Encode sep).length < Calc.two53)
    (hfuel : 3 * arrLen st.coll.tbl a + 16 ≤ fuel) :
    runScriptCmdF (depth + 3) fuel "array_join".toList (a :: sep :: rest) vars st =
      runScriptCmdF (depth + 3) (3 * arrLen st.coll.tbl a + 16) "array_join".toList (a :: sep :: rest) vars st ∧
    IsAnswer (runScriptCmdF (depth + 3) fuel "array_join".toList (a :: sep :: rest) vars st).1 := by
  obtain ⟨h1, hpost⟩ := aj_run depth fuel a sep rest vars st hfree hfree1 hne hok hsepOK hstale hc1 hc5 hc10 hc6
    hstr hsize hfuel
  refine ⟨h1, ?_⟩
  rw [hpost.res]
  unfold ajRes
  cases tget st.coll.tbl a with
  | none => trivial
  | some w => cases w <;> trivial

/-- the budget `runScriptCmd` runs with covers arrays of up to 33330 cells -/
example : 3 * 33330 + 8 ≤ scriptFuel := by decide
/-- … and maps of up to 16664 entries -/
example : 6 * 16664 + 16 ≤ scriptFuel := by decide

/-- the budget `runScriptCmd` runs with is above the bound -/
example : 4 ≤ scriptFuel := by decide

end Duck
