/-
  C13 over programs that use the SDK's flow control: the flag raised FROM INSIDE a script
  (`emit __halt__`, see Sdk/FlowHalt.lean), possibly while the NESTED evaluator is running a
  command condition or a function called in condition position.

  The three properties of the trace (it only grows, `__halt__` stays last, the poll-free evaluator
  agrees while the flag is down) are carried level by level in Lemmas/FlowHaltLemmas.lean.
-/
import DuckModel.Sdk.FlowHalt
import DuckModel.Lemmas.FlowHaltLemmas

namespace Duck

/-- in the emit trace, `__halt__` is followed by nothing -/
def HaltLast (s : Sdk) : Prop :=
  ∀ (pre post : List (List Str)), s.emitted = pre ++ haltWord :: post → post = []

/-- `HaltLast` is `HaltLastL` (Lemmas/FlowHaltLemmas.lean) of the state's trace -/
theorem haltLast_iff (s : Sdk) : HaltLast s ↔ HaltLastL s.emitted := Iff.rfl

/-- The nested evaluator starts nothing once the flag is up: it hands back what it has. -/
theorem C13_nested_stops_when_seen (fuel : Nat) (is : List Instruction) (line : Nat) (vars : Vars)
    (s : Sdk) (h : haltSeen s = true) :
    evalInstrsH (fuel + 1) is line vars s = (none, none, vars, s) := by
  simp only [evalInstrsH, evalInstrsH.go, h, if_true]

/-- Once seen the flag stays seen: whatever a command does (including every nested
    evaluation it starts), the emit trace only grows. -/
theorem C13_flag_stays_seen (fuel n : Nat) (is : List Instruction) (c : Cmd) (args : List Str)
    (out : Option Str) (line : Nat) (vars : Vars) (s : Sdk) (h : haltSeen s = true) :
    haltSeen (runCmdF (evalInstrsH fuel) is n c args out line vars s).2.2 = true :=
  seenL_of_prefix (runCmdF_mono _ is (evalInstrsH_mono fuel) n c args out line vars s) h

/-- One command invocation — with all the nested evaluation it causes: conditions that are
    commands, functions called in condition position, to any depth — never emits anything
    after the `emit __halt__` that raised the flag. -/
theorem C13_flow_command_emits_nothing_after_halt (fuel n : Nat) (is : List Instruction) (c : Cmd)
    (args : List Str) (out : Option Str) (line : Nat) (vars : Vars) (s : Sdk)
    (h0 : haltSeen s = false) :
    HaltLast (runCmdF (evalInstrsH fuel) is n c args out line vars s).2.2 :=
  (haltLast_iff _).2 (runCmdF_haltLast _ is (evalInstrsH_haltLast fuel) n c args out line vars s h0)

/-- Whole runs: for every program, all initial variables, and every amount of fuel, nothing is
    emitted after the `emit __halt__` that raised the flag — whether it ran at top level, in a
    block, in a function body, or inside the nested evaluator. -/
theorem C13_flow_nothing_emitted_after_halt (fuel : Nat) (is : List Instruction) (vars : Vars)
    (s0 : Sdk) (h0 : haltSeen s0 = false) :
    HaltLast (interpRunH fuel is vars s0).1.st := by
  rw [haltLast_iff, interpRunH_eq]
  exact runLoop_haltLast (evalInstrsH fuel) is (evalInstrsH_haltLast fuel) (labelTable is) fuel
    ⟨0, 0, vars, s0⟩ (haltLastL_of_not_seen _ h0)

/-- A run whose final state has seen the flag did not end by running past the last line: the
    iteration that finds no instruction polls first, and would have returned `halted`. -/
theorem C13_flow_seen_run_is_halted (fuel : Nat) (is : List Instruction) (vars : Vars) (s0 : Sdk)
    (hseen : haltSeen (interpRunH fuel is vars s0).1.st = true)
    (hend : (interpRunH fuel is vars s0).2 = .reachedEnd) : False := by
  rw [interpRunH_eq] at hseen hend
  -- `haltH` ignores the poll number
  obtain ⟨_, hp⟩ := runLoop_reachedEnd _ is (labelTable is) haltH fuel ⟨0, 0, vars, s0⟩ hend
  exact Bool.false_ne_true (hp.symm.trans hseen)

/-- The halt-aware interpreter is the interpreter of C04 / C05 as long as nobody raises the
    flag: a run whose final state has not seen it is, step for step, the run of `interpRun`. -/
theorem C13_flow_agrees_when_not_raised (fuel : Nat) (is : List Instruction) (vars : Vars) (s0 : Sdk)
    (h : haltSeen (interpRunH fuel is vars s0).1.st = false) :
    interpRunH fuel is vars s0 = interpRun fuel is vars s0 := by
  rw [interpRunH_eq] at h ⊢
  rw [interpRun_eq]
  exact (runLoop_agree (evalInstrsH fuel) (evalInstrsF fuel) is (evalInstrsH_mono fuel)
    (evalInstrs_agree fuel) (labelTable is) fuel ⟨0, 0, vars, s0⟩ h).symm

/-! ### non-vacuity: concrete programs (parsed by the model parser, run by the model) -/

/-- the parsed program; a text that does not parse gives the empty program (every example below
    states a trace that the empty program does not produce) -/
def C13_progOf (t : String) : List Instruction :=
  match parseText t.toList with
  | .ok is => is
  | .error _ => []

/-- a function called in CONDITION position raises the flag and then tries to emit more -/
def C13_demo : List Instruction := C13_progOf
  "fn f\n  emit a\n  emit __halt__\n  emit b\n  return true\nend_fn\nif f\n  emit c\nend_if\nemit d\n"

/-- the facts about `C13_demo` that the examples below state one by one -/
private theorem C13_demo_runs :
    C13_demo.length = 10 ∧
    ((interpRunH 50 C13_demo [] {}).1.st.emitted = [["a".toList], haltWord] ∧
      (interpRunH 50 C13_demo [] {}).2 = .halted) ∧
    ((interpRun 50 C13_demo [] {}).1.st.emitted =
        [["a".toList], haltWord, ["b".toList], ["c".toList], ["d".toList]] ∧
      (interpRun 50 C13_demo [] {}).2 = .reachedEnd) := by decide +kernel

example : C13_demo.length = 10 := C13_demo_runs.1

/-- the halt-aware run: the nested evaluator stops right after `emit __halt__` (no `b`), the
    `if` starts nothing (no `c`), the top-level loop returns `halted` (no `d`) -/
example : (interpRunH 50 C13_demo [] {}).1.st.emitted = [["a".toList], haltWord] ∧
    (interpRunH 50 C13_demo [] {}).2 = .halted := C13_demo_runs.2.1

/-- … whereas the poll-free interpreter of C04 / C05 runs the same program to its end -/
example : (interpRun 50 C13_demo [] {}).1.st.emitted =
      [["a".toList], haltWord, ["b".toList], ["c".toList], ["d".toList]] ∧
    (interpRun 50 C13_demo [] {}).2 = .reachedEnd := C13_demo_runs.2.2

example : HaltLast (interpRunH 50 C13_demo [] {}).1.st :=
  C13_flow_nothing_emitted_after_halt 50 C13_demo [] {} rfl

/-- two levels down: `f` (condition of the top-level `if`) has an `if` whose condition `h`
    raises the flag -/
def C13_deep : List Instruction := C13_progOf
  ("fn h\n  emit __halt__\n  emit x\n  return true\nend_fn\n" ++
   "fn f\n  if h\n    emit y\n  end_if\n  emit z\n  return true\nend_fn\n" ++
   "if f\n  emit c\nend_if\nemit d\n")

private theorem C13_deep_runs :
    ((interpRunH 50 C13_deep [] {}).1.st.emitted = [haltWord] ∧
      (interpRunH 50 C13_deep [] {}).2 = .halted) ∧
    ((interpRun 50 C13_deep [] {}).1.st.emitted.length = 6 ∧
      (interpRun 50 C13_deep [] {}).2 = .reachedEnd) := by decide +kernel

example : (interpRunH 50 C13_deep [] {}).1.st.emitted = [haltWord] ∧
    (interpRunH 50 C13_deep [] {}).2 = .halted := C13_deep_runs.1

example : (interpRun 50 C13_deep [] {}).1.st.emitted.length = 6 ∧
    (interpRun 50 C13_deep [] {}).2 = .reachedEnd := C13_deep_runs.2

/-- a loop that never ends on its own is stopped at the next top-level boundary -/
def C13_loop : List Instruction := C13_progOf
  "while true\n  emit x\n  emit __halt__\n  emit y\nend_while\nemit z\n"

private theorem C13_loop_runs :
    ((interpRunH 30 C13_loop [] {}).1.st.emitted = [["x".toList], haltWord] ∧
      (interpRunH 30 C13_loop [] {}).2 = .halted) ∧
    (interpRun 30 C13_loop [] {}).2 = .outOfFuel := by decide +kernel

example : (interpRunH 30 C13_loop [] {}).1.st.emitted = [["x".toList], haltWord] ∧
    (interpRunH 30 C13_loop [] {}).2 = .halted := C13_loop_runs.1

example : (interpRun 30 C13_loop [] {}).2 = .outOfFuel := C13_loop_runs.2

/-- nobody raises the flag: the hypothesis of `C13_flow_agrees_when_not_raised` holds, the two
    interpreters coincide, and the run reaches the end -/
def C13_quiet : List Instruction := C13_progOf
  "fn f\n  emit a\n  return true\nend_fn\nif f\n  emit c\nend_if\nemit d\n"

private theorem C13_quiet_runs :
    haltSeen (interpRunH 50 C13_quiet [] {}).1.st = false ∧
    ((interpRun 50 C13_quiet [] {}).1.st.emitted = [["a".toList], ["c".toList], ["d".toList]] ∧
      (interpRun 50 C13_quiet [] {}).2 = .reachedEnd) := by decide +kernel

example : haltSeen (interpRunH 50 C13_quiet [] {}).1.st = false := C13_quiet_runs.1

example : interpRunH 50 C13_quiet [] {} = interpRun 50 C13_quiet [] {} :=
  C13_flow_agrees_when_not_raised 50 C13_quiet [] {} C13_quiet_runs.1

example : (interpRun 50 C13_quiet [] {}).1.st.emitted = [["a".toList], ["c".toList], ["d".toList]] ∧
    (interpRun 50 C13_quiet [] {}).2 = .reachedEnd := C13_quiet_runs.2

/-- the hypotheses of the first two theorems are satisfiable, and a command run on a raised
    flag may well emit (the flag is polled between instructions, not inside one) -/
example : haltSeen { emitted := [haltWord] } = true := by decide

example : (runCmdF (evalInstrsH 3) [] 3 .emit ["b".toList] none 0 [] { emitted := [haltWord] }).2.2.emitted =
    [haltWord, ["b".toList]] := by decide

/-- `HaltLast` is not trivially true -/
example : ¬ HaltLast { emitted := [haltWord, ["b".toList]] } := by
  intro h
  have := h [] [["b".toList]] rfl
  cases this

end Duck
