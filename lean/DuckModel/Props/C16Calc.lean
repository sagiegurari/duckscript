/-
  C16 — `calc` agrees with ordinary arithmetic on the generated expressions.

  Specification (Spec/CalcArith.lean): an expression over integer and decimal literals, `+ - *`,
  unary minus, `^` with a literal exponent denotes a rational number (Lean core `Rat`).
  Model (Sdk/Calc.lean): exact fractions `Frac` (numerator, denominator in lowest terms) and a
  typed evaluation that says which answers of evalexpr are observable (`Int` = checked `i64`,
  `Float`).  Proved here: the fraction operations are the field operations of ℚ on canonical
  representatives (`C16_calc_add … _pow`), the evaluator is the homomorphism from expressions to
  ℚ (`C16_calc_eval_denote`), lowest terms are canonical (`C16_calc_canonical`: equal values
  print alike), integer-only expressions evaluate to their `Int` value, and the typed model never
  answers a value other than the ordinary one: it answers the ordinary value, `approx`, or —
  exactly when a checked `i64` operation of an integer-only expression leaves the range — the
  error result.  evalexpr itself and IEEE-754 are not modelled: tied by the differential harness.
-/
import DuckModel.Sdk.Calc
import DuckModel.Lemmas.CalcLemmas

namespace Duck
open Duck.Calc Duck.Spec

/-! ### the fraction operations are ℚ's, on canonical representatives -/

/-- normalisation keeps the value and yields lowest terms with a positive denominator -/
theorem C16_calc_normalise (n : Int) (d : Nat) (hd : d ≠ 0) :
    (Frac.norm n d).val = mkRat n d ∧ (Frac.norm n d).WF := by
  rw [Frac.norm_eq_ofRat n d hd]; exact Frac.ofRat_spec _

theorem C16_calc_add (a b : Frac) (ha : a.den ≠ 0) (hb : b.den ≠ 0) :
    (a.add b).val = a.val + b.val ∧ (a.add b).WF := by
  rw [Frac.add_eq a b ha hb]; exact Frac.ofRat_spec _

theorem C16_calc_sub (a b : Frac) (ha : a.den ≠ 0) (hb : b.den ≠ 0) :
    (a.sub b).val = a.val - b.val ∧ (a.sub b).WF := by
  rw [Frac.sub_eq a b ha hb]; exact Frac.ofRat_spec _

theorem C16_calc_mul (a b : Frac) (ha : a.den ≠ 0) (hb : b.den ≠ 0) :
    (a.mul b).val = a.val * b.val ∧ (a.mul b).WF := by
  rw [Frac.mul_eq a b ha hb]; exact Frac.ofRat_spec _

theorem C16_calc_neg (a : Frac) (ha : a.WF) : a.neg.val = - a.val ∧ a.neg.WF := by
  rw [Frac.neg_eq a ha]; exact Frac.ofRat_spec _

theorem C16_calc_pow (a : Frac) (k : Nat) (ha : a.den ≠ 0) :
    (a.pow k).val = a.val ^ k ∧ (a.pow k).WF := by
  rw [Frac.pow_eq a k ha]; exact Frac.ofRat_spec _

/-- lowest terms are canonical: two well-formed fractions with the same value are the same pair
    (so they print alike) -/
theorem C16_calc_canonical (a b : Frac) (ha : a.WF) (hb : b.WF) (h : a.val = b.val) : a = b := by
  rw [ha.eq_ofRat, hb.eq_ofRat, h]

/-! ### the evaluator is the homomorphism into ℚ -/

/-- the fraction computed for an expression is (numerator, denominator) of its value in ℚ -/
theorem C16_calc_eval_denote (e : Expr) :
    evalQ e = Frac.ofRat e.denote ∧ (evalQ e).val = e.denote ∧ (evalQ e).WF := by
  refine ⟨evalQ_eq e, ?_, evalQ_WF e⟩
  rw [evalQ_eq]; exact Frac.ofRat_val _

/-- constructor by constructor -/
theorem C16_calc_eval_hom (a b : Expr) (n : Nat) :
    (evalQ (.add a b)).val = (evalQ a).val + (evalQ b).val ∧
    (evalQ (.sub a b)).val = (evalQ a).val - (evalQ b).val ∧
    (evalQ (.mul a b)).val = (evalQ a).val * (evalQ b).val ∧
    (evalQ (.neg a)).val = - (evalQ a).val ∧
    (evalQ (.pow a n)).val = (evalQ a).val ^ n := by
  simp only [(C16_calc_eval_denote _).2.1, Expr.denote, and_self]

/-- expressions with the same value in ℚ get the same printed fraction -/
theorem C16_calc_same_value_same_answer (e₁ e₂ : Expr) (h : e₁.denote = e₂.denote) :
    evalQ e₁ = evalQ e₂ := by
  rw [evalQ_eq, evalQ_eq, h]

/-- integer-only expressions (no decimal literal, no `^`): the `Int` evaluation over 1 -/
theorem C16_calc_int_only (e : Expr) (h : e.intOnly = true) : evalQ e = Frac.ofInt e.evalInt := by
  induction e with
  | int n => rfl
  | dec m k => cases h
  | add a b iha ihb =>
    simp only [Expr.intOnly, Bool.and_eq_true] at h
    rw [evalQ, iha h.1, ihb h.2, ← Frac.ofInt_add]; rfl
  | sub a b iha ihb =>
    simp only [Expr.intOnly, Bool.and_eq_true] at h
    rw [evalQ, iha h.1, ihb h.2, ← Frac.ofInt_sub]; rfl
  | mul a b iha ihb =>
    simp only [Expr.intOnly, Bool.and_eq_true] at h
    rw [evalQ, iha h.1, ihb h.2, ← Frac.ofInt_mul]; rfl
  | neg a iha => rw [evalQ, iha h]; rfl
  | pow a n => cases h

/-! ### the typed model (what evalexpr computes with) never leaves ordinary arithmetic -/

/-- whatever value the typed evaluation reaches is the ordinary one -/
theorem C16_calc_typed_value (e : Expr) (v : Val) (h : evalT e = some v) : v.frac = evalQ e := by
  induction e generalizing v with
  | int n =>
    simp only [evalT] at h
    split at h <;> (cases h; rfl)
  | dec m k => cases h; rfl
  | add a b iha ihb =>
    obtain ⟨x, y, hx, hy, hv⟩ := binop_frac Frac.ofInt_add h
    rw [hv, iha x hx, ihb y hy]; rfl
  | sub a b iha ihb =>
    obtain ⟨x, y, hx, hy, hv⟩ := binop_frac Frac.ofInt_sub h
    rw [hv, iha x hx, ihb y hy]; rfl
  | mul a b iha ihb =>
    obtain ⟨x, y, hx, hy, hv⟩ := binop_frac Frac.ofInt_mul h
    rw [hv, iha x hx, ihb y hy]; rfl
  | neg a iha =>
    simp only [evalT] at h
    split at h
    · next i hi =>
      split at h <;> cases h
      rw [evalQ, ← iha _ hi]; rfl
    · next w _ hw =>
      cases h
      rw [evalQ, ← iha _ hw]; rfl
    · cases h
  | pow a n iha =>
    simp only [evalT] at h
    split at h
    · next w hw =>
      cases h
      rw [evalQ, ← iha _ hw]; rfl
    · cases h

/-- an exact answer of the model is the ordinary value (numerator and denominator of the value
    in ℚ); the other answers are `approx` and the error result -/
theorem C16_calc_answer (e : Expr) :
    (∀ f, answer e = .q f → f = Frac.ofRat e.denote) ∧
    (answer e = .err ↔ evalT e = none) ∧ answer e ≠ .unmodelled := by
  unfold answer
  cases hv : evalT e with
  | none => simp
  | some v =>
    simp only
    split
    · refine ⟨fun f h => ?_, by simp, by simp⟩
      cases h
      rw [← evalQ_eq]
      exact C16_calc_typed_value e v hv
    · simp

/-- every integer value met while evaluating an integer-only expression lies in the `i64` range -/
def Expr.intsInRange : Expr → Bool
  | .int n => decide ((n : Int) ≤ i64Max)
  | .dec _ _ => true
  | .add a b => Expr.intsInRange a && Expr.intsInRange b && inI64 (a.evalInt + b.evalInt)
  | .sub a b => Expr.intsInRange a && Expr.intsInRange b && inI64 (a.evalInt - b.evalInt)
  | .mul a b => Expr.intsInRange a && Expr.intsInRange b && inI64 (a.evalInt * b.evalInt)
  | .neg a => Expr.intsInRange a && inI64 (- a.evalInt)
  | .pow a _ => Expr.intsInRange a

/-- integer-only expressions: the typed model answers the `Int` value when every literal and
    every intermediate value fits `i64`, and the error result otherwise — never a wrapped or
    saturated value.  (An integer literal beyond `i64` is a `Float` for evalexpr: such
    expressions are not integer-typed and are excluded by `intsInRange`.) -/
theorem C16_calc_int_typed (e : Expr) (h : e.intOnly = true) :
    (Expr.intsInRange e = true → evalT e = some (.int e.evalInt)) ∧
    (∀ a b : Expr, a.intOnly = true → b.intOnly = true →
      Expr.intsInRange a = true → Expr.intsInRange b = true →
      (inI64 (a.evalInt + b.evalInt) = false → evalT (.add a b) = none) ∧
      (inI64 (a.evalInt - b.evalInt) = false → evalT (.sub a b) = none) ∧
      (inI64 (a.evalInt * b.evalInt) = false → evalT (.mul a b) = none) ∧
      (inI64 (- a.evalInt) = false → evalT (.neg a) = none)) := by
  have main : ∀ e : Expr, e.intOnly = true → Expr.intsInRange e = true →
      evalT e = some (.int e.evalInt) := by
    intro e
    induction e with
    | int n =>
      intro _ hr
      simp only [Expr.intsInRange, decide_eq_true_eq] at hr
      simp [evalT, hr, Expr.evalInt]
    | dec m k => intro h; cases h
    | add a b iha ihb =>
      intro h hr
      simp only [Expr.intOnly, Expr.intsInRange, Bool.and_eq_true] at h hr
      rw [evalT, iha h.1 hr.1.1, ihb h.2 hr.1.2, binop_int, if_pos hr.2]; rfl
    | sub a b iha ihb =>
      intro h hr
      simp only [Expr.intOnly, Expr.intsInRange, Bool.and_eq_true] at h hr
      rw [evalT, iha h.1 hr.1.1, ihb h.2 hr.1.2, binop_int, if_pos hr.2]; rfl
    | mul a b iha ihb =>
      intro h hr
      simp only [Expr.intOnly, Expr.intsInRange, Bool.and_eq_true] at h hr
      rw [evalT, iha h.1 hr.1.1, ihb h.2 hr.1.2, binop_int, if_pos hr.2]; rfl
    | neg a iha =>
      intro h hr
      simp only [Expr.intOnly, Expr.intsInRange, Bool.and_eq_true] at h hr
      simp [evalT, iha h hr.1, hr.2, Expr.evalInt]
    | pow a n => intro h; cases h
  refine ⟨main e h, ?_⟩
  intro a b ha hb ra rb
  refine ⟨?_, ?_, ?_, ?_⟩ <;> intro ho <;> simp [evalT, main a ha ra, main b hb rb, binop, ho]

/-! ### non-vacuity -/

/- A string literal is `String.ofList` of its characters; rewriting with `String.toList_ofList`
   exposes them. -/
example : calcCmd ["2 ^ 10".toList] = .q ⟨1024, 1⟩ := by
  rw [String.toList_ofList]; decide +kernel
example : calcCmd ["-".toList, "2".toList, "^".toList, "2".toList, "*".toList, "3".toList,
    "+".toList, "0.5".toList] = .q ⟨-23, 2⟩ := by decide +kernel
example : calcCmd ["(1.5+0.25)*-4".toList] = .q ⟨-7, 1⟩ := by
  rw [String.toList_ofList]; decide +kernel
example : calcCmd ["2 ^ 70".toList] = .approx := by
  rw [String.toList_ofList]; decide +kernel
example : calcCmd ["0.1 + 0.2".toList] = .approx := by
  rw [String.toList_ofList]; decide +kernel
example : calcCmd ["9223372036854775807 + 1".toList] = .err := by
  rw [String.toList_ofList]; decide +kernel
example : calcCmd ["9223372036854775807 + 1.0".toList] = .approx := by
  rw [String.toList_ofList]; decide +kernel
example : calcCmd [] = .err := by decide +kernel
example : calcCmd ["2 ^ 3 ^ 2".toList] = .unmodelled := by
  rw [String.toList_ofList]; decide +kernel
example : evalQ (.add (.dec 5 1) (.dec 25 2)) = ⟨3, 4⟩ := by decide +kernel

end Duck
