/-
  C04 — if / elseif / else / while / for-in behave as properly nested structured blocks.
  Props/C04Scan.lean : block boundary discovery (for the keyword tables regenerated
                       from the source).
  Props/C04Sim.lean  : execution — the goto-machine follows the tree-walking interpreter
                       (proved for the `simple` and `simple2` fragments; the full statement is kept
                       visible).
  Props/C04Names.lean : the model resolves every flow-control and straight-line command by exactly
                       the spellings the source registers (regenerated tables).
-/
import DuckModel.Props.C04Scan
import DuckModel.Props.C04Sim
import DuckModel.Props.C04Names
