/-
  C12 - `array_contains` and `array_join` RUN FROM THEIR REGENERATED SOURCE
  (`Generated.scripts`; natives `calc`, `strlen`, `substring`, `is_empty`, `equals`, `set`,
  `is_array`, for-in / if / not of Sdk/ScriptRun.lean).  The driver op `srun` compares these runs
  with the real commands on every check; what is PROVED here are evaluated instances (the
  ∀-theorems about the loop scripts live in Props/C12Scripts.lean) and the disagreement between
  the source-run model and the specified function `Coll.exec … .arrayJoin` - a finding of /repo:
  the body's `if not is_empty <separator>` re-reads the separator as script text.
-/
import DuckModel.Sdk.ScriptRun

namespace Duck
open Duck.Alias Duck.Coll Duck.ScriptRun

/-- the state of the instances: `handle:1` = [a, "b c", ü, a], `handle:2` = [], `handle:3` = a map -/
def c12NativesSt : ScriptSt :=
  { coll := (Coll.run {} [(.array, ["a".toList, "b c".toList, "ü".toList, "a".toList]), (.array, []),
      (.map, []), (.mapPut, [Coll.handleName 3, "k".toList, "v".toList])]).1 }

/-- the native callees of `array_contains` and `array_join`, on the argument forms the bodies use (and the
    ones they must reject): `calc` prints whole numbers without `.0`, `strlen` counts UTF-8
    BYTES, `substring` cuts at BYTE offsets and refuses an offset inside a character -/
theorem C12_script_natives_instances :
    runCalc ["0".toList, "+".toList, "1".toList] = .continue (some "1".toList) ∧
    runCalc ["11".toList, "+".toList, "1".toList] = .continue (some "12".toList) ∧
    runCalc ["7".toList, "-".toList, "2".toList] = .continue (some "5".toList) ∧
    runCalc ["0".toList, "-".toList, "1".toList] = .continue (some "-1".toList) ∧
    runCalc ["1.5".toList, "+".toList, "1.5".toList] = .continue (some "3".toList) ∧
    runCalc ["1".toList, "+".toList, "0.5".toList] = .crash calcUnmodelledMsg ∧
    runCalc ["9223372036854775807".toList, "+".toList, "1".toList] = .error (msg "evalexpr error") ∧
    runCalc [] = .error (msg "Missing input.") ∧
    runLength ["aü日🦆".toList] = .continue (some "10".toList) ∧
    runLength [[]] = .continue (some "0".toList) ∧
    runLength [] = .error (msg "No argument provided.") ∧
    runIsEmpty [] = .continue (some sTrue) ∧ runIsEmpty [[]] = .continue (some sTrue) ∧
    runIsEmpty [" ".toList] = .continue (some sFalse) ∧
    runSubstring ["aü, bü, ".toList, "0".toList, "8".toList] = .continue (some "aü, bü".toList) ∧
    runSubstring ["aü".toList, "0".toList, "2".toList] = .error (msg "Index is not on a character boundary of the text.") ∧
    runSubstring ["abc".toList, "0".toList, "3".toList] = .error (msg "End index cannot be bigger than total text size.") ∧
    runSubstring [[], "0".toList, "-1".toList] = .error (msg "Start index cannot be bigger than total text size.") ∧
    runSubstring ["abc".toList, "x".toList] = .error (msg "Non numeric value: x provided.") := by
  -- the characters of the literals in the goal are handed over as they are
  unfold msg
  repeat rw [String.toList_ofList]
  decide +kernel

/-- the three theorems after this one in one declaration (why: `c12_script_runs`) -/
theorem c12_natives_runs :
    decide (
      let st := c12NativesSt
      let h1 := Coll.handleName 1
      (let r := runScriptCmd "array_contains".toList [h1, "a".toList] [("x".toList, "y".toList)] st
       r.1 = .continue (some "0".toList) ∧ r.2.1 = [("x".toList, "y".toList)] ∧
         r.2.2.coll.tbl.length = 3 ∧ tget r.2.2.coll.tbl (Coll.handleName 4) = none ∧
         r.2.2.forStack = [] ∧ r.2.2.ifStack.length = 1 ∧ r.2.2.ctx = []) ∧
      (runScriptCmd "array_contains".toList [h1, "b c".toList] [] st).1 = .continue (some "1".toList) ∧
      (runScriptCmd "array_contains".toList [h1, "ü".toList] [] st).1 = .continue (some "2".toList) ∧
      (runScriptCmd "array_contains".toList [h1, "absent".toList] [] st).1 = .continue (some sFalse) ∧
      (runScriptCmd "array_contains".toList [h1, []] [] st).1 = .continue (some sFalse) ∧
      (runScriptCmd "array_contains".toList [Coll.handleName 2, "a".toList] [] st).1 = .continue (some sFalse) ∧
      (runScriptCmd "array_contains".toList [Coll.handleName 3, "v".toList] [] st).1 = .continue (some sFalse) ∧
      (runScriptCmd "array_contains".toList ["nope".toList, "a".toList] [] st).1 = .continue (some sFalse) ∧
      (runScriptCmd "array_contains".toList [h1] [] st).1 = .error invalidArgsMsg ∧
      -- twice in a row on the state the first call left
      (let r1 := runScriptCmd "array_contains".toList [h1, "ü".toList] [] st
       (runScriptCmd "array_contains".toList [h1, "ü".toList] [] r1.2.2).1 = .continue (some "2".toList)) ∧
      -- the specified function on the same inputs
      (Coll.exec st.coll .arrayContains [h1, "a".toList]).2 = .val (some "0".toList) ∧
      (Coll.exec st.coll .arrayContains [h1, "b c".toList]).2 = .val (some "1".toList) ∧
      (Coll.exec st.coll .arrayContains [h1, "ü".toList]).2 = .val (some "2".toList) ∧
      (Coll.exec st.coll .arrayContains [h1, "absent".toList]).2 = .val (some sFalse) ∧
      (Coll.exec st.coll .arrayContains [Coll.handleName 3, "v".toList]).2 = .val (some sFalse) ∧
      (Coll.exec st.coll .arrayContains ["nope".toList, "a".toList]).2 = .val (some sFalse) ∧
      (Coll.exec st.coll .arrayContains [h1]).2 = .err) = true ∧
    decide (
      let st := c12NativesSt
      let h1 := Coll.handleName 1
      (let r := runScriptCmd "array_join".toList [h1, ", ".toList] [("x".toList, "y".toList)] st
       r.1 = .continue (some "a, b c, ü, a".toList) ∧ r.2.1 = [("x".toList, "y".toList)] ∧
         r.2.2.coll.tbl.length = 3 ∧ tget r.2.2.coll.tbl (Coll.handleName 4) = none ∧
         r.2.2.forStack = [] ∧ r.2.2.ifStack.length = 2 ∧ r.2.2.ctx = []) ∧
      (runScriptCmd "array_join".toList [h1, "ü".toList] [] st).1 = .continue (some "aüb cüüüa".toList) ∧
      (runScriptCmd "array_join".toList [h1, "日本".toList] [] st).1 = .continue (some "a日本b c日本ü日本a".toList) ∧
      (runScriptCmd "array_join".toList [h1, []] [] st).1 = .continue (some "ab cüa".toList) ∧
      (runScriptCmd "array_join".toList [h1, " ".toList] [] st).1 = .continue (some "a b c ü a".toList) ∧
      (runScriptCmd "array_join".toList [Coll.handleName 2, ",".toList] [] st).1 = .continue (some []) ∧
      (let r1 := runScriptCmd "array_join".toList [h1, ",".toList] [] st
       r1.1 = .continue (some "a,b c,ü,a".toList) ∧
       (runScriptCmd "array_join".toList [h1, ",".toList] [] r1.2.2).1 = .continue (some "a,b c,ü,a".toList)) ∧
      (runScriptCmd "array_join".toList [Coll.handleName 3, ",".toList] [] st).1 =
        .error "Invalid input, non array handle or array not found.".toList ∧
      (runScriptCmd "array_join".toList ["nope".toList, ",".toList] [] st).1 =
        .error "Invalid input, non array handle or array not found.".toList ∧
      (runScriptCmd "array_join".toList [h1] [] st).1 = .error invalidArgsMsg ∧
      -- the specified function on the same inputs
      (Coll.exec st.coll .arrayJoin [h1, ", ".toList]).2 = .val (some "a, b c, ü, a".toList) ∧
      (Coll.exec st.coll .arrayJoin [h1, "ü".toList]).2 = .val (some "aüb cüüüa".toList) ∧
      (Coll.exec st.coll .arrayJoin [h1, []]).2 = .val (some "ab cüa".toList) ∧
      (Coll.exec st.coll .arrayJoin [Coll.handleName 2, ",".toList]).2 = .val (some []) ∧
      (Coll.exec st.coll .arrayJoin [Coll.handleName 3, ",".toList]).2 = .err ∧
      (Coll.exec st.coll .arrayJoin ["nope".toList, ",".toList]).2 = .err ∧
      (Coll.exec st.coll .arrayJoin [h1]).2 = .err) = true ∧
    decide (
      let st : ScriptSt := { coll := (Coll.run {} [(.array, ["x".toList, "y".toList])]).1 }
      let h1 := Coll.handleName 1
      (runScriptCmd "array_join".toList [h1, "\t".toList] [] st).1 = .continue (some "x\ty\t".toList) ∧
      (Coll.exec st.coll .arrayJoin [h1, "\t".toList]).2 = .val (some "x\ty".toList) ∧
      (runScriptCmd "array_join".toList [h1, "=z".toList] [] st).1 = flowErr ∧
      (Coll.exec st.coll .arrayJoin [h1, "=z".toList]).2 = .val (some "x=zy".toList) ∧
      (runScriptCmd "array_join".toList [h1, "${v}".toList] [("v".toList, "1".toList)] st).1 =
        .continue (some "x${v}y".toList) ∧
      (runScriptCmd "array_join".toList [h1, "${v}".toList] [("v".toList, [])] st).1 =
        .continue (some "x${v}y${v}".toList) ∧
      (runScriptCmd "array_join".toList [h1, "${v}".toList] [] st).1 =
        .continue (some "x${v}y${v}".toList) ∧
      (Coll.exec st.coll .arrayJoin [h1, "${v}".toList]).2 = .val (some "x${v}y".toList)) = true := by
  decide +kernel

/-- evaluated instances of `array_contains` from source: the index of the FIRST equal cell (index 0,
    a middle index, a multi-byte cell, a repeated cell), `false` for an absent value, an empty
    array, a handle of another kind and a missing handle; the caller's variables are kept, the
    temporary argument array is gone, the for-in entry of the loop is popped although the script
    leaves the loop by unsetting the handle variable (`argument::1 = set`: the next `for` reads an
    empty handle and jumps behind its `end`); the entry of the taken `if` stays on the if call
    stack (`end_if` pops nothing - in the code as well); each answer is the specified function's -/
theorem C12_script_array_contains_instances :
    let st := c12NativesSt
    let h1 := Coll.handleName 1
    (let r := runScriptCmd "array_contains".toList [h1, "a".toList] [("x".toList, "y".toList)] st
     r.1 = .continue (some "0".toList) ∧ r.2.1 = [("x".toList, "y".toList)] ∧
       r.2.2.coll.tbl.length = 3 ∧ tget r.2.2.coll.tbl (Coll.handleName 4) = none ∧
       r.2.2.forStack = [] ∧ r.2.2.ifStack.length = 1 ∧ r.2.2.ctx = []) ∧
    (runScriptCmd "array_contains".toList [h1, "b c".toList] [] st).1 = .continue (some "1".toList) ∧
    (runScriptCmd "array_contains".toList [h1, "ü".toList] [] st).1 = .continue (some "2".toList) ∧
    (runScriptCmd "array_contains".toList [h1, "absent".toList] [] st).1 = .continue (some sFalse) ∧
    (runScriptCmd "array_contains".toList [h1, []] [] st).1 = .continue (some sFalse) ∧
    (runScriptCmd "array_contains".toList [Coll.handleName 2, "a".toList] [] st).1 = .continue (some sFalse) ∧
    (runScriptCmd "array_contains".toList [Coll.handleName 3, "v".toList] [] st).1 = .continue (some sFalse) ∧
    (runScriptCmd "array_contains".toList ["nope".toList, "a".toList] [] st).1 = .continue (some sFalse) ∧
    (runScriptCmd "array_contains".toList [h1] [] st).1 = .error invalidArgsMsg ∧
    -- twice in a row on the state the first call left
    (let r1 := runScriptCmd "array_contains".toList [h1, "ü".toList] [] st
     (runScriptCmd "array_contains".toList [h1, "ü".toList] [] r1.2.2).1 = .continue (some "2".toList)) ∧
    -- the specified function on the same inputs
    (Coll.exec st.coll .arrayContains [h1, "a".toList]).2 = .val (some "0".toList) ∧
    (Coll.exec st.coll .arrayContains [h1, "b c".toList]).2 = .val (some "1".toList) ∧
    (Coll.exec st.coll .arrayContains [h1, "ü".toList]).2 = .val (some "2".toList) ∧
    (Coll.exec st.coll .arrayContains [h1, "absent".toList]).2 = .val (some sFalse) ∧
    (Coll.exec st.coll .arrayContains [Coll.handleName 3, "v".toList]).2 = .val (some sFalse) ∧
    (Coll.exec st.coll .arrayContains ["nope".toList, "a".toList]).2 = .val (some sFalse) ∧
    (Coll.exec st.coll .arrayContains [h1]).2 = .err :=
  of_decide_eq_true c12_natives_runs.1

/-- evaluated instances of `array_join` from source: separators of one and two characters, a
    multi-byte separator (the trailing separator is cut at a BYTE offset computed by `strlen` and
    `calc`), the empty separator, the empty array, a call after a call (the wrapper removed
    `scope::array_join::string`), a map handle, a missing handle, too few arguments; each answer
    is the specified function's -/
theorem C12_script_array_join_instances :
    let st := c12NativesSt
    let h1 := Coll.handleName 1
    (let r := runScriptCmd "array_join".toList [h1, ", ".toList] [("x".toList, "y".toList)] st
     r.1 = .continue (some "a, b c, ü, a".toList) ∧ r.2.1 = [("x".toList, "y".toList)] ∧
       r.2.2.coll.tbl.length = 3 ∧ tget r.2.2.coll.tbl (Coll.handleName 4) = none ∧
       r.2.2.forStack = [] ∧ r.2.2.ifStack.length = 2 ∧ r.2.2.ctx = []) ∧
    (runScriptCmd "array_join".toList [h1, "ü".toList] [] st).1 = .continue (some "aüb cüüüa".toList) ∧
    (runScriptCmd "array_join".toList [h1, "日本".toList] [] st).1 = .continue (some "a日本b c日本ü日本a".toList) ∧
    (runScriptCmd "array_join".toList [h1, []] [] st).1 = .continue (some "ab cüa".toList) ∧
    (runScriptCmd "array_join".toList [h1, " ".toList] [] st).1 = .continue (some "a b c ü a".toList) ∧
    (runScriptCmd "array_join".toList [Coll.handleName 2, ",".toList] [] st).1 = .continue (some []) ∧
    (let r1 := runScriptCmd "array_join".toList [h1, ",".toList] [] st
     r1.1 = .continue (some "a,b c,ü,a".toList) ∧
     (runScriptCmd "array_join".toList [h1, ",".toList] [] r1.2.2).1 = .continue (some "a,b c,ü,a".toList)) ∧
    (runScriptCmd "array_join".toList [Coll.handleName 3, ",".toList] [] st).1 =
      .error "Invalid input, non array handle or array not found.".toList ∧
    (runScriptCmd "array_join".toList ["nope".toList, ",".toList] [] st).1 =
      .error "Invalid input, non array handle or array not found.".toList ∧
    (runScriptCmd "array_join".toList [h1] [] st).1 = .error invalidArgsMsg ∧
    -- the specified function on the same inputs
    (Coll.exec st.coll .arrayJoin [h1, ", ".toList]).2 = .val (some "a, b c, ü, a".toList) ∧
    (Coll.exec st.coll .arrayJoin [h1, "ü".toList]).2 = .val (some "aüb cüüüa".toList) ∧
    (Coll.exec st.coll .arrayJoin [h1, []]).2 = .val (some "ab cüa".toList) ∧
    (Coll.exec st.coll .arrayJoin [Coll.handleName 2, ",".toList]).2 = .val (some []) ∧
    (Coll.exec st.coll .arrayJoin [Coll.handleName 3, ",".toList]).2 = .err ∧
    (Coll.exec st.coll .arrayJoin ["nope".toList, ",".toList]).2 = .err ∧
    (Coll.exec st.coll .arrayJoin [h1]).2 = .err :=
  of_decide_eq_true c12_natives_runs.2.1

/-- DISAGREEMENT source-run vs specified function (a finding of /repo, observed on the real command
    by the `srun` stream): the body decides whether to cut the trailing separator by
    `if not is_empty ${scope::array_join::argument::2}`; a command condition is re-serialised and
    RE-PARSED as script text (`eval_condition`), so the separator is read a second time:
     * TAB (also CR): the re-parsed line has no argument, `is_empty` answers `true`, the trailing
       separator stays: `x<TAB>y<TAB>` instead of `x<TAB>y`;
     * `=z`: the re-parsed line does not parse, `array_join` answers `Error`;
     * `${v}`: expanded against the CALLER's variables - the same call answers `x${v}y` when the
       caller has `v = 1` and `x${v}y${v}` when `v` is empty or undefined.
    The specified function (and the documentation) say `x<sep>y` in every case. -/
theorem C12_script_array_join_separator_reread :
    let st : ScriptSt := { coll := (Coll.run {} [(.array, ["x".toList, "y".toList])]).1 }
    let h1 := Coll.handleName 1
    (runScriptCmd "array_join".toList [h1, "\t".toList] [] st).1 = .continue (some "x\ty\t".toList) ∧
    (Coll.exec st.coll .arrayJoin [h1, "\t".toList]).2 = .val (some "x\ty".toList) ∧
    (runScriptCmd "array_join".toList [h1, "=z".toList] [] st).1 = flowErr ∧
    (Coll.exec st.coll .arrayJoin [h1, "=z".toList]).2 = .val (some "x=zy".toList) ∧
    (runScriptCmd "array_join".toList [h1, "${v}".toList] [("v".toList, "1".toList)] st).1 =
      .continue (some "x${v}y".toList) ∧
    (runScriptCmd "array_join".toList [h1, "${v}".toList] [("v".toList, [])] st).1 =
      .continue (some "x${v}y${v}".toList) ∧
    (runScriptCmd "array_join".toList [h1, "${v}".toList] [] st).1 =
      .continue (some "x${v}y${v}".toList) ∧
    (Coll.exec st.coll .arrayJoin [h1, "${v}".toList]).2 = .val (some "x${v}y".toList) :=
  of_decide_eq_true c12_natives_runs.2.2

end Duck
