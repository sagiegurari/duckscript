/-
  C05, "a call that ends without a value (bare `return` or reaching the end) leaves that variable
  undefined": what the implementation does, what the literal clause demands, and where they part.

  * the runner erases the output variable when the call is made (the call's result is a jump
    without a value), a bare `return` erases it again, reaching `end` touches nothing
    (`C05_end_function`): so the clause holds unless the BODY assigned a variable of that name and
    the function then reaches its `end` — `C05_valueless_call_statement` is FALSE
    (`C05_valueless_call_refuted`, witness `fn f / r = set inner / end / r = f`), the recorded
    finding C05/end-keeps-body-assigned-output;
  * `C05_valueless_call_partial`: in the same program family the clause holds whenever the call
    ends with a bare `return` or the body's variable has another name.
  * `strictEnds` (Spec/StrictEnd.lean) is the reading the correspondence run uses as the demand:
    `C05_strictEnds_witness` shows that it erases the variable on the witness, and
    `C05_strictEnds_only_plain` that `<scope>` functions (the corner the property leaves open) and
    everything that is not a function definition are left as they are.
-/
import DuckModel.Props.C05Core
import DuckModel.Spec.StrictEnd

namespace Duck
open Duck.Spec

/-- ```
    fn f
    <x> = set inner        -- x = `r` when `same`, `other` otherwise
    [return]               -- when `bare`
    end
    r = f
    ``` -/
def C05_endProgram (bare same : Bool) : List Instruction := Spec.program.go
  ([ C05_line none "fn" ["f"],
     C05_line (some (if same then "r" else "other")) "set" ["inner"] ] ++
   (if bare then [C05_line none "return" []] else []) ++
   [ C05_line none "end" [],
     C05_line (some "r") "f" [] ]) 1

/-- the clause, on this family: whichever way the call ends without a value, `r` is undefined -/
def C05_valueless_call_statement : Prop :=
  ∀ (bare same : Bool),
    (interpRun 100 (C05_endProgram bare same) [] {}).2 = .reachedEnd ∧
    (interpRun 100 (C05_endProgram bare same) [] {}).1.vars.get "r".toList = none

/-- the same on the tree side: the tree interpretation keeps the body's value, the tree
    interpretation of `strictEnds` erases it -/
def C05_endTree : Block :=
  .cons (.fnDef "fn".toList false "f".toList
      (.cons (.line { out := some "r".toList, cmd := "set".toList, args := ["inner".toList] }) .nil) "end".toList)
    (.cons (.line { out := some "r".toList, cmd := "f".toList, args := [] }) .nil)

/-- the four programs of the family and the tree, run: on the machine `r` keeps
    the body's value exactly when the body assigned `r` and the call ended by reaching `end`; the
    tree keeps it, the tree with `strictEnds` erases it -/
theorem C05_end_runs :
    (∀ (bare same : Bool),
      (interpRun 100 (C05_endProgram bare same) [] {}).2 = .reachedEnd ∧
      (interpRun 100 (C05_endProgram bare same) [] {}).1.vars.get "r".toList =
        if bare = false ∧ same = true then some "inner".toList else none) ∧
    (match runTree 50 C05_endTree [] with | .normal t => t.vars.get "r".toList | _ => none) = some "inner".toList ∧
    (match runTree 50 C05_endTree.strictEnds [] with | .normal t => some (t.vars.get "r".toList) | _ => none) = some none := by
  decide +kernel

/-- reaching `end` after the body assigned `r`: `r` keeps the body's value -/
theorem C05_end_keeps_body_assignment_counterexample :
    (interpRun 100 (C05_endProgram false true) [] {}).2 = .reachedEnd ∧
    (interpRun 100 (C05_endProgram false true) [] {}).1.vars.get "r".toList = some "inner".toList :=
  C05_end_runs.1 false true

theorem C05_valueless_call_refuted : ¬ C05_valueless_call_statement := by
  intro h
  have h1 := (h false true).2
  rw [C05_end_keeps_body_assignment_counterexample.2] at h1
  cases h1

/-- the clause holds in the family whenever the call ends with a bare `return` or the body's
    variable is not the output variable -/
theorem C05_valueless_call_partial (bare same : Bool) (h : bare = true ∨ same = false) :
    (interpRun 100 (C05_endProgram bare same) [] {}).2 = .reachedEnd ∧
    (interpRun 100 (C05_endProgram bare same) [] {}).1.vars.get "r".toList = none := by
  have hne : ¬ (bare = false ∧ same = true) := by
    rcases h with rfl | rfl <;> simp
  simpa only [if_neg hne] using C05_end_runs.1 bare same

theorem C05_strictEnds_witness :
    (match runTree 50 C05_endTree [] with | .normal t => t.vars.get "r".toList | _ => none) = some "inner".toList ∧
    (match runTree 50 C05_endTree.strictEnds [] with | .normal t => some (t.vars.get "r".toList) | _ => none) = some none :=
  C05_end_runs.2

/-- `strictEnds` changes plain function definitions only: a `<scope>` definition and every other
    statement stay as they are -/
theorem C05_strictEnds_only_plain (s : Stmt) (rest : Block)
    (h : ∀ kw name body kwEnd, s ≠ .fnDef kw false name body kwEnd) :
    (Block.cons s rest).strictEnds = .cons s rest.strictEnds := by
  cases s with
  | fnDef kw sc name body kwEnd =>
    cases sc with
    | false => exact absurd rfl (h kw name body kwEnd)
    | true => rfl
  | _ => rfl

end Duck
