/-
  C02 — the hand-written expansion scanner IS the translation of the current source.

  `Generated/ScannerExpand.lean` is produced on every run by the Rust→Lean translator
  (bin/rust2lean.py, bin/fragments/scanner_expand.py) from the loop of `expand_by_wrapper`, from
  `should_break_key` and from `push_prefix` in duckscript/src/expansion.rs.  The theorems prove
  that the step function the C02 theorems are about (`Duck.xStep`) equals the translation for every
  variable map, scanner state and character; hence the folds over any argument text agree.
-/
import DuckModel.Generated.ScannerExpand

namespace Duck
open Duck.Generated

theorem C02_break_key_translation (c : Char) : shouldBreakKeyGen c = shouldBreakKey c := rfl

theorem C02_push_prefix_translation (buf : Str) (s f : Bool) : pushPrefixGen buf s f = pushPrefix buf s f := by
  unfold pushPrefixGen pushPrefix
  cases s <;> cases f <;> simp

/-- the translated loop body equals the hand-written one -/
theorem C02_scanner_translation (vars : Vars) (st : XSt) (c : Char) :
    xStepGen vars st c = xStep vars st c := by
  obtain ⟨out, pi, fp, key, force, single⟩ := st
  unfold xStepGen xStep
  simp only [C02_break_key_translation, C02_push_prefix_translation]
  cases fp <;> cases force <;> simp <;> repeat' split
  all_goals first
    | rfl
    | (simp_all; try omega)
    | (simp_all [pushPrefix]; try omega)

/-- the scan over a whole argument text -/
theorem C02_scanner_translation_fold (vars : Vars) (st : XSt) (value : Str) :
    value.foldl (xStepGen vars) st = value.foldl (xStep vars) st := by
  induction value generalizing st with
  | nil => rfl
  | cons c rest ih => simp only [List.foldl_cons, C02_scanner_translation, ih]

end Duck
