/-
  C12 - the script-implemented collection commands, RUN FROM THEIR REGENERATED SOURCE
  (`Generated.scripts`, rewritten from /repo's `script.ds` files on every run), compute their
  specified function (`Coll.exec`, section "script-implemented" of Sdk/Collections.lean - the
  function the theorems of Props/C12.lean relate to the reference model `Spec.Store`).

  `ScriptRun.runScriptCmd name args vars st` = the model of `AliasCommand::run` over the model of
  `eval_instructions` over the parse of the table entry's text, with the native callees
  transcribed (Sdk/ScriptRun.lean).  Every theorem is for every argument list, every variable
  map and every state.

  `CorrectRun scope few vars st spec r` (Lemmas/ScriptRunLemmas.lean) says of a run `r`:
    * its result is the specified function's: the same `Continue` value, or both an `Error`;
    * the caller's variables afterwards are the caller's variables minus those under the
      command's own prefix (`clear`) - untouched when there were too few arguments (`few`); no
      hypothesis about the callees (C19's `SemFrame`): they are run;
    * the handle table reads as before (the temporary `::arguments` array is gone again), the
      allocator has drawn exactly one name, the line-context name is restored, the flow-control
      state (call stacks, cached block positions, `end` table) is untouched.

  Hypotheses (both about the model's deterministic allocator standing for `put_handle`'s 20
  random characters):
    * `hfree`: the name the allocator draws next is not live (the allocator assumption of C12,
      a consequence of `AllocInv`);
    * `array_is_empty` only: the argument is not that next name (in the code: nobody can pass the
      random name of the temporary array before it is drawn).  Without it the model's
      `array_is_empty handle:<next>` reads the temporary array itself.  The map / set scripts do
      not need it: their size command rejects the temporary array like any non-map / non-set.
-/
import DuckModel.Lemmas.ScriptCalls

namespace Duck
open Duck.Alias Duck.Coll Duck.ScriptRun Duck.Spec

/-- `array_is_empty` from source = the specified function -/
theorem C12_script_array_is_empty_correct (args : List Str) (vars : Vars) (st : ScriptSt)
    (hfree : tget st.coll.tbl (Coll.handleName st.coll.next) = none)
    (hne : args.head? ≠ some (Coll.handleName st.coll.next)) :
    CorrectRun "scope::array_is_empty".toList (decide (args.length < 1)) vars st
      (Coll.exec st.coll .arrayIsEmpty args).2
      (runScriptCmd "array_is_empty".toList args vars st) := by
  exact sizeScript_correct arrayIsEmpty_sizeScript .arrayIsEmpty
    (by intro s key rest
        simp only [Coll.exec, cmdArrayIsEmpty]
        cases hv : tget s.tbl key with
        | none => rfl
        | some v =>
          cases v with
          | list l => cases l <;> simp [aieLen]
          | _ => rfl)
    (fun _ => rfl) args vars st hfree (Or.inl hne)

/-- `map_is_empty` from source = the specified function -/
theorem C12_script_map_is_empty_correct (args : List Str) (vars : Vars) (st : ScriptSt)
    (hfree : tget st.coll.tbl (Coll.handleName st.coll.next) = none) :
    CorrectRun "scope::map_is_empty".toList (decide (args.length < 1)) vars st
      (Coll.exec st.coll .mapIsEmpty args).2
      (runScriptCmd "map_is_empty".toList args vars st) := by
  exact sizeScript_correct mapIsEmpty_sizeScript .mapIsEmpty
    (by intro s key rest
        simp only [Coll.exec, cmdMapIsEmpty]
        cases hv : tget s.tbl key with
        | none => rfl
        | some v =>
          cases v with
          | map l => cases l <;> simp [mieLen]
          | _ => rfl)
    (fun _ => rfl) args vars st hfree (Or.inr fun _ => rfl)

/-- `set_is_empty` from source = the specified function -/
theorem C12_script_set_is_empty_correct (args : List Str) (vars : Vars) (st : ScriptSt)
    (hfree : tget st.coll.tbl (Coll.handleName st.coll.next) = none) :
    CorrectRun "scope::set_is_empty".toList (decide (args.length < 1)) vars st
      (Coll.exec st.coll .setIsEmpty args).2
      (runScriptCmd "set_is_empty".toList args vars st) := by
  exact sizeScript_correct setIsEmpty_sizeScript .setIsEmpty
    (by intro s key rest
        simp only [Coll.exec, cmdSetIsEmpty]
        cases hv : tget s.tbl key with
        | none => rfl
        | some v =>
          cases v with
          | set l => cases l <;> simp [sieLen]
          | _ => rfl)
    (fun _ => rfl) args vars st hfree (Or.inr fun _ => rfl)

/-- `map_contains_key` from source = the specified function (a key whose value is the empty
    string IS contained: `map_get` answers `Continue(Some(""))`, the output variable is set) -/
theorem C12_script_map_contains_key_correct (args : List Str) (vars : Vars) (st : ScriptSt)
    (hfree : tget st.coll.tbl (Coll.handleName st.coll.next) = none) :
    CorrectRun "scope::map_contains_key".toList (decide (args.length < 2)) vars st
      (Coll.exec st.coll .mapContainsKey args).2
      (runScriptCmd "map_contains_key".toList args vars st) := by
  exact mck_correct mapContainsKey_mckScript args vars st hfree

/-- The evaluated statements of this file (`C12_script_array_is_empty_next_name`,
    `C12_script_array_concat_after_error`, `C12_script_loop_instances`, two examples at the end) in
    ONE declaration: the bulk of evaluating a run is decoding the names of the script table and of
    the callee tables (string literals) and the script's own instructions, and the kernel keeps
    what it has evaluated only while it checks one declaration.  (`decide` around each statement:
    the instance of the whole conjunction is too big to be synthesised in one piece.) -/
theorem c12_script_runs :
    decide (
      (runScriptCmd "array_is_empty".toList [Coll.handleName 1] [] {}).1 = .continue (some sFalse) ∧
      (Coll.exec {} .arrayIsEmpty [Coll.handleName 1]).2 = .err) = true ∧
    decide (
      let r1 := runScriptCmd "array_concat".toList ["nope".toList] [] {}
      let r2 := runScriptCmd "array_concat".toList ["nope".toList] [] r1.2.2
      r1.1 = .error "Invalid input, non array handle or array not found.".toList ∧
      r1.2.2.forStack.length = 1 ∧
      r2.1 = .continue (some (Coll.handleName 3)) ∧
      tget r2.2.2.coll.tbl (Coll.handleName 3) = some (.list []) ∧
      (Coll.exec r1.2.2.coll .arrayConcat ["nope".toList]).2 = .err) = true ∧
    decide (
      let st : ScriptSt := { coll := (Coll.run {} [(.array, ["a".toList, "b".toList, "a".toList]), (.array, []),
        (.map, []), (.mapPut, [Coll.handleName 3, "k".toList, "v".toList])]).1 }
      -- set_from_array: the new set holds the distinct cells; caller variables kept
      (let r := runScriptCmd "set_from_array".toList [Coll.handleName 1] [("x".toList, "y".toList)] st
       r.1 = .continue (some (Coll.handleName 5)) ∧ r.2.1 = [("x".toList, "y".toList)] ∧
         tget r.2.2.coll.tbl (Coll.handleName 5) = some (.set ["a".toList, "b".toList]) ∧
         tget r.2.2.coll.tbl (Coll.handleName 4) = none) ∧
      (runScriptCmd "set_from_array".toList [Coll.handleName 3] [] st).1 =
        .error "Invalid input, non array handle or array not found.".toList ∧
      -- array_concat: cells of all arguments in order; no argument: a new empty array
      (let r := runScriptCmd "array_concat".toList [Coll.handleName 1, Coll.handleName 2, Coll.handleName 1] [] st
       r.1 = .continue (some (Coll.handleName 5)) ∧
         tget r.2.2.coll.tbl (Coll.handleName 5) =
           some (.list (["a", "b", "a", "a", "b", "a"].map fun x => Item.str x.toList))) ∧
      (runScriptCmd "array_concat".toList [] [] st).1 = .continue (some (Coll.handleName 4)) ∧
      -- map_contains_value: the key array made by map_keys is released again
      (let r := runScriptCmd "map_contains_value".toList [Coll.handleName 3, "v".toList] [] st
       r.1 = .continue (some sTrue) ∧ tget r.2.2.coll.tbl (Coll.handleName 5) = none ∧ r.2.2.coll.tbl.length = 3) ∧
      (runScriptCmd "map_contains_value".toList [Coll.handleName 3, "z".toList] [] st).1 = .continue (some sFalse) ∧
      -- concat / unset
      (runScriptCmd "concat".toList ["a b".toList, [], "c".toList] [] st).1 = .continue (some "a bc".toList) ∧
      (runScriptCmd "unset".toList ["x".toList, "nope".toList] [("x".toList, "y".toList), ("z".toList, "1".toList)] st).2.1
        = [("z".toList, "1".toList)]) = true ∧
    decide (
      let st : ScriptSt := { coll := (Coll.run {} [(.array, ["a".toList]), (.array, []), (.map, []),
        (.mapPut, [Coll.handleName 3, "k".toList, []])]).1 }
      (runScriptCmd "array_is_empty".toList [Coll.handleName 1] [] st).1 = .continue (some sFalse) ∧
      (runScriptCmd "array_is_empty".toList [Coll.handleName 2] [] st).1 = .continue (some sTrue) ∧
      (runScriptCmd "map_contains_key".toList [Coll.handleName 3, "k".toList] [] st).1 = .continue (some sTrue) ∧
      (runScriptCmd "map_contains_key".toList [Coll.handleName 3, "z".toList] [] st).1 = .continue (some sFalse) ∧
      (runScriptCmd "set_is_empty".toList [Coll.handleName 3] [] st).1 = .error (msg "Invalid handle provided.")) = true ∧
    decide (
      let st : ScriptSt := { coll := (Coll.run {} [(.map, []), (.mapPut, [Coll.handleName 1, "k".toList, "v".toList]),
        (.mapPut, [Coll.handleName 1, "j".toList, "v".toList]), (.array, ["a".toList, "b".toList]), (.array, [])]).1 }
      (runScriptCmd "map_contains_value".toList [Coll.handleName 1, "v".toList] [] st).1 = .continue (some sTrue) ∧
      (runScriptCmd "map_contains_value".toList [Coll.handleName 1, "w".toList] [] st).1 = .continue (some sFalse) ∧
      (runScriptCmd "array_concat".toList [Coll.handleName 2, Coll.handleName 3, Coll.handleName 2] [] st).1 =
        .continue (some (Coll.handleName 5)) ∧
      (runScriptCmd "array_contains".toList [Coll.handleName 2, "b".toList] [] st).1 = .continue (some "1".toList) ∧
      (runScriptCmd "array_join".toList [Coll.handleName 2, ", ".toList] [] st).1 = .continue (some "a, b".toList) ∧
      mapLen st.coll.tbl (Coll.handleName 1) = 2 ∧ acCells st.coll.tbl [Coll.handleName 2, Coll.handleName 3] = ["a".toList, "b".toList]) = true := by
  decide +kernel

/-- the hypothesis of `C12_script_array_is_empty_correct` cannot be dropped IN THE MODEL: with the
    counter allocator the next name can be written down, and then the script reads its own
    temporary argument array (one cell: not empty) where the specified function reports an
    error.  In the code the name is 20 random characters drawn after the arguments were
    written. -/
theorem C12_script_array_is_empty_next_name :
    (runScriptCmd "array_is_empty".toList [Coll.handleName 1] [] {}).1 = .continue (some sFalse) ∧
    (Coll.exec {} .arrayIsEmpty [Coll.handleName 1]).2 = .err :=
  of_decide_eq_true c12_script_runs.1

/-! ### scripts with loops and branches: evaluated instances

`concat`, `unset`, `set_from_array`, `array_concat`, `map_contains_value` run in the model (flow
control of Sdk/ScriptRun.lean); the driver op `srun` compares them with the real commands.  This
section: evaluated instances - and one disagreement between the source-run model and the
specified function, which is the recorded finding of /repo.  The for-all theorems follow below. -/

/-- DISAGREEMENT source-run vs specified function = finding `C12-array-concat-after-error`:
    `array_concat nope` answers `Error` (its validation loop raises `trigger_error` inside
    `for … in`), the for-in iteration entry of that loop stays on the call stack, and the NEXT
    `array_concat nope` resumes the stale iteration, skips the validation of its first argument
    and answers a new empty array - where the specified function (and the documentation) say
    `Error` again.  The real command does what the source-run model does (stream `srun`). -/
theorem C12_script_array_concat_after_error :
    let r1 := runScriptCmd "array_concat".toList ["nope".toList] [] {}
    let r2 := runScriptCmd "array_concat".toList ["nope".toList] [] r1.2.2
    r1.1 = .error "Invalid input, non array handle or array not found.".toList ∧
    r1.2.2.forStack.length = 1 ∧
    r2.1 = .continue (some (Coll.handleName 3)) ∧
    tget r2.2.2.coll.tbl (Coll.handleName 3) = some (.list []) ∧
    (Coll.exec r1.2.2.coll .arrayConcat ["nope".toList]).2 = .err :=
  of_decide_eq_true c12_script_runs.2.1

/-- evaluated instances of the five scripts with loops (results, variables, table) -/
theorem C12_script_loop_instances :
    let st : ScriptSt := { coll := (Coll.run {} [(.array, ["a".toList, "b".toList, "a".toList]), (.array, []),
      (.map, []), (.mapPut, [Coll.handleName 3, "k".toList, "v".toList])]).1 }
    -- set_from_array: the new set holds the distinct cells; caller variables kept
    (let r := runScriptCmd "set_from_array".toList [Coll.handleName 1] [("x".toList, "y".toList)] st
     r.1 = .continue (some (Coll.handleName 5)) ∧ r.2.1 = [("x".toList, "y".toList)] ∧
       tget r.2.2.coll.tbl (Coll.handleName 5) = some (.set ["a".toList, "b".toList]) ∧
       tget r.2.2.coll.tbl (Coll.handleName 4) = none) ∧
    (runScriptCmd "set_from_array".toList [Coll.handleName 3] [] st).1 =
      .error "Invalid input, non array handle or array not found.".toList ∧
    -- array_concat: cells of all arguments in order; no argument: a new empty array
    (let r := runScriptCmd "array_concat".toList [Coll.handleName 1, Coll.handleName 2, Coll.handleName 1] [] st
     r.1 = .continue (some (Coll.handleName 5)) ∧
       tget r.2.2.coll.tbl (Coll.handleName 5) =
         some (.list (["a", "b", "a", "a", "b", "a"].map fun x => Item.str x.toList))) ∧
    (runScriptCmd "array_concat".toList [] [] st).1 = .continue (some (Coll.handleName 4)) ∧
    -- map_contains_value: the key array made by map_keys is released again
    (let r := runScriptCmd "map_contains_value".toList [Coll.handleName 3, "v".toList] [] st
     r.1 = .continue (some sTrue) ∧ tget r.2.2.coll.tbl (Coll.handleName 5) = none ∧ r.2.2.coll.tbl.length = 3) ∧
    (runScriptCmd "map_contains_value".toList [Coll.handleName 3, "z".toList] [] st).1 = .continue (some sFalse) ∧
    -- concat / unset
    (runScriptCmd "concat".toList ["a b".toList, [], "c".toList] [] st).1 = .continue (some "a bc".toList) ∧
    (runScriptCmd "unset".toList ["x".toList, "nope".toList] [("x".toList, "y".toList), ("z".toList, "1".toList)] st).2.1
      = [("z".toList, "1".toList)] :=
  of_decide_eq_true c12_script_runs.2.2.1

/-! ### scripts with a `for … in` loop, for every input

The loop runs through the goto machine of `evalInstructions` with the for-in call-stack entry
advancing its iteration counter (Lemmas/ScriptLoopLemmas.lean: `runFor_first`, `runFor_resume`,
`runEnd_for`; the induction over the cells that are left is `ForBlock.loop` / `ForBlock.run`,
each script gives its invariant and follows one iteration).

Additional hypotheses, all about the flow-control state the caller hands in (each holds in every
state the script itself leaves behind after a run that did not end with an error inside the loop,
`LoopFrame.forStack`, and in the initial state):
  * `NoStaleFor scope st.forStack`: the top of the for-in call stack is not an entry of this
    script (an entry stays behind when a run ends with an error inside the loop - finding
    C12-array-concat-after-error; the next run then RESUMES that iteration);
  * `CacheOK st.forMeta "<scope>::<line>" stop`: the cached block end of the script's `for`
    line, if present, is the right one (only the `for` command writes it);
  * the instruction budget of the model (`scriptFuel`) covers the run: bound linear in the number
    of cells. -/

/-- `concat` from source = the concatenation of its arguments, for every argument list.
    `hempty`: without arguments the script's `for arg in ${scope::concat::arguments}` reads a
    variable the wrapper did not set; the caller's value of it (if any) must not name an array. -/
theorem C12_script_concat_correct (args : List Str) (vars : Vars) (st : ScriptSt)
    (hfree : tget st.coll.tbl (Coll.handleName st.coll.next) = none)
    (hstale : NoStaleFor "scope::concat".toList st.forStack)
    (hcache : CacheOK st.forMeta "scope::concat::2".toList 4)
    (hempty : args = [] → ∀ l, tget st.coll.tbl ((vars.get "scope::concat::arguments".toList).getD []) ≠ some (.list l))
    (hfuel : 3 * args.length + 6 ≤ scriptFuel) :
    (runScriptCmd "concat".toList args vars st).1 = .continue (some args.flatten) ∧
    LookupEq (runScriptCmd "concat".toList args vars st).2.2.coll.tbl st.coll.tbl ∧
    LoopFrame "scope::concat".toList (if args = [] then 0 else 1) (clear "scope::concat".toList vars) [] st
      (runScriptCmd "concat".toList args vars st) := by
  unfold runScriptCmd
  rw [show scriptDepth = 5 + 1 from rfl, concat_run 5 scriptFuel args vars st hstale hcache hempty hfuel]
  refine ⟨rfl, ?_, ⟨rfl, ?_, rfl, rfl, rfl, fun _ _ => rfl, ?_, ?_⟩⟩
  · intro h
    by_cases ha : args = []
    · simp [cFinal, ha]
    · simp only [cFinal, ha, if_false, tget_tremove, tget_tinsert]
      by_cases e : h = Coll.handleName st.coll.next
      · simp [e, hfree]
      · simp [e]
  · by_cases ha : args = [] <;> simp [cFinal, ha]
  · intro key hkey
    exact get_forMetaAfter_frame _ _ _ _ (by decide) key hkey
  · intro key hkey
    exact get_put_frame _ _ _ _ (by decide) key hkey

/-- `set_from_array` from source = the specified function, for every argument list, variable map
    and state, up to the name of the new handle (`AgreesAlloc`: the source-run command draws the
    name of its temporary argument array first, the specified function does not have one).
    Hypotheses beyond those of the loop-free scripts:
      * `hfree1`: the second name the allocator draws is not live either;
      * `hok`: the argument is of the class that survives the rebuild / re-parse of the condition
        `if not is_array <arg>` (`ArgOK`, the decidable C09 class; every handle name is in it);
      * `hstale`, `hcI`, `hcF`, `hfuel`: see above; the bound is `3·n + 8` instructions for an
        array of `n` cells.
    The frame: 2 names drawn for a live array (temporary array + the set), both call stacks as
    before; when the argument names no array the answer is `Error` and the if-call entry of the
    validation block stays on the if call stack (`trigger_error` inside `if … end`). -/
theorem C12_script_set_from_array_correct (args : List Str) (vars : Vars) (st : ScriptSt)
    (hfree : tget st.coll.tbl (Coll.handleName st.coll.next) = none)
    (hfree1 : tget st.coll.tbl (Coll.handleName (st.coll.next + 1)) = none)
    (hne : args.head? ≠ some (Coll.handleName st.coll.next))
    (hok : ∀ a, args.head? = some a → ArgOK a = true)
    (hstale : NoStaleFor "scope::set_from_array".toList st.forStack)
    (hcI : IfCacheOK st.ifMeta "scope::set_from_array::1".toList 3)
    (hcF : CacheOK st.forMeta "scope::set_from_array::6".toList 8)
    (hfuel : ∀ a, args.head? = some a → 3 * arrLen st.coll.tbl a + 8 ≤ scriptFuel) :
    AgreesAlloc st.coll (Coll.exec st.coll .setFromArray args)
      (runScriptCmd "set_from_array".toList args vars st).1
      (runScriptCmd "set_from_array".toList args vars st).2.2.coll.tbl ∧
    LoopFrame "scope::set_from_array".toList
      (if args = [] then 0 else if headIsArray st.coll.tbl args then 2 else 1)
      (if args = [] then vars else clear "scope::set_from_array".toList vars)
      (if args = [] ∨ headIsArray st.coll.tbl args = true then []
       else [ifEntry 1 3 "scope::set_from_array".toList]) st
      (runScriptCmd "set_from_array".toList args vars st) := by
  unfold runScriptCmd
  cases args with
  | nil =>
    rw [sfa_run_nil]
    refine ⟨⟨⟨_, rfl⟩, fun _ => rfl⟩, ⟨rfl, rfl, rfl, rfl, rfl, fun _ _ => rfl, fun _ _ => rfl, fun _ _ => rfl⟩⟩
  | cons a rest =>
    have hSA : Coll.handleName (st.coll.next + 1) ≠ Coll.handleName st.coll.next :=
      fun e => by have := Coll.handleName_inj e; omega
    have hkey : ∀ n, underPrefix sScope (flowKey (pubSt sScope (a :: rest) st) n) = true :=
      fun n => lineKey_under sScope n
    obtain ⟨r, hr, h⟩ := sfa_run 4 a rest vars st hfree hfree1 (fun e => hne (by simp [e])) (hok a rfl) hstale hcI hcF
    rw [show scriptDepth = 4 + 2 from rfl, hr _ (hfuel a rfl)]
    rcases h with ⟨L, hv, rfl⟩ | ⟨hnl, rfl⟩
    · have hinv := sfaTbl_inv (pubSt sScope (a :: rest) st) L
      rw [show (pubSt sScope (a :: rest) st).coll.next = st.coll.next + 1 from rfl] at hinv
      simp only [headIsArray_of_list rest hv, List.cons_ne_nil, if_false, if_true, false_or]
      refine ⟨?_, ⟨rfl, rfl, rfl, rfl, rfl, ?_, ?_, ?_⟩⟩
      · unfold AgreesAlloc
        simp only [Coll.exec, cmdSetFromArray, hv, putHandle]
        refine ⟨Coll.handleName st.coll.next, Coll.handleName (st.coll.next + 1), rfl, rfl, hfree1, ?_, ?_, ?_⟩
        · simp only [sfaOkFinal, tget_tremove]
          rw [if_neg hSA, hinv.set]; rfl
        · simp only [sfaOkFinal, tget_tremove]
          rw [if_neg hSA, hinv.set, tget_tinsert, if_pos rfl]
          rfl
        · intro key hkey'
          simp only [sfaOkFinal, tget_tremove]
          by_cases e : key = Coll.handleName st.coll.next
          · simp [e, hfree]
          · rw [if_neg e, hinv.other key hkey', tget_tinsert, if_neg hkey']
            simp only [pubSt, tget_tinsert]
            rw [if_neg e]
      · intro key hkey'
        exact get_ifMetaAfter_frame sScope _ _ _ (hkey 1) key hkey'
      · intro key hkey'
        exact get_forMetaAfter_frame sScope _ _ _ (hkey 6) key hkey'
      · intro key hkey'
        show ((_ : KV Str).put _ _).get key = _
        rw [get_put_frame sScope _ _ _ (hkey 8) key hkey', get_put_frame sScope _ _ _ (hkey 3) key hkey']
        rfl
    · have hspec : (Coll.exec st.coll .setFromArray (a :: rest)).2 = .err := by
        simp only [Coll.exec, cmdSetFromArray]
      simp only [headIsArray_of_not rest hnl, List.cons_ne_nil, if_false, false_or, Bool.false_eq_true]
      refine ⟨?_, ⟨rfl, rfl, rfl, rfl, rfl, ?_, fun _ _ => rfl, ?_⟩⟩
      · unfold AgreesAlloc
        rw [hspec]
        refine ⟨⟨_, rfl⟩, ?_⟩
        intro h
        simp only [sfaErrFinal, pubSt, tget_tremove, tget_tinsert]
        by_cases e : h = Coll.handleName st.coll.next
        · simp [e, hfree]
        · simp [e]
      · intro key hkey'
        exact get_ifMetaAfter_frame sScope _ _ _ (hkey 1) key hkey'
      · intro key hkey'
        exact get_put_frame sScope _ _ _ (hkey 3) key hkey'

/-- the hypotheses about the flow-control state are INVARIANTS: they hold again in the state a
    `concat` run leaves (and `LoopFrame` says the run does not disturb those of the other
    scripts: call stacks as before, caches changed only under the own prefix) -/
theorem C12_script_concat_reestablishes (args : List Str) (vars : Vars) (st : ScriptSt)
    (hstale : NoStaleFor "scope::concat".toList st.forStack)
    (hcache : CacheOK st.forMeta "scope::concat::2".toList 4)
    (hempty : args = [] → ∀ l, tget st.coll.tbl ((vars.get "scope::concat::arguments".toList).getD []) ≠ some (.list l))
    (hfuel : 3 * args.length + 6 ≤ scriptFuel) :
    NoStaleFor "scope::concat".toList (runScriptCmd "concat".toList args vars st).2.2.forStack ∧
    CacheOK (runScriptCmd "concat".toList args vars st).2.2.forMeta "scope::concat::2".toList 4 := by
  unfold runScriptCmd
  rw [show scriptDepth = 5 + 1 from rfl, concat_run 5 scriptFuel args vars st hstale hcache hempty hfuel]
  exact ⟨hstale, cacheOK_forMetaAfter _ _ _ hcache⟩

/-- the same for `set_from_array`, whichever way the run ends (in particular a run that answers
    `Error` leaves NO for-in entry behind: its `trigger_error` is outside the loop - unlike
    `array_concat`, finding C12-array-concat-after-error) -/
theorem C12_script_set_from_array_reestablishes (args : List Str) (vars : Vars) (st : ScriptSt)
    (hfree : tget st.coll.tbl (Coll.handleName st.coll.next) = none)
    (hfree1 : tget st.coll.tbl (Coll.handleName (st.coll.next + 1)) = none)
    (hne : args.head? ≠ some (Coll.handleName st.coll.next))
    (hok : ∀ a, args.head? = some a → ArgOK a = true)
    (hstale : NoStaleFor "scope::set_from_array".toList st.forStack)
    (hcI : IfCacheOK st.ifMeta "scope::set_from_array::1".toList 3)
    (hcF : CacheOK st.forMeta "scope::set_from_array::6".toList 8)
    (hfuel : ∀ a, args.head? = some a → 3 * arrLen st.coll.tbl a + 8 ≤ scriptFuel) :
    NoStaleFor "scope::set_from_array".toList (runScriptCmd "set_from_array".toList args vars st).2.2.forStack ∧
    IfCacheOK (runScriptCmd "set_from_array".toList args vars st).2.2.ifMeta "scope::set_from_array::1".toList 3 ∧
    CacheOK (runScriptCmd "set_from_array".toList args vars st).2.2.forMeta "scope::set_from_array::6".toList 8 := by
  unfold runScriptCmd
  cases args with
  | nil =>
    rw [sfa_run_nil]
    exact ⟨hstale, hcI, hcF⟩
  | cons a rest =>
    obtain ⟨r, hr, h⟩ := sfa_run 4 a rest vars st hfree hfree1 (fun e => hne (by simp [e])) (hok a rfl) hstale hcI hcF
    rw [show scriptDepth = 4 + 2 from rfl, hr _ (hfuel a rfl)]
    have hk := And.intro ((flowKey_lineKey (s := pubSt sScope (a :: rest) st) rfl 1).trans sfa_keys.1)
      ((flowKey_lineKey (s := pubSt sScope (a :: rest) st) rfl 6).trans sfa_keys.2)
    have hI : IfCacheOK st.ifMeta (flowKey (pubSt sScope (a :: rest) st) 1) 3 := hk.1 ▸ hcI
    have hF : CacheOK st.forMeta (flowKey (pubSt sScope (a :: rest) st) 6) 8 := hk.2 ▸ hcF
    rw [← hk.1, ← hk.2]
    rcases h with ⟨L, _, rfl⟩ | ⟨_, rfl⟩
    · exact ⟨hstale, ifCacheOK_ifMetaAfter _ _ _ hI, cacheOK_forMetaAfter _ _ _ hF⟩
    · exact ⟨hstale, ifCacheOK_ifMetaAfter _ _ _ hI, hF⟩

/-- the mechanism of finding C12-array-concat-after-error FOR EVERY INPUT: whenever the first
    argument of `array_concat` names no array (any further arguments, any variables, any state
    satisfying the invariants), the run answers `Error` - like the specified function - from
    INSIDE its validation loop and leaves that loop's for-in entry (iteration 1) on top of the
    for-in call stack: `NoStaleFor` is false afterwards, which is the hypothesis every loop
    theorem above needs (and the next `array_concat` resumes the stale iteration:
    `C12_script_array_concat_after_error`). -/
theorem C12_script_array_concat_error_leaves_entry (a : Str) (rest : List Str) (vars : Vars) (st : ScriptSt)
    (hne : a ≠ Coll.handleName st.coll.next) (hok : ArgOK a = true)
    (hnl : ∀ l, tget st.coll.tbl a ≠ some (.list l))
    (hstale : NoStaleFor "scope::array_concat".toList st.forStack)
    (hcF : CacheOK st.forMeta "scope::array_concat::1".toList 5)
    (hcI : IfCacheOK st.ifMeta "scope::array_concat::2".toList 4) :
    (runScriptCmd "array_concat".toList (a :: rest) vars st).1 =
      .error "Invalid input, non array handle or array not found.".toList ∧
    (Coll.exec st.coll .arrayConcat (a :: rest)).2 = .err ∧
    (runScriptCmd "array_concat".toList (a :: rest) vars st).2.2.forStack =
      { iteration := 1, start := 1, stop := 5, ctx := "scope::array_concat".toList } :: st.forStack ∧
    ¬ NoStaleFor "scope::array_concat".toList (runScriptCmd "array_concat".toList (a :: rest) vars st).2.2.forStack := by
  unfold runScriptCmd
  rw [show scriptFuel = 99996 + 4 from rfl, show scriptDepth = 4 + 2 from rfl, ac_runF_err 4 99996 a rest vars st hne hok hnl hstale hcF hcI]
  refine ⟨rfl, ?_, rfl, ?_⟩
  · simp only [Coll.exec, cmdArrayConcat, lists?]
  · intro h
    exact h _ rfl rfl


/-! ### `map_contains_value`: a script command inside a command condition, a loop with an early exit

`not map_is_empty ${argument::1}` runs the SCRIPT `map_is_empty` from its source, nested (one
more temporary argument array, one more allocator name; the nested wrapper clears ITS prefix
`scope::map_is_empty::` in the same variable map: the caller's variables under that prefix are
gone after `map_contains_value` - in /repo too).  The loop runs over the key array `map_keys`
made (ascending in the model, hash order in the code); a hit releases the key array INSIDE the
loop, the `for` line then finds no next cell and leaves the loop (early exit), `set ${found}`
answers `true`.  Each passed `if` leaves its if-call entry on the if call stack (`end_if` never
pops): `mcvPushed`.

Hypotheses beyond those of `set_from_array`:
  * `hfree2`: three names are drawn (argument array, nested argument array, key array);
  * `hc4` / `hc12` / `hc8`: the cached block ends of the script's three flow lines are right;
  * `hkh`: for an EMPTY map the tail `release ${scope::map_contains_value::key_array_handle}`
    reads a variable the body never set: the caller's value of it (if any) must not name a live
    handle (it would be released);
  * `hnodup`: the map's keys are pairwise different (an invariant of the collection model's
    maps, `minsert` keeps it; the specified function looks at all entries, the script at the
    entry `map_get` finds for each key).
The ANSWER does not depend on the order of the key array: `C12_script_map_contains_value_key_order`. -/

/-- fewer than two arguments: `Error`, nothing touched - like the specified function -/
theorem C12_script_map_contains_value_few (args : List Str) (vars : Vars) (st : ScriptSt) (hfew : args.length < 2) :
    runScriptCmd "map_contains_value".toList args vars st = (.error invalidArgsMsg, vars, st) ∧
    (Coll.exec st.coll .mapContainsValue args).2 = .err := by
  constructor
  · unfold runScriptCmd
    rw [mcv_entry, aliasRun_few _ _ _ _ _ _ _ hfew]
  · match args, hfew with
    | [], _ => rfl
    | [_], _ => rfl

/-- the answer is the same over every key order: for ANY list `K` with the elements of the
    map's keys, "some key of `K` carries the value" (what the loop computes, `mcv_loop`, for any
    `K` in the key array) is "the value occurs among the map's values" (the specified function) -/
theorem C12_script_map_contains_value_key_order (m : List (Str × Item)) (hn : (m.map Prod.fst).Nodup) (v : Str)
    (K K' : List Str) (hK : ∀ k, k ∈ K ↔ k ∈ m.map Prod.fst) (hK' : ∀ k, k ∈ K' ↔ k ∈ m.map Prod.fst) :
    K.any (hitB m v) = K'.any (hitB m v) ∧
    K.any (hitB m v) = (m.map fun kv => kv.2.render).contains v := by
  rw [any_hitB_eq m hn v K hK, any_hitB_eq m hn v K' hK']
  exact ⟨rfl, rfl⟩

/-- `map_contains_value` from source = the specified function, for every map handle / value /
    further arguments, every variable map and state: the same answer (`true` / `false` / both an
    `Error`), the table lookup-equal to the caller's (both temporary arrays and the key array are
    gone again), and the frame. -/
theorem C12_script_map_contains_value_correct (a v : Str) (rest : List Str) (vars : Vars) (st : ScriptSt)
    (hfree : tget st.coll.tbl (Coll.handleName st.coll.next) = none)
    (hfree1 : tget st.coll.tbl (Coll.handleName (st.coll.next + 1)) = none)
    (hfree2 : tget st.coll.tbl (Coll.handleName (st.coll.next + 2)) = none)
    (hok : ArgOK a = true)
    (hstale : NoStaleFor "scope::map_contains_value".toList st.forStack)
    (hc4 : IfCacheOK st.ifMeta "scope::map_contains_value::4".toList 16)
    (hc12 : IfCacheOK st.ifMeta "scope::map_contains_value::12".toList 14)
    (hc8 : CacheOK st.forMeta "scope::map_contains_value::8".toList 15)
    (hkh : tget st.coll.tbl ((vars.get "scope::map_contains_value::key_array_handle".toList).getD []) = none)
    (hnodup : ∀ m, tget st.coll.tbl a = some (.map m) → (m.map Prod.fst).Nodup)
    (hfuel : 6 * mapLen st.coll.tbl a + 16 ≤ scriptFuel) :
    Agrees (runScriptCmd "map_contains_value".toList (a :: v :: rest) vars st).1
      (Coll.exec st.coll .mapContainsValue (a :: v :: rest)).2 ∧
    LookupEq (runScriptCmd "map_contains_value".toList (a :: v :: rest) vars st).2.2.coll.tbl st.coll.tbl ∧
    LoopFrame "scope::map_contains_value".toList (mcvAlloc st.coll.tbl a)
      (clear "scope::map_contains_value".toList (clear "scope::map_is_empty".toList vars))
      (mcvPushed st.coll.tbl a v) st
      (runScriptCmd "map_contains_value".toList (a :: v :: rest) vars st) := by
  have hpost := (mcv_run 4 scriptFuel a v rest vars st hfree hfree1 hfree2 hok hstale hc4 hc12 hc8 hkh hfuel).2
  unfold runScriptCmd
  rw [show scriptDepth = 4 + 2 from rfl]
  refine ⟨?_, hpost.tbl, hpost.frame⟩
  rw [hpost.res]
  unfold mcvRes
  simp only [Coll.exec, cmdMapContainsValue]
  cases hv : tget st.coll.tbl a with
  | none => trivial
  | some w =>
    cases w with
    | map m =>
      show some (boolStr _) = some (boolStr _)
      rw [any_hitB_eq m (hnodup m hv) v _ (fun k => mem_sortStr k _)]
    | _ => trivial

/-- the hypotheses about the flow-control state hold again after every run of
    `map_contains_value` (no for-in entry of the script stays: a hit leaves the loop through the
    `for` line, not through an error) -/
theorem C12_script_map_contains_value_reestablishes (a v : Str) (rest : List Str) (vars : Vars) (st : ScriptSt)
    (hfree : tget st.coll.tbl (Coll.handleName st.coll.next) = none)
    (hfree1 : tget st.coll.tbl (Coll.handleName (st.coll.next + 1)) = none)
    (hfree2 : tget st.coll.tbl (Coll.handleName (st.coll.next + 2)) = none)
    (hok : ArgOK a = true)
    (hstale : NoStaleFor "scope::map_contains_value".toList st.forStack)
    (hc4 : IfCacheOK st.ifMeta "scope::map_contains_value::4".toList 16)
    (hc12 : IfCacheOK st.ifMeta "scope::map_contains_value::12".toList 14)
    (hc8 : CacheOK st.forMeta "scope::map_contains_value::8".toList 15)
    (hkh : tget st.coll.tbl ((vars.get "scope::map_contains_value::key_array_handle".toList).getD []) = none)
    (hfuel : 6 * mapLen st.coll.tbl a + 16 ≤ scriptFuel) :
    NoStaleFor "scope::map_contains_value".toList (runScriptCmd "map_contains_value".toList (a :: v :: rest) vars st).2.2.forStack ∧
    IfCacheOK (runScriptCmd "map_contains_value".toList (a :: v :: rest) vars st).2.2.ifMeta "scope::map_contains_value::4".toList 16 ∧
    IfCacheOK (runScriptCmd "map_contains_value".toList (a :: v :: rest) vars st).2.2.ifMeta "scope::map_contains_value::12".toList 14 ∧
    CacheOK (runScriptCmd "map_contains_value".toList (a :: v :: rest) vars st).2.2.forMeta "scope::map_contains_value::8".toList 15 := by
  have hpost := (mcv_run 4 scriptFuel a v rest vars st hfree hfree1 hfree2 hok hstale hc4 hc12 hc8 hkh hfuel).2
  unfold runScriptCmd
  rw [show scriptDepth = 4 + 2 from rfl]
  refine ⟨by rw [hpost.frame.forStack]; exact hstale, ?_, ?_, ?_⟩
  · rw [← mcv_keys.1]; exact hpost.c4
  · rw [← mcv_keys.2.1]; exact hpost.c12
  · rw [← mcv_keys.2.2]; exact hpost.c8


/-! ### `array_concat`, success path: nested loops

For every argument list whose elements all name live arrays (`hlive`; each of the decidable C09
class `ArgOK`, which every handle name is): the validation loop passes (3 instructions per
argument), `array` draws the second allocator name, the outer loop runs the inner loop once per
argument (`array_push` per cell; the inner `for` line re-enters its block lookup on every outer
iteration), `set ${array}` answers the handle.  The other path (`hlive` false at the first
argument) is `C12_script_array_concat_error_leaves_entry`. -/

/-- `array_concat` from source = the specified function up to the NAME of the new handle
    (`AgreesAlloc`), for every non-empty argument list of live arrays, every variable map and
    state; the frame: 2 names drawn, variables = the caller's minus the command's prefix, both
    call stacks as before, caches changed only under the own prefix.  Instruction bound
    `6·n + 3·(total number of cells) + 9`. -/
theorem C12_script_array_concat_correct (a : Str) (rest : List Str) (vars : Vars) (st : ScriptSt)
    (hfree : tget st.coll.tbl (Coll.handleName st.coll.next) = none)
    (hfree1 : tget st.coll.tbl (Coll.handleName (st.coll.next + 1)) = none)
    (hlive : ∀ x ∈ a :: rest, ∃ l, tget st.coll.tbl x = some (.list l))
    (hok : ∀ x ∈ a :: rest, ArgOK x = true)
    (hstale : NoStaleFor "scope::array_concat".toList st.forStack)
    (hc1 : CacheOK st.forMeta "scope::array_concat::1".toList 5)
    (hc2 : IfCacheOK st.ifMeta "scope::array_concat::2".toList 4)
    (hc9 : CacheOK st.forMeta "scope::array_concat::9".toList 13)
    (hc10 : CacheOK st.forMeta "scope::array_concat::10".toList 12)
    (hfuel : 6 * (a :: rest).length + 3 * (acCells st.coll.tbl (a :: rest)).length + 9 ≤ scriptFuel) :
    AgreesAlloc st.coll (Coll.exec st.coll .arrayConcat (a :: rest))
      (runScriptCmd "array_concat".toList (a :: rest) vars st).1
      (runScriptCmd "array_concat".toList (a :: rest) vars st).2.2.coll.tbl ∧
    LoopFrame "scope::array_concat".toList 2 (clear "scope::array_concat".toList vars) [] st
      (runScriptCmd "array_concat".toList (a :: rest) vars st) := by
  have hpost := (ac_run 4 scriptFuel a rest vars st hfree hfree1 hlive hok hstale hc1 hc2 hc9 hc10 hfuel).2
  unfold runScriptCmd
  rw [show scriptDepth = 4 + 2 from rfl]
  refine ⟨?_, hpost.frame⟩
  obtain ⟨ls, hls⟩ := lists?_of_live st.coll.tbl (a :: rest) hlive
  unfold AgreesAlloc
  simp only [Coll.exec, cmdArrayConcat, hls, putHandle]
  refine ⟨Coll.handleName st.coll.next, Coll.handleName (st.coll.next + 1), rfl, hpost.res, hfree1, ?_, ?_, hpost.other⟩
  · rw [hpost.arr]; rfl
  · rw [hpost.arr, tget_tinsert, if_pos rfl, acCells_lists st.coll.tbl (a :: rest) ls hls]

/-- `array_concat` WITHOUT arguments = the specified function (a new empty array; same handle
    name: no temporary argument array is made).  `hempty`: the script's two loops read the
    caller's variable `scope::array_concat::arguments` (the wrapper sets it only for a non-empty
    argument list); its value (if any) must not name an array. -/
theorem C12_script_array_concat_empty (vars : Vars) (st : ScriptSt)
    (hfree : tget st.coll.tbl (Coll.handleName st.coll.next) = none)
    (hstale : NoStaleFor "scope::array_concat".toList st.forStack)
    (hc1 : CacheOK st.forMeta "scope::array_concat::1".toList 5)
    (hc9 : CacheOK st.forMeta "scope::array_concat::9".toList 13)
    (hempty : ∀ l, tget st.coll.tbl ((vars.get "scope::array_concat::arguments".toList).getD []) ≠ some (.list l)) :
    AgreesAlloc st.coll (Coll.exec st.coll .arrayConcat [])
      (runScriptCmd "array_concat".toList [] vars st).1
      (runScriptCmd "array_concat".toList [] vars st).2.2.coll.tbl ∧
    (runScriptCmd "array_concat".toList [] vars st).2.1 = clear "scope::array_concat".toList vars ∧
    (runScriptCmd "array_concat".toList [] vars st).2.2.forStack = st.forStack ∧
    (runScriptCmd "array_concat".toList [] vars st).2.2.ifStack = st.ifStack ∧
    (runScriptCmd "array_concat".toList [] vars st).2.2.ctx = st.ctx := by
  unfold runScriptCmd
  rw [show scriptFuel = 99991 + 9 from rfl, show scriptDepth = 5 + 1 from rfl,
    ac_runF_nil 5 99991 vars st hstale (by rw [ac_keys.1]; exact hc1) (by rw [ac_keys.2.2.1]; exact hc9) hempty]
  refine ⟨?_, rfl, rfl, rfl, rfl⟩
  unfold AgreesAlloc
  simp only [Coll.exec, cmdArrayConcat, lists?, putHandle]
  refine ⟨Coll.handleName st.coll.next, Coll.handleName st.coll.next, rfl, rfl, hfree, ?_, ?_, ?_⟩
  · show (tget (tinsert st.coll.tbl (Coll.handleName st.coll.next) (.list [])) (Coll.handleName st.coll.next)).isSome = true
    rw [tget_tinsert, if_pos rfl]; rfl
  · show tget (tinsert st.coll.tbl (Coll.handleName st.coll.next) (.list [])) _ = tget (tinsert st.coll.tbl _ _) _
    rfl
  · intro k hk
    show tget (tinsert st.coll.tbl (Coll.handleName st.coll.next) (.list [])) k = _
    rw [tget_tinsert, if_neg hk]

/-- the hypotheses about the flow-control state hold again after a successful `array_concat`
    (the for-in entries of all three loops are popped; contrast
    `C12_script_array_concat_error_leaves_entry`) -/
theorem C12_script_array_concat_reestablishes (a : Str) (rest : List Str) (vars : Vars) (st : ScriptSt)
    (hfree : tget st.coll.tbl (Coll.handleName st.coll.next) = none)
    (hfree1 : tget st.coll.tbl (Coll.handleName (st.coll.next + 1)) = none)
    (hlive : ∀ x ∈ a :: rest, ∃ l, tget st.coll.tbl x = some (.list l))
    (hok : ∀ x ∈ a :: rest, ArgOK x = true)
    (hstale : NoStaleFor "scope::array_concat".toList st.forStack)
    (hc1 : CacheOK st.forMeta "scope::array_concat::1".toList 5)
    (hc2 : IfCacheOK st.ifMeta "scope::array_concat::2".toList 4)
    (hc9 : CacheOK st.forMeta "scope::array_concat::9".toList 13)
    (hc10 : CacheOK st.forMeta "scope::array_concat::10".toList 12)
    (hfuel : 6 * (a :: rest).length + 3 * (acCells st.coll.tbl (a :: rest)).length + 9 ≤ scriptFuel) :
    NoStaleFor "scope::array_concat".toList (runScriptCmd "array_concat".toList (a :: rest) vars st).2.2.forStack ∧
    CacheOK (runScriptCmd "array_concat".toList (a :: rest) vars st).2.2.forMeta "scope::array_concat::1".toList 5 ∧
    IfCacheOK (runScriptCmd "array_concat".toList (a :: rest) vars st).2.2.ifMeta "scope::array_concat::2".toList 4 ∧
    CacheOK (runScriptCmd "array_concat".toList (a :: rest) vars st).2.2.forMeta "scope::array_concat::9".toList 13 ∧
    CacheOK (runScriptCmd "array_concat".toList (a :: rest) vars st).2.2.forMeta "scope::array_concat::10".toList 12 := by
  have hpost := (ac_run 4 scriptFuel a rest vars st hfree hfree1 hlive hok hstale hc1 hc2 hc9 hc10 hfuel).2
  unfold runScriptCmd
  rw [show scriptDepth = 4 + 2 from rfl]
  refine ⟨by rw [hpost.frame.forStack]; exact hstale, ?_, ?_, ?_, ?_⟩
  · rw [← ac_keys.1]; exact hpost.c1
  · rw [← ac_keys.2.1]; exact hpost.c2
  · rw [← ac_keys.2.2.1]; exact hpost.c9
  · rw [← ac_keys.2.2.2]; exact hpost.c10


/-! ### `array_contains`: a loop that is left by unsetting the handle variable, `calc` in the body

No value of the caller is re-read as script text by this body: the searched value and the cells
reach `equals` through `${…}` bindings only, the conditions are `if ${found}` on `true` / `false`.
So NO class restriction on the arguments (no `ArgOK`) is needed - every handle text, every value.
Hypotheses besides the usual ones:
  * `hne`: the first argument is not the (not yet drawn) name of the temporary argument array
    (counter-allocator artefact, as for `array_is_empty`);
  * `hE`: the EMPTY string names no array: after a hit the script unsets `argument::1` and the
    `for` line reads the handle `""`;
  * `hfuel`: the budget covers `7·n + 12` instructions (then the counter stays far below 2^53 and
    `calc ${counter} + 1` prints a plain numeral: `runCalc_succ`). -/

/-- fewer than two arguments: `Error`, nothing touched - like the specified function -/
theorem C12_script_array_contains_few (args : List Str) (vars : Vars) (st : ScriptSt) (hfew : args.length < 2) :
    runScriptCmd "array_contains".toList args vars st = (.error invalidArgsMsg, vars, st) ∧
    (Coll.exec st.coll .arrayContains args).2 = .err := by
  constructor
  · unfold runScriptCmd
    rw [kc_entry, aliasRun_few _ _ _ _ _ _ _ hfew]
  · match args, hfew with
    | [], _ => rfl
    | [_], _ => rfl

/-- `array_contains` from source = the specified function (index of the first equal cell, else
    `false`; `false` for a handle that names no array), for every handle text, every value, every
    variable map and state; the table reads as before; the frame (a hit leaves the entry of its
    `if` block on the if call stack). -/
theorem C12_script_array_contains_correct (a v : Str) (rest : List Str) (vars : Vars) (st : ScriptSt)
    (hfree : tget st.coll.tbl (Coll.handleName st.coll.next) = none)
    (hne : a ≠ Coll.handleName st.coll.next)
    (hstale : NoStaleFor "scope::array_contains".toList st.forStack)
    (hc5 : CacheOK st.forMeta "scope::array_contains::5".toList 14)
    (hc8 : IfCacheOK st.ifMeta "scope::array_contains::8".toList 11)
    (hE : ∀ l, tget st.coll.tbl [] ≠ some (.list l))
    (hfuel : 7 * arrLen st.coll.tbl a + 12 ≤ scriptFuel) :
    Agrees (runScriptCmd "array_contains".toList (a :: v :: rest) vars st).1
      (Coll.exec st.coll .arrayContains (a :: v :: rest)).2 ∧
    LookupEq (runScriptCmd "array_contains".toList (a :: v :: rest) vars st).2.2.coll.tbl st.coll.tbl ∧
    LoopFrame "scope::array_contains".toList 1 (clear "scope::array_contains".toList vars)
      (if kcHit st.coll.tbl a v then [ifEntry 8 11 "scope::array_contains".toList] else []) st
      (runScriptCmd "array_contains".toList (a :: v :: rest) vars st) := by
  have hpost := (kc_run 5 scriptFuel a v rest vars st hfree hne hstale hc5 hc8 hE (lt_two53_of_fuel hfuel) hfuel).2
  unfold runScriptCmd
  rw [show scriptDepth = 5 + 1 from rfl]
  refine ⟨?_, hpost.tbl, hpost.frame⟩
  rw [hpost.res]
  unfold kcResT kcRes
  simp only [Coll.exec, cmdArrayContains]
  cases hv : tget st.coll.tbl a with
  | none => exact rfl
  | some w =>
    cases w with
    | list l =>
      simp only
      cases indexOfStr v (l.map Item.render) 0 <;> exact rfl
    | _ => exact rfl

theorem C12_script_array_contains_reestablishes (a v : Str) (rest : List Str) (vars : Vars) (st : ScriptSt)
    (hfree : tget st.coll.tbl (Coll.handleName st.coll.next) = none)
    (hne : a ≠ Coll.handleName st.coll.next)
    (hstale : NoStaleFor "scope::array_contains".toList st.forStack)
    (hc5 : CacheOK st.forMeta "scope::array_contains::5".toList 14)
    (hc8 : IfCacheOK st.ifMeta "scope::array_contains::8".toList 11)
    (hE : ∀ l, tget st.coll.tbl [] ≠ some (.list l))
    (hfuel : 7 * arrLen st.coll.tbl a + 12 ≤ scriptFuel) :
    NoStaleFor "scope::array_contains".toList (runScriptCmd "array_contains".toList (a :: v :: rest) vars st).2.2.forStack ∧
    CacheOK (runScriptCmd "array_contains".toList (a :: v :: rest) vars st).2.2.forMeta "scope::array_contains::5".toList 14 ∧
    IfCacheOK (runScriptCmd "array_contains".toList (a :: v :: rest) vars st).2.2.ifMeta "scope::array_contains::8".toList 11 ∧
    (∀ l, tget (runScriptCmd "array_contains".toList (a :: v :: rest) vars st).2.2.coll.tbl [] ≠ some (.list l)) := by
  have hpost := (kc_run 5 scriptFuel a v rest vars st hfree hne hstale hc5 hc8 hE (lt_two53_of_fuel hfuel) hfuel).2
  unfold runScriptCmd
  rw [show scriptDepth = 5 + 1 from rfl]
  refine ⟨by rw [hpost.frame.forStack]; exact hstale, ?_, ?_, ?_⟩
  · rw [← kc_keys.1]; exact hpost.c5
  · rw [← kc_keys.2]; exact hpost.c8
  · intro l; rw [hpost.tbl []]; exact hE l


/-! ### `array_join`, for the class of arguments the body re-reads unchanged

The body puts TWO caller values into command conditions, which rebuild a script line from the
values and parse it again (the C09 path): the handle in `if not is_array …` / `if not
array_is_empty …`, the SEPARATOR in `if not is_empty …`.  The positive theorem is for the class
where that second reading is the identity: `ArgOK a` and `ArgOK sep` (`ArgOK`, the decidable
class of Sdk/Reserialize.lean: stable under the second expansion - no `%`, no `${` -, no line
break, no `#` / quote / leading `=` / trailing blank in a bare value; the EMPTY separator, `,`,
`, `, `-`, multi-byte text … are in it; TAB, CR, `=z`, `${v}` are not).  Outside the class the
recorded finding C12-array-join-separator-reread applies: `C12_script_array_join_separator_reread`
(Props/C12ScriptsNatives.lean) stays as the refutation.  The cells are never re-read: no
restriction on the array's content.
Further hypotheses: `hne` (counter-allocator artefact), `hstr` (the caller has no variable
`scope::array_join::string`: the loop appends to it without initialising it), `hsize` (the
joined text plus one separator stays below 2^53 bytes, so that `calc ${stringlen} -
${separatorlen}` is exact), the flow-state invariants, the budget `3·n + 16`.
`not array_is_empty …` runs the SCRIPT `array_is_empty` nested (a second temporary array and
allocator name; its wrapper clears `scope::array_is_empty::` in the caller's variables). -/

/-- fewer than two arguments: `Error`, nothing touched - like the specified function -/
theorem C12_script_array_join_few (args : List Str) (vars : Vars) (st : ScriptSt) (hfew : args.length < 2) :
    runScriptCmd "array_join".toList args vars st = (.error invalidArgsMsg, vars, st) ∧
    (Coll.exec st.coll .arrayJoin args).2 = .err := by
  constructor
  · unfold runScriptCmd
    rw [aj_entry, aliasRun_few _ _ _ _ _ _ _ hfew]
  · match args, hfew with
    | [], _ => rfl
    | [_], _ => rfl

/-- `array_join` from source = the specified function (`joinStr`: the cells with the separator
    BETWEEN them; `Error` for a handle that names no array), for handle and separator of the class
    `ArgOK`, every array content, every variable map and state. -/
theorem C12_script_array_join_correct (a sep : Str) (rest : List Str) (vars : Vars) (st : ScriptSt)
    (hfree : tget st.coll.tbl (Coll.handleName st.coll.next) = none)
    (hfree1 : tget st.coll.tbl (Coll.handleName (st.coll.next + 1)) = none)
    (hne : a ≠ Coll.handleName st.coll.next)
    (hok : ArgOK a = true) (hsepOK : ArgOK sep = true)
    (hstale : NoStaleFor "scope::array_join".toList st.forStack)
    (hc1 : IfCacheOK st.ifMeta "scope::array_join::1".toList 3)
    (hc5 : IfCacheOK st.ifMeta "scope::array_join::5".toList 16)
    (hc10 : IfCacheOK st.ifMeta "scope::array_join::10".toList 15)
    (hc6 : CacheOK st.forMeta "scope::array_join::6".toList 8)
    (hstr : vars.get "scope::array_join::string".toList = none)
    (hsize : ∀ l, tget st.coll.tbl a = some (.list l) →
      (utf8Encode (joinStr sep (l.map Item.render))).length + (utf8Encode sep).length < Calc.two53)
    (hfuel : 3 * arrLen st.coll.tbl a + 16 ≤ scriptFuel) :
    Agrees (runScriptCmd "array_join".toList (a :: sep :: rest) vars st).1
      (Coll.exec st.coll .arrayJoin (a :: sep :: rest)).2 ∧
    LookupEq (runScriptCmd "array_join".toList (a :: sep :: rest) vars st).2.2.coll.tbl st.coll.tbl ∧
    LoopFrame "scope::array_join".toList (if ajIsArr st.coll.tbl a then 2 else 1)
      (if ajIsArr st.coll.tbl a then
        clear "scope::array_join".toList (clear "scope::array_is_empty".toList vars)
       else clear "scope::array_join".toList vars)
      (ajPushed st.coll.tbl a sep) st
      (runScriptCmd "array_join".toList (a :: sep :: rest) vars st) := by
  have hpost := (aj_run 3 scriptFuel a sep rest vars st hfree hfree1 hne hok hsepOK hstale hc1 hc5 hc10 hc6 hstr hsize
    hfuel).2
  unfold runScriptCmd
  rw [show scriptDepth = 3 + 3 from rfl]
  refine ⟨?_, hpost.tbl, hpost.frame⟩
  rw [hpost.res]
  unfold ajRes
  simp only [Coll.exec, cmdArrayJoin]
  cases hv : tget st.coll.tbl a with
  | none => trivial
  | some w => cases w <;> first | exact rfl | trivial

theorem C12_script_array_join_reestablishes (a sep : Str) (rest : List Str) (vars : Vars) (st : ScriptSt)
    (hfree : tget st.coll.tbl (Coll.handleName st.coll.next) = none)
    (hfree1 : tget st.coll.tbl (Coll.handleName (st.coll.next + 1)) = none)
    (hne : a ≠ Coll.handleName st.coll.next)
    (hok : ArgOK a = true) (hsepOK : ArgOK sep = true)
    (hstale : NoStaleFor "scope::array_join".toList st.forStack)
    (hc1 : IfCacheOK st.ifMeta "scope::array_join::1".toList 3)
    (hc5 : IfCacheOK st.ifMeta "scope::array_join::5".toList 16)
    (hc10 : IfCacheOK st.ifMeta "scope::array_join::10".toList 15)
    (hc6 : CacheOK st.forMeta "scope::array_join::6".toList 8)
    (hstr : vars.get "scope::array_join::string".toList = none)
    (hsize : ∀ l, tget st.coll.tbl a = some (.list l) →
      (utf8Encode (joinStr sep (l.map Item.render))).length + (utf8Encode sep).length < Calc.two53)
    (hfuel : 3 * arrLen st.coll.tbl a + 16 ≤ scriptFuel) :
    NoStaleFor "scope::array_join".toList (runScriptCmd "array_join".toList (a :: sep :: rest) vars st).2.2.forStack ∧
    IfCacheOK (runScriptCmd "array_join".toList (a :: sep :: rest) vars st).2.2.ifMeta "scope::array_join::1".toList 3 ∧
    IfCacheOK (runScriptCmd "array_join".toList (a :: sep :: rest) vars st).2.2.ifMeta "scope::array_join::5".toList 16 ∧
    IfCacheOK (runScriptCmd "array_join".toList (a :: sep :: rest) vars st).2.2.ifMeta "scope::array_join::10".toList 15 ∧
    CacheOK (runScriptCmd "array_join".toList (a :: sep :: rest) vars st).2.2.forMeta "scope::array_join::6".toList 8 := by
  have hpost := (aj_run 3 scriptFuel a sep rest vars st hfree hfree1 hne hok hsepOK hstale hc1 hc5 hc10 hc6 hstr hsize
    hfuel).2
  unfold runScriptCmd
  rw [show scriptDepth = 3 + 3 from rfl]
  refine ⟨by rw [hpost.frame.forStack]; exact hstale, ?_, ?_, ?_, ?_⟩
  · rw [← aj_keys.1]; exact hpost.c1
  · rw [← aj_keys.2.1]; exact hpost.c5
  · rw [← aj_keys.2.2.1]; exact hpost.c10
  · rw [← aj_keys.2.2.2]; exact hpost.c6

/-! ### non-vacuity -/

/-- an empty and a non-empty array, a map with an empty-string value, a wrong-kind handle -/
example :
    let st : ScriptSt := { coll := (Coll.run {} [(.array, ["a".toList]), (.array, []), (.map, []),
      (.mapPut, [Coll.handleName 3, "k".toList, []])]).1 }
    (runScriptCmd "array_is_empty".toList [Coll.handleName 1] [] st).1 = .continue (some sFalse) ∧
    (runScriptCmd "array_is_empty".toList [Coll.handleName 2] [] st).1 = .continue (some sTrue) ∧
    (runScriptCmd "map_contains_key".toList [Coll.handleName 3, "k".toList] [] st).1 = .continue (some sTrue) ∧
    (runScriptCmd "map_contains_key".toList [Coll.handleName 3, "z".toList] [] st).1 = .continue (some sFalse) ∧
    (runScriptCmd "set_is_empty".toList [Coll.handleName 3] [] st).1 = .error (msg "Invalid handle provided.") :=
  of_decide_eq_true c12_script_runs.2.2.2.1

/-- the hypotheses are satisfiable: the empty state -/
example : tget ({} : ScriptSt).coll.tbl (Coll.handleName ({} : ScriptSt).coll.next) = none := rfl

/-- the hypotheses of the loop theorems hold in the initial state, and a handle name is `ArgOK` -/
example : NoStaleFor "scope::set_from_array".toList ({} : ScriptSt).forStack ∧
    IfCacheOK ({} : ScriptSt).ifMeta "scope::set_from_array::1".toList 3 ∧
    CacheOK ({} : ScriptSt).forMeta "scope::set_from_array::6".toList 8 ∧
    CacheOK ({} : ScriptSt).forMeta "scope::concat::2".toList 4 ∧
    ArgOK (Coll.handleName 17) = true ∧ ArgOK "a b".toList = true ∧ ArgOK [] = true ∧
    ArgOK "${h}".toList = false := by
  refine ⟨?_, Or.inl rfl, Or.inl rfl, Or.inl rfl, by decide, by decide, by decide, by decide⟩
  intro e h
  cases h

/-- the hypotheses of the theorems about map_contains_value / array_concat / array_contains /
    array_join hold in the initial state; the class `ArgOK` of `C12_script_array_join_correct`
    contains the usual separators (and the empty one) and excludes exactly the separators of the
    recorded finding -/
example : NoStaleFor "scope::map_contains_value".toList ({} : ScriptSt).forStack ∧
    IfCacheOK ({} : ScriptSt).ifMeta "scope::map_contains_value::4".toList 16 ∧
    CacheOK ({} : ScriptSt).forMeta "scope::array_concat::10".toList 12 ∧
    CacheOK ({} : ScriptSt).forMeta "scope::array_contains::5".toList 14 ∧
    IfCacheOK ({} : ScriptSt).ifMeta "scope::array_join::10".toList 15 ∧
    (∀ l, tget ({} : ScriptSt).coll.tbl [] ≠ some (.list l)) ∧
    ArgOK ",".toList = true ∧ ArgOK ", ".toList = true ∧ ArgOK [] = true ∧ ArgOK "日本".toList = true ∧
    ArgOK "\t".toList = false ∧ ArgOK "=z".toList = false ∧ ArgOK "${v}".toList = false := by
  refine ⟨?_, Or.inl rfl, Or.inl rfl, Or.inl rfl, Or.inl rfl, ?_, by decide, by decide, by decide, by decide,
    by decide, by decide, by decide⟩
  · intro e h; cases h
  · intro l h; cases h

/-- the theorems are not vacuous on concrete inputs: a map with two equal values, two arrays -/
example :
    let st : ScriptSt := { coll := (Coll.run {} [(.map, []), (.mapPut, [Coll.handleName 1, "k".toList, "v".toList]),
      (.mapPut, [Coll.handleName 1, "j".toList, "v".toList]), (.array, ["a".toList, "b".toList]), (.array, [])]).1 }
    (runScriptCmd "map_contains_value".toList [Coll.handleName 1, "v".toList] [] st).1 = .continue (some sTrue) ∧
    (runScriptCmd "map_contains_value".toList [Coll.handleName 1, "w".toList] [] st).1 = .continue (some sFalse) ∧
    (runScriptCmd "array_concat".toList [Coll.handleName 2, Coll.handleName 3, Coll.handleName 2] [] st).1 =
      .continue (some (Coll.handleName 5)) ∧
    (runScriptCmd "array_contains".toList [Coll.handleName 2, "b".toList] [] st).1 = .continue (some "1".toList) ∧
    (runScriptCmd "array_join".toList [Coll.handleName 2, ", ".toList] [] st).1 = .continue (some "a, b".toList) ∧
    mapLen st.coll.tbl (Coll.handleName 1) = 2 ∧ acCells st.coll.tbl [Coll.handleName 2, Coll.handleName 3] = ["a".toList, "b".toList] :=
  of_decide_eq_true c12_script_runs.2.2.2.2


end Duck
