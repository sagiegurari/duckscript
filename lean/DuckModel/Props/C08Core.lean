/-
  C08 — parsing is total, one instruction per line, malformed lines rejected in place: the
  theorems about the suffix-form model (Parser.lean) and their non-vacuity examples.
  (Totality: `parseText` is a total Lean function whose only outcomes are `.ok` and `.error`; that
  the index arithmetic of the source never unwinds is Props/C08Indexed.lean.)
-/
import DuckModel.Parser
import DuckModel.Spec.Render
import DuckModel.Lemmas.ParserLemmas

namespace Duck
open Duck.Spec

/-- Without include directives (and with every directive known) the parse of a list of lines
    yields exactly one instruction per line, in order, numbered consecutively. -/
theorem C08_one_per_line (inc : Str → Except ParseFail (List Instruction)) (fs : Fs)
    (src : Option Str) (n : Nat) (ls : List Str) (is : List Instruction)
    (hp : parseLinesWith inc fs src n ls = .ok is)
    (hno : ∀ l ∈ ls, ∀ a, parseLine l ≠ .ok (.preProcess (some includeName) a)) :
    is.length = ls.length ∧
      ∀ k (hk : k < is.length), (is[k]).mi = { line := some (n + k), source := src } := by
  induction ls generalizing n is with
  | nil =>
    rw [parseLinesWith_nil] at hp
    cases hp
    simp
  | cons l ls ih =>
    obtain ⟨ty, hty, hpp⟩ := lineOK_of_ok inc fs src n l ls is hp (hno l (by simp))
    rw [parseLinesWith_cons_good inc fs src n l ls ty hty hpp] at hp
    cases hrec : parseLinesWith inc fs src (n + 1) ls with
    | error e => simp [hrec] at hp
    | ok r =>
      simp only [hrec] at hp
      cases hp
      obtain ⟨h1, h2⟩ := ih (n + 1) r hrec (fun l' hl' => hno l' (by simp [hl']))
      refine ⟨by simp [h1], ?_⟩
      intro k hk
      cases k with
      | zero => simp
      | succ k =>
        have := h2 k (by simpa using hk)
        simp only [List.getElem_cons_succ]
        rw [this]
        congr 2
        omega

/-- the same for a whole text: instruction count = line count, k-th instruction has line k+1 -/
theorem C08_text_one_per_line (text : Str) (is : List Instruction)
    (hp : parseText text = .ok is)
    (hno : ∀ l ∈ lines text, ∀ a, parseLine l ≠ .ok (.preProcess (some includeName) a)) :
    is.length = (lines text).length ∧
      ∀ k (hk : k < is.length), (is[k]).mi.line = some (k + 1) := by
  unfold parseText parseTextFs at hp
  obtain ⟨h1, h2⟩ := C08_one_per_line _ _ none 1 (lines text) is hp hno
  refine ⟨h1, fun k hk => ?_⟩
  rw [h2 k hk, Nat.add_comm]

/-- blank lines and `#` comment lines become empty instructions -/
theorem C08_blank_or_comment_is_empty (l : Str)
    (h : trim l = [] ∨ (trim l).head? = some '#') : parseLine l = .ok .empty := by
  rcases h with h | h
  · exact parseLine_of_trim_nil l h
  · cases ht : trim l with
    | nil => exact parseLine_of_trim_nil l ht
    | cons c r =>
      rw [ht] at h
      simp only [List.head?_cons, Option.some.injEq] at h
      subst h
      exact parseLine_of_trim_hash l r ht

/-- the first malformed line fails the whole parse with its kind and its own line number,
    wherever it stands among well-formed lines -/
theorem C08_error_in_place (inc : Str → Except ParseFail (List Instruction)) (fs : Fs)
    (src : Option Str) (n : Nat) (pre : List Str) (bad : Str) (post : List Str) (k : PErr)
    (hpre : ∀ l ∈ pre, LineOK l) (hbad : parseLine bad = .error k) :
    parseLinesWith inc fs src n (pre ++ bad :: post) =
      .error ⟨k, { line := some (n + pre.length), source := src }⟩ :=
  parseLinesWith_error_after_good inc fs src pre (bad :: post) _ (n + pre.length) n
    hpre rfl (parseLinesWith_cons_error inc fs src _ bad post k hbad)

/-- a directive that is neither `print` nor `include_files` is rejected in place -/
theorem C08_unknown_directive_in_place (inc : Str → Except ParseFail (List Instruction)) (fs : Fs)
    (src : Option Str) (n : Nat) (pre : List Str) (bad : Str) (post : List Str)
    (c : Str) (a : Option (List Str))
    (hpre : ∀ l ∈ pre, LineOK l) (hbad : parseLine bad = .ok (.preProcess (some c) a))
    (hc : c ≠ printName ∧ c ≠ includeName) :
    parseLinesWith inc fs src n (pre ++ bad :: post) =
      .error ⟨.unknownPreProcessorCommand, { line := some (n + pre.length), source := src }⟩ :=
  parseLinesWith_error_after_good inc fs src pre (bad :: post) _ (n + pre.length) n
    hpre rfl (parseLinesWith_cons_unknown inc fs src _ bad post c a hbad hc.1 hc.2)

/-! ### the malformed-line classes named by the property -/

/-- an unterminated quoted argument (any content, any well-formed line before it) -/
theorem C08_unterminated_quote (ch : Choices) (i : ScriptInstr) (hi : InstrOK i) (hc : ChoicesOK ch)
    (hcmd : i.command ≠ none) (hnc : ch.comment = none) (k : Nat) (s : Str) :
    parseLine (ch.lead ++ renderBody ch i ++ spaces (k + 1) ++ '"' :: escape s ++ ch.trail) =
      .error .missingEndQuotes := by
  obtain ⟨s1, hs1⟩ := trimEnd_escape s ch.trail (fun c h => (hc.trail c h).1)
  have := junk_after_command ch i hi hc hcmd hnc k [] '"' (escape s ++ ch.trail) (escape s1)
    (by decide) (by rw [hs1]; rfl) _ (parseArgsLoop_unterminated k s1)
  simpa using this

/-- an escape that is not one of the documented ones, inside a quoted argument -/
theorem C08_bad_escape (ch : Choices) (i : ScriptInstr) (hi : InstrOK i) (hc : ChoicesOK ch)
    (hcmd : i.command ≠ none) (hnc : ch.comment = none) (k : Nat) (s : Str) (c : Char) (rest : Str)
    (hbad : c ≠ '\\' ∧ c ≠ '"' ∧ c ≠ 'n' ∧ c ≠ 'r' ∧ c ≠ 't' ∧ c ≠ '$') (hws : isWs c = false) :
    parseLine (ch.lead ++ renderBody ch i ++ spaces (k + 1) ++ '"' :: escape s ++ '\\' :: c :: rest) =
      .error .controlWithoutValidValue := by
  have := junk_after_command ch i hi hc hcmd hnc k ('"' :: escape s ++ ['\\']) c rest
    (escape s ++ '\\' :: c :: trimEnd rest) hws (by simp) _ (parseArgsLoop_bad_escape k s c _ hbad)
  simpa using this

/-- a line whose first token begins with a double quote -/
theorem C08_quote_starts_name (lead rest : Str) (hl : ∀ c ∈ lead, isWs c = true) :
    parseLine (lead ++ '"' :: rest) = .error .invalidQuotesLocation := by
  rw [parseLine_of_trim_cmd _ '"' (trimEnd rest) (trim_lead_cons lead '"' rest hl (by decide))
    (by decide) (by decide)]
  exact parseCommandLine_error_of_first (by simp) (findLabel_none _ _ (by decide) (by decide))
    (parseNextValue_quote_err outputFlags rfl _)

/-- a command written after `out =` that begins with a double quote -/
theorem C08_quote_starts_command (o : Str) (ho : NameOK o ∧ NoEq o ∧ FirstOK o) (a b : Nat) (rest : Str) :
    parseLine (o ++ spaces a ++ '=' :: spaces b ++ '"' :: rest) = .error .invalidQuotesLocation := by
  obtain ⟨ho1, ho2, ho3⟩ := ho
  obtain ⟨x, o', rfl, hws, hh, _, _, hsp⟩ := nameOK_head ho1
  have hx1 : x ≠ ':' := by simpa [FirstOK] using ho3.1
  have hx2 : x ≠ '!' := by simpa [FirstOK] using ho3.2
  have e0 : x :: o' ++ spaces a ++ '=' :: spaces b ++ '"' :: rest =
      [] ++ x :: ((o' ++ spaces a ++ '=' :: spaces b) ++ '"' :: rest) := by simp
  have e : trim (x :: o' ++ spaces a ++ '=' :: spaces b ++ '"' :: rest) =
      x :: ((o' ++ spaces a ++ '=' :: spaces b) ++ '"' :: trimEnd rest) := by
    rw [e0]; exact trim_mid [] x _ '"' rest (by simp) hws (by decide)
  rw [parseLine_of_trim_cmd _ _ _ e hh hx2, parseCommandLine_eq _ (by simp),
    findLabel_none _ _ hx1 hsp]
  simp only []
  unfold findOutputAndCommand
  have e2 : x :: ((o' ++ spaces a ++ '=' :: spaces b) ++ '"' :: trimEnd rest) =
      (x :: o') ++ (spaces a ++ '=' :: (spaces b ++ '"' :: trimEnd rest)) := by simp
  rw [e2, parseNextValue_output (x :: o') _ ho1 ho2 (bnd_spaces_eq a _)]
  simp only [afterTok_spaces_eq, skipToEquals_spaces, skipToEquals_eq]
  rw [parseNextValue_spaces, parseNextValue_quote_err nameFlags rfl]

/-- a label that begins with a double quote -/
theorem C08_quote_starts_label (rest : Str) :
    parseLine (':' :: '"' :: rest) = .error .invalidQuotesLocation :=
  quote_starts_label rest

/-- a backslash inside the first token (label, output variable or command); a label whose
    name starts with a double quote is the class of `C08_quote_starts_label` instead -/
theorem C08_backslash_in_name (lead p rest : Str) (hl : ∀ c ∈ lead, isWs c = true)
    (hp : p ≠ [] ∧ (∀ c ∈ p, isWs c = false ∧ c ≠ '#' ∧ c ≠ '\\' ∧ c ≠ '=') ∧ p.head? ≠ some '"' ∧
      p.head? ≠ some '!')
    (hlabel : ∀ q, p ≠ ':' :: '"' :: q) :
    parseLine (lead ++ p ++ '\\' :: rest) = .error .invalidControlLocation := by
  obtain ⟨hne, hall, hq, hb⟩ := hp
  cases p with
  | nil => exact absurd rfl hne
  | cons x p' =>
    obtain ⟨hws, hh, _, _⟩ := hall x (by simp)
    have hx2 : x ≠ '!' := by simpa using hb
    have hxq : x ≠ '"' := by simpa using hq
    have e0 : lead ++ x :: p' ++ '\\' :: rest = lead ++ x :: (p' ++ '\\' :: rest) := by simp
    rw [e0, parseLine_of_trim_cmd _ _ _ (trim_mid lead x p' '\\' rest hl hws (by decide)) hh hx2]
    have htok : ∀ fl : PVFlags, ∀ y ∈ x :: p', TokChar fl y := fun fl y hy =>
      ⟨(hall y hy).1, (hall y hy).2.1, (hall y hy).2.2.1, fun _ => (hall y hy).2.2.2⟩
    by_cases hx1 : x = ':'
    · subst hx1
      -- the label name does not start with a quote, by `hlabel`
      have hq' : p'.head? ≠ some '"' := by
        cases p' with
        | nil => simp
        | cons y p'' => rintro ⟨⟩; exact hlabel p'' rfl
      exact parseCommandLine_error_of_label (parseNextValue_tok_backslash nameFlags rfl rfl p' _
        (fun y hy => htok _ y (by simp [hy])) hq')
    · exact parseCommandLine_error_of_first (by simp)
        (findLabel_none _ _ hx1 (isWs_false_ne hws).1)
        (parseNextValue_tok_backslash outputFlags rfl rfl (x :: p') _ (htok _) (by simpa using hxq))

/-- `!` with no command -/
theorem C08_directive_without_command (lead : Str) (k : Nat) (trail : Str)
    (hl : ∀ c ∈ lead, isWs c = true) (ht : ∀ c ∈ trail, isWs c = true) :
    parseLine (lead ++ '!' :: spaces k ++ trail) = .error .preProcessNoCommandFound := by
  have e : trim (lead ++ '!' :: spaces k ++ trail) = ['!'] := by
    have e0 : lead ++ '!' :: spaces k ++ trail = lead ++ '!' :: (spaces k ++ trail) := by simp
    rw [e0, trim_lead_cons lead '!' _ hl (by decide), trimEnd_ws]
    intro c hc
    rcases List.mem_append.mp hc with hc | hc
    · exact spaces_ws k c hc
    · exact ht c hc
  rw [parseLine_of_trim_bang _ [] e]
  simp [parsePreProcessLine, ppCommand]

/-! ### the hypotheses are satisfiable (non-vacuity) -/

def C08_sampleInstr : ScriptInstr :=
  { label := some ":l".toList, output := some "x".toList, command := some "cmd".toList,
    args := some ["".toList, "a b".toList, "x\"y\\".toList, "#".toList, "=".toList,
      "${v}".toList, "\n".toList] }

def C08_sampleChoices : Choices :=
  { lead := " \t".toList, trail := "\r".toList, afterLabel := 2, eqBefore := 1, eqAfter := 3,
    args := [(0, true), (2, false)] }

theorem C08_sampleInstr_ok : InstrOK C08_sampleInstr := instrOK_of_b _ (by decide +kernel)

theorem C08_sampleChoices_ok : ChoicesOK C08_sampleChoices := choicesOK_of_b _ (by decide +kernel)

/-- blank lines, comment lines and rendered lines are `LineOK` -/
example : LineOK [] :=
  ⟨.empty, C08_blank_or_comment_is_empty [] (Or.inl rfl), by intro c a h; cases h⟩

example : LineOK "  # note ".toList :=
  ⟨.empty, C08_blank_or_comment_is_empty _ (Or.inr (by decide +kernel)), by intro c a h; cases h⟩

example : LineOK (renderLine C08_sampleChoices C08_sampleInstr) :=
  ⟨_, line_roundtrip _ _ C08_sampleInstr_ok C08_sampleChoices_ok, expected_not_pre _⟩

/-- a malformed line for `C08_error_in_place` -/
example : parseLine ":\"".toList = .error .invalidQuotesLocation := C08_quote_starts_label []

/-- an unknown directive for `C08_unknown_directive_in_place` -/
example : parseLine "!foo".toList = .ok (.preProcess (some "foo".toList) none) ∧
    "foo".toList ≠ printName ∧ "foo".toList ≠ includeName := by
  refine ⟨?_, by decide +kernel, by decide +kernel⟩
  rw [parseLine_of_trim_bang _ "foo".toList (by decide +kernel)]
  simp [parsePreProcessLine, ppCommand, parseArguments_eol EolTail.nil]

/-- the hypotheses of `C08_unterminated_quote` / `C08_bad_escape` -/
example : InstrOK C08_sampleInstr ∧ ChoicesOK C08_sampleChoices ∧ C08_sampleInstr.command ≠ none ∧
    C08_sampleChoices.comment = none :=
  ⟨C08_sampleInstr_ok, C08_sampleChoices_ok, by decide, rfl⟩

example : ('x' ≠ '\\' ∧ 'x' ≠ '"' ∧ 'x' ≠ 'n' ∧ 'x' ≠ 'r' ∧ 'x' ≠ 't' ∧ 'x' ≠ '$') ∧ isWs 'x' = false := by
  decide

/-- the hypotheses of `C08_quote_starts_command` -/
example : NameOK "out".toList ∧ NoEq "out".toList ∧ FirstOK "out".toList :=
  ⟨nameOK_of_b _ (by decide +kernel), noEq_of_b _ (by decide +kernel), firstOK_of_b _ (by decide +kernel)⟩

end Duck
