/-
  C02 — variable binding is verbatim, single-pass and never changes the argument count.
  (Props/C02Text.lean: the same from the script text; Props/C02Translated.lean: the tie of the
  scanner to the source.  Both are imported so that this module builds the whole property.)
-/
import DuckModel.Lemmas.ExpansionLemmas
import DuckModel.Props.C02Text
import DuckModel.Props.C02Translated

namespace Duck
open Duck.Spec

/-- a written template expands to exactly its value: every `${name}` replaced by the
    variable's current value (nothing if undefined), every `\${name}` left as the literal
    `${name}`; the substituted values are arbitrary strings and are inserted verbatim -/
theorem C02_single (vars : Vars) (t : List Seg) (h : ∀ s ∈ t, s.OK) :
    expand vars (renderTemplate t) =
      (if tmplValue vars t = [] then Expanded.none else Expanded.single (tmplValue vars t)) := by
  exact expand_template vars t h

/-- each written argument becomes exactly one received argument with that text -/
theorem C02_bind (vars : Vars) (args : List (List Seg)) (h : ∀ t ∈ args, ∀ s ∈ t, s.OK) :
    bind vars (some (args.map renderTemplate)) = args.map (tmplValue vars) := by
  exact bind_templates vars args h

/-- … so binding never changes the argument count, whatever the variables hold -/
theorem C02_count (vars : Vars) (args : List (List Seg)) (h : ∀ t ∈ args, ∀ s ∈ t, s.OK) :
    (bind vars (some (args.map renderTemplate))).length = args.length := by
  rw [C02_bind vars args h, List.length_map]

/-- the expansion of a template never looks inside a substituted value: two environments
    that give the template's variables values of which one is obtained from the other by an
    arbitrary transformation give correspondingly transformed results (values are opaque) -/
theorem C02_verbatim (vars vars' : Vars) (t : List Seg) (h : ∀ s ∈ t, s.OK)
    (f : Str → Str) (hv : ∀ n, vars'.get n = (vars.get n).map f) :
    tmplValue vars' t = t.flatMap (fun s =>
      match s with
      | .var n => ((vars.get n).map f).getD []
      | s => s.value vars) ∧
    expand vars' (renderTemplate t) =
      (if tmplValue vars' t = [] then Expanded.none else Expanded.single (tmplValue vars' t)) := by
  exact ⟨tmplValue_map vars vars' t f hv, C02_single vars' t h⟩

/-- a whole-argument `%{name}`: nothing for an undefined or empty variable, otherwise the
    value re-split by `reparse_arguments` -/
theorem C02_spread (vars : Vars) (n : Str) (hn : KeyOK n) :
    expand vars (renderSpread n) =
      (match vars.get n with
       | none => Expanded.multi []
       | some v =>
         if v = [] then Expanded.multi []
         else match reparseArguments v with
           | .ok (some vs) => Expanded.multi vs
           | .ok none => Expanded.multi []
           | .error _ => Expanded.none) := by
  exact expand_spread vars n hn

/-- for plain values the re-split is exactly the space-separated words -/
theorem C02_spread_words (v : Str) (h : SpreadPlain v) :
    reparseArguments v = .ok (if words v = [] then none else some (words v)) := by
  exact reparseArguments_plain v h

/-- … hence `%{name}` passes exactly the space-separated words of the value (none for an
    empty, all-space or undefined variable) -/
theorem C02_spread_bind (vars : Vars) (n : Str) (hn : KeyOK n)
    (h : ∀ v, vars.get n = some v → SpreadPlain v) :
    bind vars (some [renderSpread n]) = words ((vars.get n).getD []) := by
  exact bind_spread vars n hn h

/-! ### non-vacuity -/

/-- the template `pre${x}\${x}` is in the domain … -/
example : ∀ s ∈ [Seg.lit "pre".toList, Seg.var "x".toList, Seg.escVar "x".toList], s.OK := by
  simp [Seg.OK, LitOK, KeyOK]

/-- … is written `pre${x}\${x}` … -/
example : renderTemplate [Seg.lit "pre".toList, Seg.var "x".toList, Seg.escVar "x".toList] =
    "pre${x}\\${x}".toList := by
  repeat rw [String.toList_ofList]
  decide +kernel

/-- … and with `x = a ${y} "q" #` it binds to one argument: `pre`, the value verbatim
    (its `${y}`, quotes and `#` untouched), then the literal `${x}` -/
example : bind [("x".toList, "a ${y} \"q\" #".toList)] (some ["pre${x}\\${x}".toList]) =
    ["prea ${y} \"q\" #${x}".toList] := by
  repeat rw [String.toList_ofList]
  decide +kernel

/-- the same through the theorem -/
example : bind [("x".toList, "a ${y} \"q\" #".toList)]
      (some ([[Seg.lit "pre".toList, Seg.var "x".toList, Seg.escVar "x".toList]].map renderTemplate)) =
    ["pre".toList ++ "a ${y} \"q\" #".toList ++ "${x}".toList] := by
  rw [C02_bind _ _ (by simp [Seg.OK, LitOK, KeyOK])]
  decide +kernel

/-- an undefined variable gives the empty argument, not a dropped one -/
example : bind [] (some ["${nope}".toList, "z".toList]) = [[], "z".toList] := by
  repeat rw [String.toList_ofList]
  decide +kernel

/-- a spread of the value `a  b c` gives the three words -/
example : words "a  b c".toList = ["a".toList, "b".toList, "c".toList] := by decide +kernel

example : SpreadPlain "a  b c".toList ∧ KeyOK "x".toList := by
  simp [SpreadPlain, KeyOK]

example : bind [("x".toList, "a  b c".toList)] (some [renderSpread "x".toList]) =
    ["a".toList, "b".toList, "c".toList] := by
  rw [C02_spread_bind _ _ (by simp [KeyOK]) (by simp [Vars.get, SpreadPlain])]
  decide +kernel

/-- the re-split itself, through the theorem -/
example : reparseArguments "a  b c".toList = .ok (some ["a".toList, "b".toList, "c".toList]) := by
  rw [C02_spread_words _ (by simp [SpreadPlain]),
    show words "a  b c".toList = ["a".toList, "b".toList, "c".toList] by decide +kernel]
  rfl

/-- an all-space value spreads to no argument at all -/
example : bind [("x".toList, "  ".toList)] (some [renderSpread "x".toList]) = [] := by
  rw [C02_spread_bind _ _ (by simp [KeyOK]) (by simp [Vars.get, SpreadPlain])]
  decide +kernel

end Duck
