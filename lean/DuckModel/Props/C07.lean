/-
  C07 — no script can panic, abort or hang the embedding process.   CLAIMED PARTIAL.

  Layer 1 (this file, proved): the modelled parts of duckscript — parser, expansion, runner loop,
  the text / comparison / range commands, the collection commands incl. `release -r`, the
  variable and scope-stack commands, the condition evaluator, the block scanner — are TOTAL Lean
  functions in which every Rust operation that can unwind (`unwrap`, index, slice, `try_into`)
  and every recursion that is not structural (fuel) is an explicit outcome.  The theorems say:
  the `panic` outcome and the `fuel` outcome are unreachable, every run that is halted returns.
  Where the REAL recursion is not well-founded (include cycles, cyclic handle graphs under
  `json_encode --collection`) no fuel is enough: that is proved too (`…_unbounded_partial`)
  — it is the model-side witness of two recorded findings (stack overflow ⇒ abort).

  Termination of ten script-implemented commands is in Props/C07Scripts.lean.  The other
  script-implemented commands, the ~90 unmodelled commands, allocation failure, stack
  exhaustion and third-party crates are NOT proved: they are searched by
  harness/src/props/c07.rs under catch_unwind + watchdog + child process.

  Statements that merely restate an existing theorem in C07's terms say so (`from Cxx`).
-/
import DuckModel.Props.C06Core
import DuckModel.Props.C11
import DuckModel.Props.C12
import DuckModel.Props.C13
import DuckModel.Props.C16
import DuckModel.Props.C17
import DuckModel.Lemmas.NoPanicLemmas
import DuckModel.Props.C07Scripts

namespace Duck
open Duck.Generated

/-! ## parser, expansion, runner -/

/-- `parse_text` returns instructions or a parse error for EVERY text (outcome space of the
    total model function; its tie to the code is C08's correspondence run). -/
theorem C07_parse_total (text : Str) :
    (∃ is, parseText text = .ok is) ∨ (∃ e, parseText text = .error e) := by
  cases h : parseText text with
  | ok is => exact Or.inl ⟨is, rfl⟩
  | error e => exact Or.inr ⟨e, rfl⟩

/-- every line parses to an instruction type or to one of the eight parse-error kinds -/
theorem C07_parse_line_total (l : Str) :
    (∃ ty, parseLine l = .ok ty) ∨ (∃ k, parseLine l = .error k) := by
  cases h : parseLine l with
  | ok ty => exact Or.inl ⟨ty, rfl⟩
  | error k => exact Or.inr ⟨k, rfl⟩

/-- `expand_by_wrapper` has exactly three outcomes, for every variable map and every text -/
theorem C07_expand_total (vars : Vars) (value : Str) :
    expand vars value = .none ∨ (∃ v, expand vars value = .single v) ∨
      (∃ vs, expand vars value = .multi vs) := by
  cases h : expand vars value with
  | none => exact Or.inl rfl
  | single v => exact Or.inr (Or.inl ⟨v, rfl⟩)
  | multi vs => exact Or.inr (Or.inr ⟨vs, rfl⟩)

/-- `bind_command_arguments` yields a list for every argument vector; no written arguments,
    no bound arguments -/
theorem C07_bind_total (vars : Vars) (args : Option (List Str)) :
    ∃ l, bind vars args = l ∧ (args = none → l = []) := by
  refine ⟨_, rfl, ?_⟩
  intro h
  subst h
  rfl

/-- one iteration of the runner loop, for EVERY command semantics, halt oracle and state:
    it continues with a new state or ends the run with a proper end (never `outOfFuel`,
    which only the bounded loop `runLoop` can produce). -/
theorem C07_runner_step_total {σ : Type} (sem : CmdSem σ) (is : List Instruction)
    (labels : List (Str × Nat)) (halt : Nat → σ → Bool) (rs : RunState σ) :
    (∃ rs', runStep sem is labels halt rs = .inl rs') ∨
      (∃ rs' e, runStep sem is labels halt rs = .inr (rs', e) ∧ e ≠ .outOfFuel) := by
  cases h : runStep sem is labels halt rs with
  | inl rs' => exact Or.inl ⟨rs', rfl⟩
  | inr r =>
    obtain ⟨rs', e⟩ := r
    exact Or.inr ⟨rs', e, rfl, runStep_inr_ne_outOfFuel sem is labels halt rs rs' e h⟩

/-- mechanism "runner turns an unknown command into an error value": a command name that is
    not registered gives the `Crash` result "Command: <name> not found." — nothing changes -/
theorem C07_unknown_command_is_error {σ : Type} (sem : CmdSem σ) (vars : Vars) (s : σ)
    (mi : Meta) (si : ScriptInstr) (c : Str) (line : Nat) (hc : si.command = some c)
    (hn : sem c (bind vars si.args) si.output line vars s = none) :
    runInstruction sem vars s ⟨mi, .script si⟩ line =
      (.crash ("Command: ".toList ++ c ++ " not found.".toList), si.output, vars, s) := by
  simp [runInstruction, hc, hn]

/-- … and a `Crash` result ends the run with a `fail` carrying the message and the line's
    meta info (the embedder receives `Err(ScriptError::Runtime)`): it is a value, not an unwind -/
theorem C07_crash_ends_run_with_error {σ : Type} (sem : CmdSem σ) (is : List Instruction)
    (labels : List (Str × Nat)) (halt : Nat → σ → Bool) (rs : RunState σ) (instr : Instruction)
    (msg : Str) (out : Option Str) (vars : Vars) (st : σ)
    (hh : halt rs.polls rs.st = false) (hi : is[rs.line]? = some instr)
    (hr : runInstruction sem rs.vars rs.st instr rs.line = (.crash msg, out, vars, st)) :
    runStep sem is labels halt rs =
      .inr ({ line := rs.line, polls := rs.polls + 1, vars := vars, st := st }, .fail msg instr.mi) := by
  simp [runStep, hh, hi, hr]

/-- from C13: once the halt flag is raised for good (by poll `K` at the latest) EVERY program
    — also one that loops forever — returns, on every path, and not by exhausting the fuel -/
theorem C07_halted_run_terminates {σ : Type} (sem : CmdSem σ) (is : List Instruction)
    (labels : List (Str × Nat)) (halt : Nat → σ → Bool) (K : Nat)
    (hK : ∀ k s, K ≤ k → halt k s = true) (rs : RunState σ) (fuel : Nat)
    (hfuel : K + 1 - rs.polls ≤ fuel) (hpos : 0 < fuel) :
    (runLoop sem is labels halt fuel rs).2 ≠ .outOfFuel :=
  C13_terminates sem is labels halt K hK rs fuel hfuel hpos

/-- `run_script` under a watchdog: a parse error or a final state with a proper end -/
theorem C07_run_script_returns {σ : Type} (sem : CmdSem σ) (halt : Nat → σ → Bool) (K : Nat)
    (hK : ∀ k s, K ≤ k → halt k s = true) (text : Str) (vars : Vars) (s : σ) :
    (∃ e, runScript sem halt (K + 1) text vars s = .error e) ∨
      (∃ rs e, runScript sem halt (K + 1) text vars s = .ok (rs, e) ∧ e ≠ .outOfFuel) := by
  unfold runScript
  cases parseText text with
  | error e => exact Or.inl ⟨e, rfl⟩
  | ok is =>
    refine Or.inr ⟨(run sem halt (K + 1) is vars s).1, (run sem halt (K + 1) is vars s).2, rfl, ?_⟩
    exact C13_terminates sem is (labelTable is) halt K hK _ (K + 1) (by simp) (by omega)

/-! ## text / comparison / range commands (model of C16): no `panic` outcome, for ALL of them -/

open Duck.Strings in
/-- every modelled command of the string family, for every argument list: the outcome is a
    value, `err` or `unmodelled` — never `panic`.  (`substring` is `C16_substring_never_panics`.) -/
theorem C07_strings_no_panic (cmd : String) (args : List Str) (out : Out)
    (h : Strings.run cmd args = some out) : out ≠ .panic := by
  have hopt : ∀ o : Option Nat, optNat o ≠ .panic := by
    intro o; cases o <;> simp [optNat]
  have hcmp : ∀ f, compareWith f args ≠ .panic := by
    intro f
    unfold compareWith
    split
    · split <;> simp
    · simp
  unfold Strings.run at h
  -- one bullet per arm of `Strings.run`, in its order (`less_than`, `greater_than` last)
  split at h <;> (try (injection h with h; subst h))
  · unfold length; split <;> simp
  · unfold indexof; split <;> first | exact hopt _ | simp
  · unfold lastIndexof; split <;> first | exact hopt _ | simp
  · exact C16_substring_never_panics args
  · unfold contains; split <;> simp
  · unfold startsWith; split <;> simp
  · unfold endsWith; split <;> simp
  · unfold equals; split <;> simp
  · unfold isEmpty; split <;> simp
  · simp [concat]
  · unfold replaceCmd; split <;> simp
  · unfold splitCmd; split <;> simp
  · unfold trimWith; split <;> simp
  · unfold trimWith; split <;> simp
  · unfold trimWith; split <;> simp
  · unfold caseWith; split <;> simp
  · unfold caseWith; split <;> simp
  · unfold range; split
    · split
      · split <;> simp
      · simp
    · simp
  · exact hcmp _
  · exact hcmp _
  · cases h

/-! ## collections (model of C12) -/

open Duck.Coll in
/-- every collection command, in every state, for every argument list, returns a value or the
    error result (the model's `Res` has no third constructor: no modelled command body contains
    an `unwrap`/index whose failure is reachable — index arguments go through `parseUsize` and
    a length test) and never allocates more than one handle -/
theorem C07_collections_total (m : Coll.St) (c : CollCmd) (args : List Str) :
    (Coll.exec m c args).2 = .err ∨ ∃ o, (Coll.exec m c args).2 = .val o := by
  cases h : (Coll.exec m c args).2 with
  | err => exact Or.inl rfl
  | val o => exact Or.inr ⟨o, rfl⟩

open Duck.Coll in
/-- from C12: a handle of the wrong kind, a released or an unknown handle makes the command
    answer `err` (or `false`) and leaves every lookup as it was — the take-out / put-back of
    `mutate_list/map/set` restores the value on kind mismatch -/
theorem C07_collections_wrong_kind_is_error (m : Coll.St) (c : CollCmd) (k : CollKind) (h : Str)
    (rest : List Str) (hk : c.expects = some k)
    (hv : ∀ v, tget m.tbl h = some v → kindOf v ≠ some k) :
    LookupEq (Coll.exec m c (h :: rest)).1.tbl m.tbl ∧
    ((Coll.exec m c (h :: rest)).2 = .err ∨ (Coll.exec m c (h :: rest)).2 = .val (some sFalse)) := by
  obtain ⟨h1, _, h3, _⟩ := C12_wrong_kind_unchanged m c k h rest hk hv
  refine ⟨h1, ?_⟩
  rcases h3 with h3 | ⟨_, h3⟩
  · exact Or.inl h3
  · exact Or.inr h3

open Duck.Coll in
/-- from C12: `release -r` terminates on every handle graph — sharing, cycles, a collection
    that contains its own handle — with fuel = number of table entries -/
theorem C07_release_terminates (t : Table) (k : Str) :
    ∃ t' b, removeRec t.length t k = some (t', b) ∧ t'.length ≤ t.length := by
  obtain ⟨t', b, h1, h2, _⟩ := C12_release_recursive_terminates t.length t k (Nat.le_refl _)
  exact ⟨t', b, h1, h2⟩

open Duck.Coll in
/-- from C12: hence the `release` command never reports the model-only out-of-fuel error -/
theorem C07_release_no_hang (m : Coll.St) (args : List Str) :
    (Coll.exec m .release args).2 ≠ .err :=
  C12_release_never_out_of_fuel m args

/-! ## variables and scope stack (model of C11) -/

open Duck.VarScope in
/-- no variable / scope command ever answers `Crash`, whatever the state and the arguments -/
theorem C07_scope_no_crash (st : VsSt) (c : VsCmd) (args : List Str) (msg : Str) :
    (VarScope.runCmd st c args).2 ≠ .crash msg := by
  cases c <;> simp only [VarScope.runCmd]
  · unfold cmdSet
    split
    · simp
    · simp
    · split <;> simp
  · simp [cmdUnset]
  · unfold cmdSetByName; split <;> simp
  · unfold cmdGetByName; split <;> simp
  · unfold cmdIsDefined; split <;> simp
  · simp  -- unset_all_vars
  · unfold cmdClearScope; split <;> simp
  · simp  -- scope_push_stack
  · split <;> simp  -- scope_pop_stack: empty stack or not

open Duck.VarScope in
/-- the copy loop of `scope::push/pop`: a name to copy that is NOT defined is skipped (no `unwrap`
    of a missing variable) -/
theorem C07_scope_copy_undefined_skipped (vars new : Vars) (k : Str) (ks : List Str)
    (h : vars.get k = none) : copyLoop vars new (k :: ks) = copyLoop vars new ks := by
  simp [copyLoop, h]

open Duck.VarScope in
/-- from C11: popping an empty scope stack is the error result and changes nothing -/
theorem C07_scope_pop_empty_is_error (st : VsSt) (args : List Str) (h : st.stack = []) :
    VarScope.runCmd st .popStack args = (st, .error []) :=
  (C11_pop_empty_changes_nothing st args h).1

/-! ## condition evaluator and block scanner: the recursion fuel is never exhausted -/

/-- `eval_condition_for_slice` recurses once per parenthesised group; the model's fuel
    (number of tokens + 1) is never exhausted: every token list evaluates to a Boolean or to
    one of the five syntax errors -/
theorem C07_condition_total (args : List Str) : evalSlice args ≠ .error .fuel :=
  evalSliceF_ne_fuel _ args (Nat.lt_succ_self _)

/-- … and (from C06) more fuel changes nothing -/
theorem C07_condition_fuel_irrelevant (args : List Str) (extra : Nat) :
    evalSliceF (args.length + 1 + extra) args = evalSlice args :=
  C06_fuel_irrelevant args extra

/-- `find_commands` recurses once per nested block and each recursion starts strictly later in
    the instruction list: with fuel = number of instructions + 1 the recursion never runs dry,
    for every keyword table, every instruction list (well nested or not) and every start line.
    The scan returns positions or one of the four scan errors. -/
theorem C07_find_commands_total (t : FlowTables) (is : List Instruction) (start : Nat) :
    findCommands t is start ≠ .error .fuel :=
  findCommandsF_ne_fuel t is (is.length + 1) start (by omega)

/-! ## where the real recursion is NOT well-founded: no fuel is enough (findings) -/

/-- A file whose only line is `!include_files <itself>`: for EVERY include-depth fuel the model
    answers the model-only depth error.  `parse_file` has no such bound: the real recursion
    does not terminate (stack overflow ⇒ the process aborts; finding C07/include-cycle).
    PARTIAL: this is a statement about the model; the abort itself is observed by the harness
    in a child process. -/
theorem C07_include_cycle_unbounded_partial :
    selfFs.read selfPath = some selfLine ∧
      ∀ n, parseFileF selfFs n selfPath = .error depthExceeded :=
  ⟨by simp [selfFs], selfFs_depth⟩

/-- the same file included from a text (`parse_text`, what `run_script` uses) -/
theorem C07_include_cycle_from_text_partial (n : Nat) :
    parseTextFs selfFs n selfLine = .error depthExceeded := by
  unfold parseTextFs
  rw [selfFs_lines]
  exact parseLinesWith_selfLine _ _ _ _ (selfFs_depth n)

/-- An array that contains its own handle (`a = array ; array_push ${a} ${a}`): for EVERY fuel
    `json_encode --collection` of the model runs out of fuel.  `encode_from_state_value` has
    no visited set: the real recursion does not terminate (finding C07/json-encode-cyclic). -/
theorem C07_json_encode_cyclic_unbounded_partial (n : Nat) :
    Enc.encodeVal n cycEntries (.str cycKey) = .error .fuel :=
  cyc_fuel_str n

open Duck.Enc in
/-- from C17: on the stores that `json_parse --collection` builds (acyclic by construction)
    the encoder's fuel is enough — it returns the normalised document -/
theorem C07_json_encode_parsed_total (doc : Json) (hno : NoHandle handleKey doc) (v : Str)
    (hv : (parseToStore doc).1 = some v) :
    ∃ j, encodeFromStore (parseToStore doc).2 v = .ok j := by
  have := C17_json_roundtrip doc hno
  rw [hv] at this
  obtain ⟨j, _, hj⟩ := this
  exact ⟨j, hj⟩

/-! ## non-vacuity -/

section Examples
open Duck.Strings

-- the string dispatcher knows the command names (the hypothesis of C07_strings_no_panic holds)
example : Strings.run "substring" ["aé".toList, "0".toList, "2".toList] = some .err := by decide +kernel
example : Strings.run "substring" ["abc".toList, "-1".toList, "2".toList] = some .err := by decide +kernel
example : Strings.run "indexof" ["abc".toList, "c".toList] = some (.nat 2) := by decide +kernel
example : Strings.run "range" ["5".toList, "1".toList] = some .err := by decide +kernel
example : Strings.run "nope" [] = none := by decide +kernel

-- the panic outcome is a real constructor, different from every other outcome
example : Out.panic ≠ Out.err ∧ Out.panic ≠ Out.none := by decide +kernel

-- a program that loops forever: runs out of fuel un-halted, returns `halted` under a watchdog
example : (runLoop C13Example.sem C13Example.prog (labelTable C13Example.prog) Spec.noHalt 50 C13Example.rs0).2
    = .outOfFuel := by rfl
example : (runLoop C13Example.sem C13Example.prog (labelTable C13Example.prog) C13Example.halt 3 C13Example.rs0).2
    ≠ .outOfFuel :=
  C07_halted_run_terminates _ _ _ _ 2 (by intro k _ hk; simp [C13Example.halt, hk]) _ 3 (by simp [C13Example.rs0]) (by omega)

-- an unknown command in the empty registry: the run fails with a message, it does not unwind
example : (run (fun _ _ _ _ _ _ => none : CmdSem Unit) Spec.noHalt 5
    [⟨{ line := some 1 }, .script { command := some "nope".toList }⟩] [] ()).2
    = .fail "Command: nope not found.".toList { line := some 1 } := by
  repeat rw [String.toList_ofList]
  decide +kernel

-- conditions: unbalanced and deeply nested token lists are errors / values, never `fuel`
example : evalSlice ["(".toList, "(".toList, "(".toList] = .error .missingClose := by rfl
example : evalSlice [")".toList] = .error .unexpectedClose := by rfl
example : evalSlice ["(".toList, "(".toList, "true".toList, ")".toList, ")".toList] = .ok true := by rfl
-- … while a fuel below the nesting depth IS exhausted (the `fuel` outcome is reachable in general)
example : evalSliceF 2 ["(".toList, "(".toList, "true".toList, ")".toList, ")".toList] = .error .fuel := by rfl

-- block scanner: ill-nested programs
example : findCommands ifTables [] 0 = .error .missingEnd := by rfl

-- scope: copying an undefined name
example : VarScope.scopePush [("x".toList, "1".toList)] [] ["nope".toList, "x".toList] =
    ([("x".toList, "1".toList)], [[("x".toList, "1".toList)]]) := by decide +kernel
example : (VarScope.runCmd {} .popStack ["--copy".toList, "nope".toList]).2 = .error [] := by decide +kernel

-- release -r of a collection that contains its own handle
example : (Coll.exec { tbl := [("h".toList, .list [.str "h".toList])], next := 2 } .release
    ["-r".toList, "h".toList]).2 = .val (some "true".toList) := by decide +kernel

-- the cyclic witnesses are what they claim to be
example : selfLine = "!include_files /a.ds".toList ∧ selfPath = "/a.ds".toList := ⟨rfl, rfl⟩
example : Enc.lookup cycKey cycEntries = some (.list [cycKey]) := by decide +kernel
-- an acyclic store of the same shape encodes
example : Enc.encodeVal 3 [(cycKey, .list ["x".toList])] (.str cycKey) = .ok (.arr (.cons (.str "x".toList) .nil)) := by
  rfl

end Examples

end Duck
