/-
  C08 / C01 — the hand-written model of the REST of the line parser is the translation of the
  current source.

  `Generated/ParserFns.lean` is produced on every run by the Rust→Lean translator
  (bin/rust2lean.py; bin/fragments/parser_fns.py) from the functions of
  duckscript/src/parser.rs that are built on `parse_next_value`:

    Rust function                   translation                      hand-written twin (ParserIndexed.lean) / suffix model (Parser.lean)
    parse_next_argument             parseNextArgumentGen             iParseNextValue (argFlags cac)   / parseNextValue (argFlags cac)
    parse_arguments_with_options    parseArgumentsWithOptionsGen     iParseArgumentsWith              / parseArgumentsWith
    parse_arguments                 parseArgumentsGen                iParseArguments                  / parseArguments
    reparse_arguments               reparseArgumentsGen              iReparseArguments                / reparseArguments
    find_label                      findLabelGen                     iFindLabel                       / findLabel
    find_output_and_command         findOutputAndCommandGen          iFindOutputAndCommand            / findOutputAndCommand
    parse_pre_process_line          parsePreProcessLineGen           iParsePreProcessLine             / parsePreProcessLine
    parse_command_line              parseCommandLineGen              iParseCommandLine                / parseCommandLine
    parse_line                      parseLineGen                     iParseLine                       / parseLine

  The translation is index faithful (a line, an explicit index, `.panic` where Rust would unwind).
  `C08_fn_translation_<function>` proves the translated function EQUAL to the hand-written
  index-faithful twin for EVERY input (every line, every start index — also beyond the end of the
  line, every flag, every instruction handed in).  `C08_fn_translation_<function>_suffix` (not restated
  for `parse_next_argument`, which is `iParseNextValue`, nor for `reparse_arguments`, an instance of
  `parse_arguments_with_options`) carries this to the suffix model all parser theorems (C01, C08, C02, C09, C14) are stated about: for a
  start index inside the line (`start ≤ line.length`; `parse_line` needs no hypothesis) the
  translated function returns the index `line.length - r.length` exactly when the suffix model,
  run on `line.drop start`, returns what is left `r` (a REFINEMENT: index form vs suffix form),
  with the same value and the same errors, and never panics.

  The one statement with a hypothesis on the data: `find_output_and_command` writes into an
  instruction it is handed (`&mut ScriptInstruction`) and READS `instruction.output` after its
  `=` loop; the hand-written twin models the call on an instruction whose `output` is still
  `None` (what `parse_command_line` hands in), so the equality is stated for `ins.output = none`
  (the `example` at the end shows the two differ otherwise).

  A change of one of these Rust functions that alters its meaning makes this file fail to check.
-/
import DuckModel.ParserIndexed
import DuckModel.Generated.ParserFns
import DuckModel.Lemmas.FnTranslationLemmas
import DuckModel.Lemmas.IndexedLineLemmas

namespace Duck
open Duck.Generated

/-! ### equality with the index-faithful twin, for every input -/

theorem C08_fn_translation_parse_next_argument (line : Str) (start : Nat) (cac : Bool) :
    parseNextArgumentGen line start cac = iParseNextValue (argFlags cac) line start :=
  parseNextArgumentGen_eq line start cac

theorem C08_fn_translation_parse_arguments_with_options (line : Str) (start : Nat) (cac : Bool) :
    parseArgumentsWithOptionsGen line start cac = iParseArgumentsWith cac line start := by
  unfold parseArgumentsWithOptionsGen iParseArgumentsWith
  rw [← argsLoopGen_eq]
  cases iLoop (parseArgumentsWithOptionsBodyGen line cac) (line.length + 1) (start, []) with
  | panic => rfl
  | err e => rfl
  | ok st => simp only [IOut.map]

theorem C08_fn_translation_parse_arguments (line : Str) (start : Nat) :
    parseArgumentsGen line start = iParseArguments line start :=
  C08_fn_translation_parse_arguments_with_options line start false

theorem C08_fn_translation_reparse_arguments (line : Str) (start : Nat) :
    reparseArgumentsGen line start = iReparseArguments line start :=
  C08_fn_translation_parse_arguments_with_options line start true

theorem C08_fn_translation_find_label (line : Str) (start : Nat) :
    findLabelGen line start = iFindLabel line start := by
  unfold findLabelGen iFindLabel
  have h := iFor_map iflTuple (iflBody line) (findLabelBodyGen line) (findLabelBodyGen_eq line)
    (line.length - start) { index := start }
  simp only [iflTuple] at h
  simp only [h]
  split
  · rfl
  · cases iFor (iflBody line) (line.length - start) { index := start } <;> rfl

/-- `find_output_and_command` on an instruction whose output is not set yet: the index, and the
    instruction with the output and (when one was found) the command filled in -/
theorem C08_fn_translation_find_output_and_command (line : Str) (start : Nat) (ins : ScriptInstr)
    (h : ins.output = none) :
    findOutputAndCommandGen line start ins =
      match iFindOutputAndCommand line start with
      | .ok (idx, output, command) =>
        .ok (idx, { ins with output := output,
                             command := match command with | some c => some c | none => ins.command })
      | .err e => .err e
      | .panic => .panic := by
  unfold findOutputAndCommandGen iFindOutputAndCommand
  simp only [outputFlags, nameFlags, h]
  cases iParseNextValue _ line start with
  | panic => rfl
  | err e => rfl
  | ok x =>
    obtain ⟨idx, v⟩ := x
    cases v with
    | none => simp only [← h]
    | some v =>
      have hm := iFor_map iocTuple (iocBody line v) (findOutputAndCommandBodyGen line v)
        (findOutputAndCommandBodyGen_eq line v) (line.length - idx) { index := idx }
      simp only [iocTuple] at hm
      simp only [hm]
      cases iFor (iocBody line v) (line.length - idx) { index := idx } with
      | panic => rfl
      | err e => rfl
      | ok s =>
        obtain ⟨i, o⟩ := s
        cases o with
        | none => simp [IOut.map, iocTuple]
        | some o =>
          simp only [IOut.map, iocTuple, Option.isSome_some, ↓reduceIte]
          cases iParseNextValue _ line i with
          | panic => rfl
          | err e => rfl
          | ok y => obtain ⟨j, c⟩ := y; cases c <;> rfl

theorem C08_fn_translation_parse_pre_process_line (line : Str) (start : Nat) :
    parsePreProcessLineGen line start = iParsePreProcessLine line start := by
  unfold parsePreProcessLineGen iParsePreProcessLine
  have hm := iFor_map ippTuple (ippBody line) (parsePreProcessLineBodyGen line)
    (parsePreProcessLineBodyGen_eq line) (line.length - start) { index := start }
  simp only [ippTuple] at hm
  simp only [hm, C08_fn_translation_parse_arguments]
  split
  · rfl
  · cases iFor (ippBody line) (line.length - start) { index := start } with
    | panic => rfl
    | err e => rfl
    | ok s =>
      simp only [IOut.map, ippTuple]
      split
      · rfl
      · cases iParseArguments line s.index <;> rfl

-- `hc'` is not used for the present Generated/ParserFns.lean; it keeps the proof good when the
-- operands of the `||` in the source change places
set_option linter.unusedSimpArgs false in
theorem C08_fn_translation_parse_command_line (line : Str) (start : Nat) :
    parseCommandLineGen line start = iParseCommandLine line start := by
  unfold parseCommandLineGen iParseCommandLine
  simp only [C08_fn_translation_find_label, C08_fn_translation_parse_arguments]
  by_cases hc : line.isEmpty = true ∨ start ≥ line.length
  · have hc' : start ≥ line.length ∨ line.isEmpty = true := hc.symm
    simp only [hc, hc', ↓reduceIte]
  · have hc' : ¬ (start ≥ line.length ∨ line.isEmpty = true) := fun h => hc h.symm
    simp only [hc, hc', ↓reduceIte]
    cases iFindLabel line start with
    | panic => rfl
    | err e => rfl
    | ok x =>
      obtain ⟨i1, label⟩ := x
      cases label <;>
      · simp only [C08_fn_translation_find_output_and_command line i1 ⟨_, none, none, none⟩ rfl]
        cases iFindOutputAndCommand line i1 with
        | panic => rfl
        | err e => rfl
        | ok y =>
          obtain ⟨i2, o, c⟩ := y
          cases o <;> cases c <;> simp <;> cases iParseArguments line i2 <;> rfl

theorem C08_fn_translation_parse_line (line : Str) : parseLineGen line = iParseLine line := by
  unfold parseLineGen iParseLine
  simp only [C08_fn_translation_parse_pre_process_line, C08_fn_translation_parse_command_line]
  cases trim line with
  | nil => simp
  | cons c rest => simp [rd, @eq_comm _ '#' c]

/-! ### … hence the suffix model (Parser.lean) every parser theorem is stated about

  index form vs suffix form: from a start index inside the line the translated function answers
  the index `line.length - r.length` where the suffix model, run on what is left from `start`,
  answers "what is left" `r`; same values, same errors, no panic. -/

/-- `parse_line`: no hypothesis at all -/
theorem C08_fn_translation_parse_line_suffix (line : Str) :
    parseLineGen line = liftE (parseLine line) := by
  rw [C08_fn_translation_parse_line, iParseLine_refines]

theorem C08_fn_translation_parse_line_never_panics (line : Str) : parseLineGen line ≠ .panic := by
  rw [C08_fn_translation_parse_line_suffix]; exact liftE_ne_panic _

theorem C08_fn_translation_find_label_suffix (line : Str) (start : Nat) (h : start ≤ line.length) :
    findLabelGen line start =
      match findLabel (line.drop start) with
      | .ok (r, label) => .ok (line.length - r.length, label)
      | .error e => .err e := by
  rw [C08_fn_translation_find_label, iFindLabel_refines line start h]
  cases findLabel (line.drop start) with
  | error e => rfl
  | ok x => obtain ⟨r, v⟩ := x; rfl

theorem C08_fn_translation_find_output_and_command_suffix (line : Str) (start : Nat)
    (ins : ScriptInstr) (hi : ins.output = none) (h : start ≤ line.length) :
    findOutputAndCommandGen line start ins =
      match findOutputAndCommand (line.drop start) with
      | .ok (r, output, command) =>
        .ok (line.length - r.length,
          { ins with output := output,
                     command := match command with | some c => some c | none => ins.command })
      | .error e => .err e := by
  rw [C08_fn_translation_find_output_and_command line start ins hi,
    iFindOutputAndCommand_refines line start h]
  cases findOutputAndCommand (line.drop start) with
  | error e => rfl
  | ok x => obtain ⟨r, o, c⟩ := x; rfl

set_option linter.unusedVariables false in   -- `h` is not needed: beyond the end both sides answer on the empty text
theorem C08_fn_translation_parse_arguments_with_options_suffix (line : Str) (start : Nat) (cac : Bool)
    (h : start ≤ line.length) :
    parseArgumentsWithOptionsGen line start cac = liftE (parseArgumentsWith cac (line.drop start)) := by
  rw [C08_fn_translation_parse_arguments_with_options, iParseArgumentsWith_refines cac line start]

theorem C08_fn_translation_parse_arguments_suffix (line : Str) (start : Nat) (h : start ≤ line.length) :
    parseArgumentsGen line start = liftE (parseArguments (line.drop start)) :=
  C08_fn_translation_parse_arguments_with_options_suffix line start false h

set_option linter.unusedVariables false in   -- `h` is not needed: beyond the end both sides answer on the empty text
theorem C08_fn_translation_parse_pre_process_line_suffix (line : Str) (start : Nat)
    (h : start ≤ line.length) :
    parsePreProcessLineGen line start = liftE (parsePreProcessLine (line.drop start)) := by
  rw [C08_fn_translation_parse_pre_process_line, iParsePreProcessLine_refines line start]

set_option linter.unusedVariables false in   -- `h` is not needed: beyond the end both sides answer on the empty text
theorem C08_fn_translation_parse_command_line_suffix (line : Str) (start : Nat)
    (h : start ≤ line.length) :
    parseCommandLineGen line start = liftE (parseCommandLine (line.drop start)) := by
  rw [C08_fn_translation_parse_command_line, iParseCommandLine_refines line start]

/-! ### non-vacuity -/

/-- the translation computes: a whole line -/
example : parseLineGen "  :l out = cmd a \"b c\" # x".toList =
    .ok (.script { label := some ":l".toList, output := some "out".toList, command := some "cmd".toList,
                   args := some ["a".toList, "b c".toList] }) := by
  -- literals to character lists first, so that the kernel need not decode their UTF-8
  repeat rw [String.toList_ofList]
  decide +kernel
example : parseLineGen "!include_files  a b".toList =
    .ok (.preProcess (some "include_files".toList) (some ["a".toList, "b".toList])) := by
  repeat rw [String.toList_ofList]
  decide +kernel
example : parseLineGen "   # only a comment".toList = .ok .empty := by
  repeat rw [String.toList_ofList]
  decide +kernel
example : parseLineGen "x = \"".toList = .err .invalidQuotesLocation := by
  repeat rw [String.toList_ofList]
  decide +kernel
/-- the outcome `.panic` is reachable in the translation as soon as the loop discipline is broken
    (one iteration too many reads `line_text[len]`) -/
example : iFor (findLabelBodyGen " ".toList) 2 (0, none) = .panic := by
  repeat rw [String.toList_ofList]
  decide +kernel
/-- the hypothesis of `C08_fn_translation_find_output_and_command` is needed: handed an
    instruction that already has an output, the function behaves as if it had seen `=` after the
    first word even when there is none (the twin models the call on a fresh instruction) -/
example : findOutputAndCommandGen "a b".toList 0 { output := some "o".toList } =
      .ok (3, { output := some "o".toList, command := none }) ∧
    iFindOutputAndCommand "a b".toList 0 = .ok (1, none, some "a".toList) := by
  repeat rw [String.toList_ofList]
  decide +kernel

end Duck
