/-
  C08 (index arithmetic) — the parser "moves an index forward and backward by hand"; no
  character sequence makes that arithmetic panic.

  `DuckModel/ParserIndexed.lean` transcribes duckscript/src/parser.rs over an explicit
  `index : Nat` with an outcome `panic` wherever the Rust code would unwind (`line_text[index]`
  out of range, `index -= 1` at 0, `chars[0]` on an empty vector; also: the fuel of the
  argument `loop` running out).  Here: that outcome never occurs, the indices stay inside
  `[start, line.len()]`, and the index-faithful model computes exactly what the suffix model
  (`DuckModel/Parser.lean`) computes, so every theorem about the suffix model (Props/C01Core.lean,
  Props/C08Core.lean) holds for the index-faithful one.

  ONLY property theorems and their non-vacuity examples live here; helper lemmas are in
  DuckModel/Lemmas/Indexed*.lean.
-/
import DuckModel.ParserIndexed
import DuckModel.Lemmas.IndexedLemmas
import DuckModel.Lemmas.IndexedLineLemmas
import DuckModel.Lemmas.IndexedInvLemmas
import DuckModel.Props.C01Core
import DuckModel.Props.C08Core

namespace Duck
open Duck.Spec

/-! ### refinement: the index-faithful model computes what the suffix model computes -/

theorem C08_indexed_refines_suffix (line : Str) : iParseLine line = liftE (parseLine line) :=
  iParseLine_refines line

/-- the same, read outcome by outcome -/
theorem C08_indexed_refines_suffix_iff (line : Str) :
    (∀ ty, iParseLine line = .ok ty ↔ parseLine line = .ok ty) ∧
    (∀ e, iParseLine line = .err e ↔ parseLine line = .error e) := by
  rw [iParseLine_refines]
  exact ⟨fun ty => liftE_ok_iff _ _, fun e => liftE_err_iff _ _⟩

/-- `parse_next_value` from a start index inside the line: it returns index `idx` and value `v`
    exactly when the suffix model, run on what is left from `start`, returns what is left from
    `idx` and `v`; and `idx` is inside the line -/
theorem C08_next_value_refines (fl : PVFlags) (line : Str) (start idx : Nat) (v : Option Str)
    (h : start ≤ line.length) :
    iParseNextValue fl line start = .ok (idx, v) ↔
      idx ≤ line.length ∧ parseNextValue fl (line.drop start) = .ok (line.drop idx, v) := by
  rw [iParseNextValue_refines fl line start h]
  exact liftIdx_ok_iff line _ (fun r w hr => suffix_of_drop (parseNextValue_suffix hr)) idx v

/-- … with the same errors -/
theorem C08_next_value_refines_err (fl : PVFlags) (line : Str) (start : Nat) (e : PErr)
    (h : start ≤ line.length) :
    iParseNextValue fl line start = .err e ↔ parseNextValue fl (line.drop start) = .error e := by
  rw [iParseNextValue_refines fl line start h]
  exact liftIdx_err_iff line _ e

theorem C08_find_label_refines (line : Str) (start idx : Nat) (v : Option Str)
    (h : start ≤ line.length) :
    (iFindLabel line start = .ok (idx, v) ↔
      idx ≤ line.length ∧ findLabel (line.drop start) = .ok (line.drop idx, v)) ∧
    (∀ e, iFindLabel line start = .err e ↔ findLabel (line.drop start) = .error e) := by
  rw [iFindLabel_refines line start h]
  exact ⟨liftIdx_ok_iff line _ (fun r w hr => suffix_of_drop (findLabel_suffix hr)) idx v,
    fun e => liftIdx_err_iff line _ e⟩

theorem C08_find_output_and_command_refines (line : Str) (start idx : Nat)
    (oc : Option Str × Option Str) (h : start ≤ line.length) :
    (iFindOutputAndCommand line start = .ok (idx, oc) ↔
      idx ≤ line.length ∧ findOutputAndCommand (line.drop start) = .ok (line.drop idx, oc)) ∧
    (∀ e, iFindOutputAndCommand line start = .err e ↔
      findOutputAndCommand (line.drop start) = .error e) := by
  rw [iFindOutputAndCommand_refines line start h]
  exact ⟨liftIdx_ok_iff line _ (fun r w hr => suffix_of_drop (findOutputAndCommand_suffix hr)) idx oc,
    fun e => liftIdx_err_iff line _ e⟩

-- the three bounds `h` below are not needed: beyond the end both sides answer on the empty text
set_option linter.unusedVariables false in
/-- `parse_arguments` / `reparse_arguments` (the fuel `line.len() + 1` is never exhausted) -/
theorem C08_arguments_refine (cac : Bool) (line : Str) (start : Nat) (h : start ≤ line.length) :
    iParseArgumentsWith cac line start = liftE (parseArgumentsWith cac (line.drop start)) :=
  iParseArgumentsWith_refines cac line start

set_option linter.unusedVariables false in
theorem C08_pre_process_line_refines (line : Str) (start : Nat) (h : start ≤ line.length) :
    iParsePreProcessLine line start = liftE (parsePreProcessLine (line.drop start)) :=
  iParsePreProcessLine_refines line start

set_option linter.unusedVariables false in
theorem C08_command_line_refines (line : Str) (start : Nat) (h : start ≤ line.length) :
    iParseCommandLine line start = liftE (parseCommandLine (line.drop start)) :=
  iParseCommandLine_refines line start

/-! ### start indices at or beyond the end (`start_index >= end_index` guards) -/

/-- what every function answers when started at or beyond the end of the line: nothing is read -/
theorem C08_start_beyond_end (fl : PVFlags) (cac : Bool) (line : Str) (start : Nat)
    (h : line.length ≤ start) :
    iParseNextValue fl line start = .ok (start, none) ∧
    iFindLabel line start = .ok (start, none) ∧
    iFindOutputAndCommand line start = .ok (start, none, none) ∧
    iParseArgumentsWith cac line start = .ok none ∧
    iParseCommandLine line start = .ok .empty ∧
    iParsePreProcessLine line start = .err .preProcessNoCommandFound :=
  ⟨iParseNextValue_beyond fl line start h, iFindLabel_beyond line start h,
    iFindOutputAndCommand_beyond line start h, iParseArgumentsWith_beyond cac line start h,
    iParseCommandLine_beyond line start h, iParsePreProcessLine_beyond line start h⟩

/-! ### no panic -/

/-- `parse_line` never panics, whatever the characters of the line -/
theorem C08_index_never_panics (line : Str) : iParseLine line ≠ .panic := by
  rw [iParseLine_refines]; exact liftE_ne_panic _

/-- `parse_next_value` never panics, for every flag combination and EVERY start index -/
theorem C08_next_value_never_panics (fl : PVFlags) (line : Str) (start : Nat) :
    iParseNextValue fl line start ≠ .panic :=
  iParseNextValue_ne_panic fl line start

theorem C08_find_label_never_panics (line : Str) (start : Nat) :
    iFindLabel line start ≠ .panic := by
  by_cases h : start ≤ line.length
  · rw [iFindLabel_refines line start h]; exact liftIdx_ne_panic _ _
  · rw [iFindLabel_beyond line start (by omega)]; simp

theorem C08_find_output_and_command_never_panics (line : Str) (start : Nat) :
    iFindOutputAndCommand line start ≠ .panic := by
  by_cases h : start ≤ line.length
  · rw [iFindOutputAndCommand_refines line start h]; exact liftIdx_ne_panic _ _
  · rw [iFindOutputAndCommand_beyond line start (by omega)]; simp

/-- … in particular the fuel of the argument loop is never exhausted -/
theorem C08_arguments_never_panic (cac : Bool) (line : Str) (start : Nat) :
    iParseArgumentsWith cac line start ≠ .panic :=
  iParseArgumentsWith_refines cac line start ▸ liftE_ne_panic _

theorem C08_pre_process_line_never_panics (line : Str) (start : Nat) :
    iParsePreProcessLine line start ≠ .panic :=
  iParsePreProcessLine_refines line start ▸ liftE_ne_panic _

theorem C08_command_line_never_panics (line : Str) (start : Nat) :
    iParseCommandLine line start ≠ .panic :=
  iParseCommandLine_refines line start ▸ liftE_ne_panic _

/-! ### loop invariants (proved on the index-faithful model alone) -/

/-- Shape of every `for _i in index..end_index` loop of the parser: if the body moves the index
    forward by exactly one when it continues, leaves it in `[old, end_index]` when it breaks and
    does not panic while the index is in range, then — started with
    `index + iterations = end_index` — the loop never panics and the final index is in
    `[start, end_index]`.  (So at the head of every iteration `index < end_index`: the read
    `line_text[index]` is in range.) -/
theorem C08_loop_invariant {σ : Type} (body : σ → IStep σ) (ix : σ → Nat) (E : Nat)
    (hnext : ∀ s s', ix s < E → body s = .next s' → ix s' = ix s + 1)
    (hbrk : ∀ s s', ix s < E → body s = .brk s' → ix s ≤ ix s' ∧ ix s' ≤ E)
    (hpanic : ∀ s, ix s < E → body s ≠ .panic) (n : Nat) (s : σ) (h : ix s + n = E) :
    iFor body n s ≠ .panic ∧ ∀ s', iFor body n s = .ok s' → ix s ≤ ix s' ∧ ix s' ≤ E :=
  iFor_index_inv body ix E hnext hbrk hpanic n s h

/-- The body of the `parse_next_value` loop, at ANY index and with ANY `end_index`:
    it unwinds exactly when the read is out of range — so `index -= 1` never underflows, because
    it is only applied to the index that was incremented in the same iteration;
    `continue` = index + 1; `break` = index (decremented back), index + 1, or `end_index`. -/
theorem C08_next_value_body_index (fl : PVFlags) (line : Str) (E : Nat) (s : IPV) :
    (ipvBody fl line E s = .panic ↔ line.length ≤ s.index) ∧
    (∀ s', ipvBody fl line E s = .next s' → s'.index = s.index + 1) ∧
    (∀ s', ipvBody fl line E s = .brk s' →
      s'.index = s.index ∨ s'.index = s.index + 1 ∨ s'.index = E) :=
  ipvBody_index fl line E s

/-- the same for the loops of `find_label`, `find_output_and_command` and
    `parse_pre_process_line`: the read is the only source of a panic (the decrement in
    `find_label` is not), `continue` = index + 1 -/
theorem C08_other_bodies_index (line v : Str) :
    (∀ s, iflBody line s = .panic ↔ line.length ≤ s.index) ∧
    (∀ s s', iflBody line s = .next s' → s'.index = s.index + 1) ∧
    (∀ s s', s.index < line.length → iflBody line s = .brk s' →
      s.index ≤ s'.index ∧ s'.index ≤ line.length) ∧
    (∀ s, iocBody line v s = .panic ↔ line.length ≤ s.index) ∧
    (∀ s s', iocBody line v s = .next s' ∨ iocBody line v s = .brk s' → s'.index = s.index + 1) ∧
    (∀ s, ippBody line s = .panic ↔ line.length ≤ s.index) ∧
    (∀ s s', ippBody line s = .next s' ∨ ippBody line s = .brk s' → s'.index = s.index + 1) :=
  ⟨fun s => (iflBody_index line s).1, fun s => (iflBody_index line s).2.1,
    fun s => (iflBody_index line s).2.2, fun s => (iocBody_index line v s).1,
    fun s => (iocBody_index line v s).2, fun s => (ippBody_index line s).1,
    fun s => (ippBody_index line s).2⟩

/-- the loop of `parse_next_value` started anywhere with `index + iterations = end_index` -/
theorem C08_next_value_loop_invariant (fl : PVFlags) (line : Str) (n : Nat) (s : IPV)
    (h : s.index + n = line.length) :
    iFor (ipvBody fl line line.length) n s ≠ .panic ∧
      ∀ s', iFor (ipvBody fl line line.length) n s = .ok s' →
        s.index ≤ s'.index ∧ s'.index ≤ line.length :=
  ipv_loop_inv fl line n s h

/-- the index `parse_next_value` hands back is never before the start index and, from a start
    inside the line, never beyond the end of the line -/
theorem C08_next_value_index_bounds (fl : PVFlags) (line : Str) (start idx : Nat) (v : Option Str)
    (h : iParseNextValue fl line start = .ok (idx, v)) :
    start ≤ idx ∧ (start ≤ line.length → idx ≤ line.length) :=
  iParseNextValue_index fl line start idx v h

/-! ### theorems about the suffix model carried over -/

/-- C01 for the index-faithful model: a rendered line parses back to its instruction -/
theorem C08_indexed_roundtrip (ch : Choices) (i : ScriptInstr) (hi : InstrOK i) (hc : ChoicesOK ch) :
    iParseLine (renderLine ch i) = .ok (expected i) := by
  rw [C08_indexed_refines_suffix, C01_line_roundtrip ch i hi hc]; rfl

/-- blank lines and comment lines (Props/C08Core.lean) -/
theorem C08_indexed_blank_or_comment_is_empty (l : Str)
    (h : trim l = [] ∨ (trim l).head? = some '#') : iParseLine l = .ok .empty := by
  rw [C08_indexed_refines_suffix, C08_blank_or_comment_is_empty l h]; rfl

/-- a malformed-line class of Props/C08Core.lean: the unterminated quoted argument -/
theorem C08_indexed_unterminated_quote (ch : Choices) (i : ScriptInstr) (hi : InstrOK i)
    (hc : ChoicesOK ch) (hcmd : i.command ≠ none) (hnc : ch.comment = none) (k : Nat) (s : Str) :
    iParseLine (ch.lead ++ renderBody ch i ++ spaces (k + 1) ++ '"' :: escape s ++ ch.trail) =
      .err .missingEndQuotes := by
  rw [C08_indexed_refines_suffix, C08_unterminated_quote ch i hi hc hcmd hnc k s]; rfl

/-- a line whose first token begins with a double quote -/
theorem C08_indexed_quote_starts_name (lead rest : Str) (hl : ∀ c ∈ lead, isWs c = true) :
    iParseLine (lead ++ '"' :: rest) = .err .invalidQuotesLocation := by
  rw [C08_indexed_refines_suffix, C08_quote_starts_name lead rest hl]; rfl

/-! ### non-vacuity: the model CAN panic, and the awkward line ends are exercised -/

/-- the outcome `panic` is reachable in the model as soon as the loop discipline is broken:
    one iteration too many reads `line_text[len]` … -/
example : iFor (ipvBody nameFlags "ab".toList 2) 3 { index := 0 } = .panic := by
  -- literals to character lists first, so that the kernel need not decode their UTF-8
  repeat rw [String.toList_ofList]
  decide +kernel
/-- … and a decrement at index 0 underflows -/
example : decr 0 = none := rfl
example : rd "ab".toList 2 = none := rfl

/-- trailing spaces (untrimmed, as `parse_command_line` may be called): the argument scan runs
    to the very end of the line -/
example : iParseCommandLine "cmd a  ".toList 0 =
    .ok (.script { command := some "cmd".toList, args := some ["a".toList] }) := by
  repeat rw [String.toList_ofList]
  decide +kernel

/-- `index -= 1` after the value: the returned index points AT the space / the `=` -/
example : iParseNextValue outputFlags "x=".toList 0 = .ok (1, some "x".toList) := by
  repeat rw [String.toList_ofList]
  decide +kernel
example : iParseNextValue nameFlags "ab  ".toList 0 = .ok (2, some "ab".toList) := by
  repeat rw [String.toList_ofList]
  decide +kernel
/-- `index = end_index` on `#` -/
example : iParseNextValue nameFlags "ab#cd".toList 0 = .ok (5, some "ab".toList) := by
  repeat rw [String.toList_ofList]
  decide +kernel
example : iParseNextValue nameFlags " #".toList 0 = .ok (2, none) := by
  repeat rw [String.toList_ofList]
  decide +kernel
/-- a start index beyond the end is handed back unchanged -/
example : iParseNextValue nameFlags "ab".toList 7 = .ok (7, none) := by
  repeat rw [String.toList_ofList]
  decide +kernel

/-- `=` as the last character: `parse_next_value` is called with `index == len` -/
example : iParseLine "x =".toList = .ok (.script { output := some "x".toList }) := by
  repeat rw [String.toList_ofList]
  decide +kernel
example : iParseLine "x=".toList = .ok (.script { output := some "x".toList }) := by
  repeat rw [String.toList_ofList]
  decide +kernel
/-- `#` as the last character -/
example : iParseLine "cmd #".toList = .ok (.script { command := some "cmd".toList }) := by
  repeat rw [String.toList_ofList]
  decide +kernel
example : iParseLine "cmd a#".toList =
    .ok (.script { command := some "cmd".toList, args := some ["a".toList] }) := by
  repeat rw [String.toList_ofList]
  decide +kernel
/-- a lone `:` (the label scan starts at `index == len`), `:` then spaces, a lone `!` -/
example : iParseLine ":".toList = .ok .empty := by
  repeat rw [String.toList_ofList]
  decide +kernel
example : iParseCommandLine ":  ".toList 0 = .ok .empty := by
  repeat rw [String.toList_ofList]
  decide +kernel
example : iParseLine "!".toList = .err .preProcessNoCommandFound := by
  repeat rw [String.toList_ofList]
  decide +kernel
example : iParseLine "!  x  ".toList = .ok (.preProcess (some "x".toList) none) := by
  repeat rw [String.toList_ofList]
  decide +kernel
/-- an open quote / a dangling backslash at the end of the line -/
example : iParseLine "cmd \"a".toList = .err .missingEndQuotes := by
  repeat rw [String.toList_ofList]
  decide +kernel
example : iParseLine "cmd \"a\\".toList = .err .controlWithoutValidValue := by
  repeat rw [String.toList_ofList]
  decide +kernel

/-- the refinement on concrete start indices: the suffix model on `drop 3` -/
example : iParseNextValue (argFlags false) "cmd a b".toList 3 = .ok (5, some "a".toList) ∧
    parseNextValue (argFlags false) ("cmd a b".toList.drop 3) = .ok ("cmd a b".toList.drop 5, some "a".toList) :=
  ⟨by repeat rw [String.toList_ofList]
      decide +kernel, rfl⟩

/-- the hypotheses of `C08_indexed_roundtrip` are those of C01 -/
example : iParseLine (renderLine C01_sampleChoices C01_sampleInstr) = .ok (.script C01_sampleInstr) :=
  C08_indexed_roundtrip _ _ C01_sampleInstr_ok C01_sampleChoices_ok

end Duck
