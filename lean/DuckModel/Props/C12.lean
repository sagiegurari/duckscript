/-
  C12 — arrays, maps and sets behind handles behave like their plain counterparts.

  Implementation model : DuckModel/Sdk/Collections.lean   (`Duck.Coll`)
  Reference model      : DuckModel/Spec/Store.lean        (`Duck.Spec.Store`)
  Relation             : `Duck.Coll.R` (Lemmas/CollectionsLemmas.lean): same allocation counter,
                         every table lookup abstracts to the store's answer (list cells rendered
                         to strings), every live key was handed out by the allocator.
  Props/C12Scripts*.lean (the script-implemented commands) are imported so that this module
  builds the whole property.
-/
import DuckModel.Lemmas.CollectionsRelease
import DuckModel.Props.C12Scripts
import DuckModel.Props.C12ScriptsNatives

namespace Duck
open Duck.Coll

/-- per-operation simulation, every command (all 36) and every argument list except
    `release -r …`, whatever the reference model's recursion bound -/
theorem C12_refines_step_any_bound (fuel : Nat) {m : Coll.St} {s : Spec.Store.St} (hR : R m s)
    (c : CollCmd) (args : List Str) (hnr : isRecRelease c args = false) :
    R (Coll.exec m c args).1 (Spec.Store.exec fuel s c args).1 ∧
      absR (Coll.exec m c args).2 = (Spec.Store.exec fuel s c args).2 :=
  sim_exec fuel hR c args hnr

/-- refinement over whole histories: equal outputs,
    related (lookup-equal up to abstraction) states, for histories without the recursive form of
    `release`, whatever the recursion bound -/
theorem C12_refines_any_bound (fuel : Nat) (ops : List (CollCmd × List Str))
    (hnr : ∀ op ∈ ops, isRecRelease op.1 op.2 = false)
    {m : Coll.St} {s : Spec.Store.St} (hR : R m s) :
    R (Coll.run m ops).1 (Spec.Store.run fuel s ops).1 ∧
      (Coll.run m ops).2.map absR = (Spec.Store.run fuel s ops).2 := by
  induction ops generalizing m s with
  | nil => exact ⟨hR, rfl⟩
  | cons op rest ih =>
    obtain ⟨c, a⟩ := op
    have h1 := C12_refines_step_any_bound fuel hR c a (hnr (c, a) (by simp))
    have h2 := ih (fun op hop => hnr op (by simp [hop])) h1.1
    simp only [Coll.run, Spec.Store.run, List.map_cons]
    exact ⟨h2.1, by rw [h1.2, h2.2]⟩

/-- … in particular from the empty handle table -/
theorem C12_refines_any_bound_from_empty (fuel : Nat) (ops : List (CollCmd × List Str))
    (hnr : ∀ op ∈ ops, isRecRelease op.1 op.2 = false) :
    R (Coll.run {} ops).1 (Spec.Store.run fuel Spec.Store.empty ops).1 ∧
      (Coll.run {} ops).2.map absR = (Spec.Store.run fuel Spec.Store.empty ops).2 :=
  C12_refines_any_bound fuel ops hnr R_empty

/-- PER-OPERATION SIMULATION, all 36 commands, all argument lists, incl. `release -r`:
    from related states the two models produce equal outputs and related states, provided the
    reference model's recursion bound is at least the number of table entries -/
theorem C12_refines_step (fuel : Nat) {m : Coll.St} {s : Spec.Store.St} (hR : R m s)
    (c : CollCmd) (args : List Str) (hf : m.tbl.length ≤ fuel) :
    R (Coll.exec m c args).1 (Spec.Store.exec fuel s c args).1 ∧
      absR (Coll.exec m c args).2 = (Spec.Store.exec fuel s c args).2 := by
  by_cases hc : c = .release
  · subst hc; exact sim_release fuel hR args hf
  · exact C12_refines_step_any_bound fuel hR c args (by
      cases c <;> first | rfl | exact absurd rfl hc)

/-- REFINEMENT over whole histories: for every history of
    collection commands there is a bound N (the largest number of live table entries along
    the run) such that for every recursion bound ≥ N of the reference model the outputs are
    equal, one by one, and the final states are related (every table lookup abstracts to the
    store's answer) -/
theorem C12_refines (ops : List (CollCmd × List Str)) (m : Coll.St) :
    ∃ N, ∀ (s : Spec.Store.St), R m s → ∀ fuel, N ≤ fuel →
      R (Coll.run m ops).1 (Spec.Store.run fuel s ops).1 ∧
        (Coll.run m ops).2.map absR = (Spec.Store.run fuel s ops).2 := by
  induction ops generalizing m with
  | nil => exact ⟨0, fun _ hR _ _ => ⟨hR, rfl⟩⟩
  | cons op rest ih =>
    obtain ⟨c, a⟩ := op
    obtain ⟨N, hN⟩ := ih (Coll.exec m c a).1
    refine ⟨max N m.tbl.length, fun s hR fuel hfu => ?_⟩
    have h1 := C12_refines_step fuel hR c a (by omega)
    have h2 := hN _ h1.1 fuel (by omega)
    simp only [Coll.run, Spec.Store.run, List.map_cons]
    exact ⟨h2.1, by rw [h1.2, h2.2]⟩

/-- … in particular from the empty handle table -/
theorem C12_refines_from_empty (ops : List (CollCmd × List Str)) :
    ∃ N, ∀ fuel, N ≤ fuel →
      R (Coll.run {} ops).1 (Spec.Store.run fuel Spec.Store.empty ops).1 ∧
        (Coll.run {} ops).2.map absR = (Spec.Store.run fuel Spec.Store.empty ops).2 := by
  obtain ⟨N, h⟩ := C12_refines ops {}
  exact ⟨N, h _ R_empty⟩

/-! ### wrong kind / unknown / released handle -/

def kindOf : Value → Option CollKind
  | .list _ => some .vec
  | .map _ => some .map
  | .set _ => some .set
  | .other _ => none

/-- commands that answer `false` instead of an error for a handle of the wrong kind -/
def answersFalse : CollCmd → Bool
  | .isArray | .isMap | .isSet | .arrayContains => true
  | _ => false

/-- the remove-then-reinsert identity of the three helpers, for every kind that is not the
    expected one (`other` stands for the ten non-collection kinds) and for a missing key -/
theorem C12_mutate_wrong_kind_unchanged (t : Table) (k : Str) :
    (∀ f, (∀ v, tget t k = some v → kindOf v ≠ some .vec) →
      (mutateList t k f).2 = .err ∧ LookupEq (mutateList t k f).1 t) ∧
    (∀ f, (∀ v, tget t k = some v → kindOf v ≠ some .map) →
      (mutateMap t k f).2 = .err ∧ LookupEq (mutateMap t k f).1 t) ∧
    (∀ f, (∀ v, tget t k = some v → kindOf v ≠ some .set) →
      (mutateSet t k f).2 = .err ∧ LookupEq (mutateSet t k f).1 t) := by
  refine ⟨fun f h => mutateList_wrong t k f ?_, fun f h => mutateMap_wrong t k f ?_,
    fun f h => mutateSet_wrong t k f ?_⟩ <;>
  · intro v hv
    have := h v hv
    cases v <;> simp_all [kindOf, Value.isList, Value.isMap, Value.isSet]

/-- every command that expects a collection of kind `k` behind its first argument, given a
    handle that is released / unknown (`tget = none`) or of another kind: the result is an
    error (or `false` for the `is_*` family and `array_contains`), no handle is allocated and
    every lookup in the table answers as before -/
theorem C12_wrong_kind_unchanged (m : Coll.St) (c : CollCmd) (k : CollKind) (h : Str) (rest : List Str)
    (hk : c.expects = some k)
    (hv : ∀ v, tget m.tbl h = some v → kindOf v ≠ some k) :
    LookupEq (Coll.exec m c (h :: rest)).1.tbl m.tbl ∧
    (Coll.exec m c (h :: rest)).1.next = m.next ∧
    ((Coll.exec m c (h :: rest)).2 = .err ∨
      (answersFalse c = true ∧ (Coll.exec m c (h :: rest)).2 = .val (some sFalse))) ∧
    ((c = .isArray ∨ c = .isMap ∨ c = .isSet) → (Coll.exec m c (h :: rest)).2 = .val (some sFalse)) := by
  -- on a handle of another kind the take-out / put-back helpers report an error and change no lookup
  have hL := fun f => (C12_mutate_wrong_kind_unchanged m.tbl h).1 f
  have hM := fun f => (C12_mutate_wrong_kind_unchanged m.tbl h).2.1 f
  have hS := fun f => (C12_mutate_wrong_kind_unchanged m.tbl h).2.2 f
  cases c <;> simp only [CollCmd.expects, Option.some.injEq, reduceCtorEq] at hk <;> subst hk
  case arrayPush | arrayPop | arrayClear =>
    simp [Coll.exec, cmdArrayPush, cmdArrayPop, cmdArrayClear, hL _ hv, okTrue]
  case arrayGet | arraySet | arrayRemove =>
    rcases rest with _ | ⟨i, rest⟩
    · simp [Coll.exec, cmdArrayGet, cmdArraySet, cmdArrayRemove, LookupEq.rfl']
    · cases hi : parseUsize i <;> rcases rest with _ | ⟨v, r⟩ <;>
        simp [Coll.exec, cmdArrayGet, cmdArraySet, cmdArrayRemove, hi, hL _ hv, LookupEq.rfl']
  case mapPut | mapGet | mapRemove | mapClear =>
    rcases rest with _ | ⟨k, _ | ⟨v, r⟩⟩ <;>
      simp [Coll.exec, cmdMapPut, cmdMapGet, cmdMapRemove, cmdMapClear, hM _ hv, okTrue, LookupEq.rfl']
  case setPut | setRemove | setContains | setClear =>
    rcases rest with _ | ⟨v, r⟩ <;>
      simp [Coll.exec, cmdSetPut, cmdSetRemove, cmdSetContains, cmdSetClear, hS _ hv, okTrue,
        LookupEq.rfl']
  -- commands that only look the handle up: by `hn` the match on what is behind it cannot take the
  -- arm of the expected kind (`simp` finds `hn` in the context for the equation of the other arm)
  case arrayContains | arrayJoin =>
    have hn := fun l e => hv (.list l) e rfl
    cases rest <;> simp [Coll.exec, cmdArrayContains, cmdArrayJoin, LookupEq.rfl', answersFalse]
  case mapContainsKey | mapContainsValue =>
    have hn := fun x e => hv (.map x) e rfl
    cases rest <;> simp [Coll.exec, cmdMapContainsKey, cmdMapContainsValue, LookupEq.rfl']
  case arrayLength | arrayIsEmpty | setFromArray | isArray =>
    have hn := fun l e => hv (.list l) e rfl
    simp [Coll.exec, cmdArrayLength, cmdArrayIsEmpty, cmdSetFromArray, cmdIsArray, LookupEq.rfl',
      answersFalse]
  case mapSize | mapKeys | mapIsEmpty | isMap =>
    have hn := fun x e => hv (.map x) e rfl
    simp [Coll.exec, cmdMapSize, cmdMapKeys, cmdMapIsEmpty, cmdIsMap, LookupEq.rfl', answersFalse]
  case setSize | setToArray | setIsEmpty | isSet =>
    have hn := fun x e => hv (.set x) e rfl
    simp [Coll.exec, cmdSetSize, cmdSetToArray, cmdSetIsEmpty, cmdIsSet, LookupEq.rfl', answersFalse]

/-- releasing a handle that is not live answers `false` and changes no lookup
    (plain and recursive form) -/
theorem C12_release_unknown (m : Coll.St) (h flag : Str) (hn : tget m.tbl h = none)
    (hf : isRecFlag flag = true) :
    (Coll.exec m .release [h]).2 = .val (some sFalse) ∧
    LookupEq (Coll.exec m .release [h]).1.tbl m.tbl ∧
    (Coll.exec m .release [flag, h]).2 = .val (some sFalse) ∧
    LookupEq (Coll.exec m .release [flag, h]).1.tbl m.tbl := by
  have e : ∀ n, removeRec n m.tbl h = some (tremove m.tbl h, false) := by
    intro n; cases n <;> simp [removeRec, hn]
  simp [Coll.exec, cmdRelease, hn, hf, e, boolStr, lookupEq_remove_absent _ _ hn]

/-! ### values are stored and returned verbatim -/

/-- what `array_push` stored is what `array_get` (at the old length) and `array_pop` return;
    what `map_put` stored is what `map_get` returns; what `set_put` stored is contained -/
theorem C12_verbatim (m : Coll.St) (h : Str) (v : Str) :
    (∀ l i, tget m.tbl h = some (.list l) → parseUsize i = some l.length →
      (Coll.exec (Coll.exec m .arrayPush [h, v]).1 .arrayGet [h, i]).2 = .val (some v) ∧
      (Coll.exec (Coll.exec m .arrayPush [h, v]).1 .arrayPop [h]).2 = .val (some v)) ∧
    (∀ mm k, tget m.tbl h = some (.map mm) →
      (Coll.exec (Coll.exec m .mapPut [h, k, v]).1 .mapGet [h, k]).2 = .val (some v)) ∧
    (∀ x, tget m.tbl h = some (.set x) →
      (Coll.exec (Coll.exec m .setPut [h, v]).1 .setContains [h, v]).2 = .val (some sTrue)) := by
  refine ⟨fun l i hl hi => ?_, fun mm k hm => ?_, fun x hx => ?_⟩
  · simp [Coll.exec, cmdArrayPush, cmdArrayGet, cmdArrayPop, mutateList, hl, hi, tget_replace, okTrue]
  · simp [Coll.exec, cmdMapPut, cmdMapGet, mutateMap, hm, tget_replace, okTrue, mget_minsert]
  · have : ∀ (ys : List Str) (x : List Str), v ∈ x → v ∈ ys.foldl sinsert x := by
      intro ys; induction ys with
      | nil => intro x hx; simpa using hx
      | cons y r ih =>
        intro x hx
        simp only [List.foldl]
        apply ih
        unfold sinsert; split <;> simp [hx]
    have hin : v ∈ sinsertAll x [v] := by
      unfold sinsertAll; simp only [List.foldl]; unfold sinsert; split <;> simp_all
    simp [Coll.exec, cmdSetPut, cmdSetContains, mutateSet, hx, tget_replace, okTrue, boolStr, hin]

/-! ### the last put wins -/

/-- after `map_put h k v1`, any number of further puts into the same map — of other keys, or
    of the same key again — `map_get h k` returns the value of the LAST put of `k`; a second put
    of a key does not change the size -/
theorem C12_last_put_wins (m : Coll.St) (h k : Str) (mm : List (Str × Item))
    (hm : tget m.tbl h = some (.map mm)) (v1 v2 k' v' : Str) (hk : k' ≠ k) :
    (Coll.exec (Coll.exec (Coll.exec m .mapPut [h, k, v1]).1 .mapPut [h, k, v2]).1 .mapGet [h, k]).2
        = .val (some v2) ∧
    (Coll.exec (Coll.exec (Coll.exec m .mapPut [h, k, v1]).1 .mapPut [h, k', v']).1 .mapGet [h, k]).2
        = .val (some v1) ∧
    (Coll.exec (Coll.exec (Coll.exec m .mapPut [h, k, v1]).1 .mapPut [h, k, v2]).1 .mapSize [h]).2
        = (Coll.exec (Coll.exec m .mapPut [h, k, v1]).1 .mapSize [h]).2 := by
  have hlen : ∀ (mm : List (Str × Item)) (v : Item), (mget mm k).isSome →
      (minsert mm k v).length = mm.length := by
    intro mm v; induction mm with
    | nil => simp [mget]
    | cons p r ih =>
      obtain ⟨a, w⟩ := p
      by_cases e : a = k <;> simp [minsert, mget, e]
      exact ih
  have hk' : ¬ k = k' := fun e => hk e.symm
  refine ⟨?_, ?_, ?_⟩
  · simp [Coll.exec, cmdMapPut, cmdMapGet, mutateMap, hm, tget_replace, okTrue, mget_minsert]
  · simp [Coll.exec, cmdMapPut, cmdMapGet, mutateMap, hm, tget_replace, okTrue, mget_minsert, hk']
  · simp [Coll.exec, cmdMapPut, cmdMapSize, mutateMap, hm, tget_replace, okTrue]
    rw [hlen]
    simp [mget_minsert]

/-- the same for vectors: `array_set h i v` twice, then `array_get h i` returns the second -/
theorem C12_last_set_wins (m : Coll.St) (h i : Str) (n : Nat) (l : List Item)
    (hl : tget m.tbl h = some (.list l)) (hi : parseUsize i = some n) (hn : n < l.length) (v1 v2 : Str) :
    (Coll.exec (Coll.exec (Coll.exec m .arraySet [h, i, v1]).1 .arraySet [h, i, v2]).1 .arrayGet [h, i]).2
      = .val (some v2) := by
  simp [Coll.exec, cmdArraySet, cmdArrayGet, mutateList, hl, hi, hn, tget_replace]

/-! ### handles are distinct while live -/

/-- allocator invariant: every live key is `handle:<k>` for some k below the counter -/
def AllocInv (m : Coll.St) : Prop :=
  ∀ h, tget m.tbl h ≠ none → ∃ k, k < m.next ∧ h = Coll.handleName k

/-- under the allocator assumption (the model's counter; for the code: the RNG never returns a
    live key) a freshly allocated handle differs from every live handle, allocation changes no
    other lookup, and the invariant is kept -/
theorem C12_fresh_handles_distinct (m : Coll.St) (hI : AllocInv m) (v : Value) :
    tget m.tbl (putHandle m v).2 = none ∧
    (∀ h w, tget m.tbl h = some w → h ≠ (putHandle m v).2 ∧ tget (putHandle m v).1.tbl h = some w) ∧
    tget (putHandle m v).1.tbl (putHandle m v).2 = some v ∧
    AllocInv (putHandle m v).1 := by
  have hfree : tget m.tbl (Coll.handleName m.next) = none := next_free_of_fresh hI
  refine ⟨hfree, fun h w hw => ?_, by simp [putHandle, tget_tinsert], fun h hh => ?_⟩
  · have hne : h ≠ Coll.handleName m.next := by
      intro e; rw [e, hfree] at hw; cases hw
    exact ⟨hne, by simp [putHandle, tget_tinsert, hne, hw]⟩
  · simp only [putHandle, tget_tinsert] at hh
    by_cases e : h = Coll.handleName m.next
    · exact ⟨m.next, by simp [putHandle], e⟩
    · simp [e] at hh
      obtain ⟨k, hk, e'⟩ := hI h hh
      exact ⟨k, by simp [putHandle]; omega, e'⟩

/-- two different allocation numbers give two different handle strings -/
theorem C12_handle_names_injective (a b : Nat) (h : Coll.handleName a = Coll.handleName b) : a = b :=
  handleName_inj h

/-- the invariant holds after every history -/
theorem C12_alloc_inv (ops : List (CollCmd × List Str)) : AllocInv (Coll.run {} ops).1 := by
  obtain ⟨N, h⟩ := C12_refines_from_empty ops
  exact (h N (Nat.le_refl _)).1.fresh

/-! ### recursive release terminates -/

/-- `release -r` terminates: with fuel = number of table entries (or more) the recursion never
    runs out of fuel — every call that recurses has removed an entry first — however the stored
    strings refer to each other (sharing, cycles, self reference).  The resulting table is
    no larger, and every lookup answers as before or is gone (no collection is modified). -/
theorem C12_release_recursive_terminates (fuel : Nat) (t : Table) (k : Str) (hf : t.length ≤ fuel) :
    ∃ t' b, removeRec fuel t k = some (t', b) ∧ t'.length ≤ t.length ∧
      ∀ h, tget t' h = tget t h ∨ tget t' h = none :=
  removeRec_total fuel t k hf

/-- hence the `release` command of the model never reports the out-of-fuel error -/
theorem C12_release_never_out_of_fuel (m : Coll.St) (args : List Str) :
    (Coll.exec m .release args).2 ≠ .err := by
  match args with
  | [] => simp [Coll.exec, cmdRelease]
  | [a] => simp [Coll.exec, cmdRelease]
  | a :: b :: r =>
    obtain ⟨t', bb, e, _, _⟩ := C12_release_recursive_terminates m.tbl.length m.tbl b (Nat.le_refl _)
    simp only [Coll.exec, cmdRelease]
    split <;> simp [e]

/-! ### non-vacuity -/

-- a history over all three kinds with kind confusion and use after release, run by both models
example :
    (Coll.run {} [(.array, ["a".toList, "b".toList]), (.map, []), (.mapPut, ["handle:2".toList, "k".toList, "handle:1".toList]),
      (.arrayPush, ["handle:2".toList, "x".toList]), (.mapGet, ["handle:2".toList, "k".toList]),
      (.release, ["handle:1".toList]), (.arrayLength, ["handle:1".toList])]).2
    = [.val (some "handle:1".toList), .val (some "handle:2".toList), .val (some "true".toList), .err,
       .val (some "handle:1".toList), .val (some "true".toList), .err] := by
  repeat rw [String.toList_ofList]
  decide +kernel

-- the reference model on a history with nesting and a recursive release (bound 3 suffices)
example :
    (Spec.Store.run 3 Spec.Store.empty [(.array, ["x".toList]), (.setNew, ["handle:1".toList]),
      (.map, []), (.mapPut, ["handle:3".toList, "k".toList, "handle:2".toList]),
      (.release, ["-r".toList, "handle:3".toList]), (.isArray, ["handle:1".toList])]).2
    = [.val (some "handle:1".toList), .val (some "handle:2".toList), .val (some "handle:3".toList),
       .val (some "true".toList), .val (some "true".toList), .val (some "false".toList)] := by
  repeat rw [String.toList_ofList]
  decide +kernel

example : isRecRelease .release ["-r".toList, "handle:1".toList] = true := by decide +kernel
example : isRecRelease .release ["handle:1".toList, "-r".toList] = false := by
  repeat rw [String.toList_ofList]
  decide +kernel

-- the hypotheses of C12_wrong_kind_unchanged are satisfiable: a set handle given to array_push
example : ∃ m : Coll.St, ∃ h, CollCmd.arrayPush.expects = some .vec ∧
    (∀ v, tget m.tbl h = some v → kindOf v ≠ some .vec) ∧ tget m.tbl h ≠ none :=
  ⟨{ tbl := [("h".toList, .set [])], next := 2 }, "h".toList, rfl, by
    intro v hv; simp [tget] at hv; subst hv; simp [kindOf], by simp [tget]⟩

-- recursive release over a cycle terminates with fuel = table size
example : (removeRec 2 [("a".toList, .list [.str "b".toList]), ("b".toList, .set ["a".toList, "b".toList])] "a".toList)
    = some ([], true) := by decide +kernel

-- index parsing as Rust does
example : parseUsize "+1".toList = some 1 ∧ parseUsize "-1".toList = none ∧ parseUsize "".toList = none ∧
    parseUsize "1.0".toList = none ∧ parseUsize "007".toList = some 7 := by decide +kernel

end Duck
