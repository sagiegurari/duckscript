/-
  C01 on the TRANSLATION of the current source: `parseLineGen` (Generated/ParserFns.lean, produced
  by bin/rust2lean.py from `parse_line` and the functions it calls in duckscript/src/parser.rs on
  every run) parses a rendered line back to the instruction it was rendered from.  The round-trip
  theorems of Props/C01Core.lean are about the hand-written `parseLine`; `C08_fn_translation_parse_line_suffix`
  proves the two equal for every line, so a change to parser.rs that alters the meaning of
  `parse_line` breaks either that equality or — were the hand model changed along with it — the
  round trip below.
-/
import DuckModel.Props.C01Core
import DuckModel.Props.C08TranslatedFns

namespace Duck
open Duck.Spec Duck.Generated

/-- the translated `parse_line` returns exactly the instruction a line was rendered from — never an
    error, never the index-out-of-range outcome -/
theorem C01_line_roundtrip_translated (ch : Choices) (i : ScriptInstr) (hi : InstrOK i) (hc : ChoicesOK ch) :
    parseLineGen (renderLine ch i) = liftE (.ok (expected i)) := by
  rw [C08_fn_translation_parse_line_suffix, C01_line_roundtrip ch i hi hc]

/-- on every line (rendered or not) the translated function and the hand-written model agree -/
theorem C01_parse_line_is_the_translation (line : Str) :
    parseLineGen line = liftE (parseLine line) :=
  C08_fn_translation_parse_line_suffix line

end Duck
