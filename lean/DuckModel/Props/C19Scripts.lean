/-
  C19 (no trace in the caller's variables) for script-implemented commands run from their
  regenerated source: no hypothesis about the callees (`SemFrame` of `C19_scripts_frame`), they
  are executed by the model.  For the four loop-free collection scripts the only hypothesis is
  the one `clear` forces: the caller has no variable under the command's own prefix
  (`CallerClean`, unfolded here because Props/C19.lean imports this file); every argument list,
  every state.  For the scripts with a loop (concat, set_from_array, map_contains_value,
  array_concat, array_contains, array_join) also the hypotheses about the flow-control state of
  their theorems in Props/C12Scripts.lean.
-/
import DuckModel.Lemmas.ScriptCalls

namespace Duck
open Duck.Alias Duck.Coll Duck.ScriptRun Duck.Spec

/-- the variables after any run of one of the three `*_is_empty` scripts -/
theorem sizeScript_vars {name : Str} {cmd : String} {sc : Generated.ScriptCmd} {c : CollCmd} {len : Value → Option Nat}
    (h : SizeScript name cmd sc c len) (args : List Str) (vars : Vars) (st : ScriptSt)
    (hclean : ∀ k, underPrefix sc.scopeName k = true → Vars.get vars k = none) :
    (runScriptCmd name args vars st).2.1 = vars := by
  rw [sizeScript_run h]
  cases args with
  | nil => rfl
  | cons a rest => exact clear_of_callerClean _ _ hclean

theorem C19_script_size_vars (name sizeName : Str) (sc : Generated.ScriptCmd) (c : CollCmd) (len : Value → Option Nat)
    (hf : findScript name = some sc) (hp : parseText sc.script = .ok (sizeIs sc.scopeName sizeName))
    (hamount : sc.argumentsAmount = 1)
    (hk1 : KeyOK (argKey sc.scopeName 1)) (hk2 : KeyOK (lenKey sc.scopeName))
    (hs1 : findScript sizeName = none) (hr1 : resolveNative sizeName = some (.coll c))
    (hc : ∀ (s : Coll.St) key rest, Coll.exec s c (key :: rest) =
      match (tget s.tbl key).bind len with
      | some n => (s, .val (some (natStr n)))
      | none => (s, .err))
    (args : List Str) (vars : Vars) (st : ScriptSt)
    (hclean : ∀ k, underPrefix sc.scopeName k = true → Vars.get vars k = none) :
    (runScriptCmd name args vars st).2.1 = vars := by
  obtain ⟨cmd, rfl⟩ : ∃ cmd : String, sizeName = cmd.toList := ⟨String.ofList sizeName, String.toList_ofList.symm⟩
  exact sizeScript_vars ⟨hf, hp, hamount, hk1, hk2, resolve_native hs1 hr1, hc⟩ args vars st hclean

theorem C19_script_array_is_empty_frame (args : List Str) (vars : Vars) (st : ScriptSt)
    (hclean : ∀ k, underPrefix "scope::array_is_empty".toList k = true → Vars.get vars k = none) :
    (runScriptCmd "array_is_empty".toList args vars st).2.1 = vars :=
  sizeScript_vars arrayIsEmpty_sizeScript args vars st hclean

theorem C19_script_map_is_empty_frame (args : List Str) (vars : Vars) (st : ScriptSt)
    (hclean : ∀ k, underPrefix "scope::map_is_empty".toList k = true → Vars.get vars k = none) :
    (runScriptCmd "map_is_empty".toList args vars st).2.1 = vars :=
  sizeScript_vars mapIsEmpty_sizeScript args vars st hclean

theorem C19_script_set_is_empty_frame (args : List Str) (vars : Vars) (st : ScriptSt)
    (hclean : ∀ k, underPrefix "scope::set_is_empty".toList k = true → Vars.get vars k = none) :
    (runScriptCmd "set_is_empty".toList args vars st).2.1 = vars :=
  sizeScript_vars setIsEmpty_sizeScript args vars st hclean

theorem C19_script_map_contains_key_frame (args : List Str) (vars : Vars) (st : ScriptSt)
    (hclean : ∀ k, underPrefix "scope::map_contains_key".toList k = true → Vars.get vars k = none) :
    (runScriptCmd "map_contains_key".toList args vars st).2.1 = vars := by
  rw [mck_run mapContainsKey_mckScript]
  match args with
  | [] => rfl
  | [_] => rfl
  | a :: b :: rest => exact clear_of_callerClean _ _ hclean

/-! ### scripts with a `for … in` loop (every variable the loop writes is under the prefix) -/

theorem C19_script_concat_frame (args : List Str) (vars : Vars) (st : ScriptSt)
    (hclean : ∀ k, underPrefix "scope::concat".toList k = true → Vars.get vars k = none)
    (hstale : NoStaleFor "scope::concat".toList st.forStack)
    (hcache : CacheOK st.forMeta "scope::concat::2".toList 4)
    (hempty : args = [] → tget st.coll.tbl [] = none)
    (hfuel : 3 * args.length + 6 ≤ scriptFuel) :
    (runScriptCmd "concat".toList args vars st).2.1 = vars := by
  unfold runScriptCmd
  rw [show scriptDepth = 5 + 1 from rfl, concat_run 5 scriptFuel args vars st hstale hcache
    (by intro ha l
        rw [show Vars.get vars cArgs = none from hclean cArgs (by decide)]
        simp [hempty ha]) hfuel]
  exact clear_of_callerClean _ _ hclean

theorem C19_script_set_from_array_frame (args : List Str) (vars : Vars) (st : ScriptSt)
    (hclean : ∀ k, underPrefix "scope::set_from_array".toList k = true → Vars.get vars k = none)
    (hfree : tget st.coll.tbl (Coll.handleName st.coll.next) = none)
    (hfree1 : tget st.coll.tbl (Coll.handleName (st.coll.next + 1)) = none)
    (hne : args.head? ≠ some (Coll.handleName st.coll.next))
    (hok : ∀ a, args.head? = some a → ArgOK a = true)
    (hstale : NoStaleFor "scope::set_from_array".toList st.forStack)
    (hcI : IfCacheOK st.ifMeta "scope::set_from_array::1".toList 3)
    (hcF : CacheOK st.forMeta "scope::set_from_array::6".toList 8)
    (hfuel : ∀ a, args.head? = some a → 3 * arrLen st.coll.tbl a + 8 ≤ scriptFuel) :
    (runScriptCmd "set_from_array".toList args vars st).2.1 = vars := by
  unfold runScriptCmd
  cases args with
  | nil => rw [sfa_run_nil]
  | cons a rest =>
    obtain ⟨r, hr, h⟩ := sfa_run 4 a rest vars st hfree hfree1 (fun e => hne (by simp [e])) (hok a rfl) hstale hcI hcF
    rw [show scriptDepth = 4 + 2 from rfl, hr _ (hfuel a rfl)]
    rcases h with ⟨L, _, rfl⟩ | ⟨_, rfl⟩ <;> exact clear_of_callerClean sScope vars hclean

/-- `map_contains_value`: besides its own prefix the run clears the prefix of the script command
    it calls inside its condition (`scope::map_is_empty::`, the nested wrapper's `clear` works on
    the same variable map) - so the caller must be clean under BOTH prefixes for an exact frame;
    in general the variables afterwards are the caller's minus both prefixes
    (`C12_script_map_contains_value_correct`, `LoopFrame.vars`). -/
theorem C19_script_map_contains_value_frame (args : List Str) (vars : Vars) (st : ScriptSt)
    (hclean : ∀ k, underPrefix "scope::map_contains_value".toList k = true → Vars.get vars k = none)
    (hclean' : ∀ k, underPrefix "scope::map_is_empty".toList k = true → Vars.get vars k = none)
    (hfree : tget st.coll.tbl (Coll.handleName st.coll.next) = none)
    (hfree1 : tget st.coll.tbl (Coll.handleName (st.coll.next + 1)) = none)
    (hfree2 : tget st.coll.tbl (Coll.handleName (st.coll.next + 2)) = none)
    (hok : ∀ a, args.head? = some a → ArgOK a = true)
    (hstale : NoStaleFor "scope::map_contains_value".toList st.forStack)
    (hc4 : IfCacheOK st.ifMeta "scope::map_contains_value::4".toList 16)
    (hc12 : IfCacheOK st.ifMeta "scope::map_contains_value::12".toList 14)
    (hc8 : CacheOK st.forMeta "scope::map_contains_value::8".toList 15)
    (hempty : tget st.coll.tbl [] = none)
    (hfuel : ∀ a, args.head? = some a → 6 * mapLen st.coll.tbl a + 16 ≤ scriptFuel) :
    (runScriptCmd "map_contains_value".toList args vars st).2.1 = vars := by
  unfold runScriptCmd
  match args with
  | [] => rw [mcv_entry, aliasRun_few _ _ _ _ _ _ _ (by decide)]
  | [_] => rw [mcv_entry, aliasRun_few _ _ _ _ _ _ _ (by simp)]
  | a :: v :: rest =>
    have hpost := (mcv_run 4 scriptFuel a v rest vars st hfree hfree1 hfree2 (hok a rfl) hstale hc4 hc12 hc8
      (by rw [hclean mKH (mcvVars.under .kH)]; exact hempty) (hfuel a rfl)).2
    rw [show scriptDepth = 4 + 2 from rfl, hpost.frame.vars, clear_of_callerClean mieScope vars hclean',
      clear_of_callerClean mScope vars hclean]

/-- `array_concat` on live arrays: every variable the three loops write is under the prefix -/
theorem C19_script_array_concat_frame (a : Str) (rest : List Str) (vars : Vars) (st : ScriptSt)
    (hclean : ∀ k, underPrefix "scope::array_concat".toList k = true → Vars.get vars k = none)
    (hfree : tget st.coll.tbl (Coll.handleName st.coll.next) = none)
    (hfree1 : tget st.coll.tbl (Coll.handleName (st.coll.next + 1)) = none)
    (hlive : ∀ x ∈ a :: rest, ∃ l, tget st.coll.tbl x = some (.list l))
    (hok : ∀ x ∈ a :: rest, ArgOK x = true)
    (hstale : NoStaleFor "scope::array_concat".toList st.forStack)
    (hc1 : CacheOK st.forMeta "scope::array_concat::1".toList 5)
    (hc2 : IfCacheOK st.ifMeta "scope::array_concat::2".toList 4)
    (hc9 : CacheOK st.forMeta "scope::array_concat::9".toList 13)
    (hc10 : CacheOK st.forMeta "scope::array_concat::10".toList 12)
    (hfuel : 6 * (a :: rest).length + 3 * (acCells st.coll.tbl (a :: rest)).length + 9 ≤ scriptFuel) :
    (runScriptCmd "array_concat".toList (a :: rest) vars st).2.1 = vars := by
  have hpost := (ac_run 4 scriptFuel a rest vars st hfree hfree1 hlive hok hstale hc1 hc2 hc9 hc10 hfuel).2
  unfold runScriptCmd
  rw [show scriptDepth = 4 + 2 from rfl, hpost.frame.vars]
  exact clear_of_callerClean aScope vars hclean

/-- `array_contains`: every variable the body writes or unsets is under the prefix -/
theorem C19_script_array_contains_frame (args : List Str) (vars : Vars) (st : ScriptSt)
    (hclean : ∀ k, underPrefix "scope::array_contains".toList k = true → Vars.get vars k = none)
    (hfree : tget st.coll.tbl (Coll.handleName st.coll.next) = none)
    (hne : args.head? ≠ some (Coll.handleName st.coll.next))
    (hstale : NoStaleFor "scope::array_contains".toList st.forStack)
    (hc5 : CacheOK st.forMeta "scope::array_contains::5".toList 14)
    (hc8 : IfCacheOK st.ifMeta "scope::array_contains::8".toList 11)
    (hE : ∀ l, tget st.coll.tbl [] ≠ some (.list l))
    (hfuel : ∀ a, args.head? = some a → 7 * arrLen st.coll.tbl a + 12 ≤ scriptFuel) :
    (runScriptCmd "array_contains".toList args vars st).2.1 = vars := by
  unfold runScriptCmd
  match args with
  | [] => rw [kc_entry, aliasRun_few _ _ _ _ _ _ _ (by decide)]
  | [_] => rw [kc_entry, aliasRun_few _ _ _ _ _ _ _ (by simp)]
  | a :: v :: rest =>
    have hpost := (kc_run 5 scriptFuel a v rest vars st hfree (fun e => hne (by simp [e])) hstale hc5 hc8 hE
      (lt_two53_of_fuel (hfuel a rfl)) (hfuel a rfl)).2
    rw [show scriptDepth = 5 + 1 from rfl, hpost.frame.vars]
    exact clear_of_callerClean kScope vars hclean

/-- `array_join` (handle and separator of the class `ArgOK`): like `map_contains_value` the run
    clears the prefix of the script command inside its condition (`scope::array_is_empty::`) too -/
theorem C19_script_array_join_frame (a sep : Str) (rest : List Str) (vars : Vars) (st : ScriptSt)
    (hclean : ∀ k, underPrefix "scope::array_join".toList k = true → Vars.get vars k = none)
    (hclean' : ∀ k, underPrefix "scope::array_is_empty".toList k = true → Vars.get vars k = none)
    (hfree : tget st.coll.tbl (Coll.handleName st.coll.next) = none)
    (hfree1 : tget st.coll.tbl (Coll.handleName (st.coll.next + 1)) = none)
    (hne : a ≠ Coll.handleName st.coll.next)
    (hok : ArgOK a = true) (hsepOK : ArgOK sep = true)
    (hstale : NoStaleFor "scope::array_join".toList st.forStack)
    (hc1 : IfCacheOK st.ifMeta "scope::array_join::1".toList 3)
    (hc5 : IfCacheOK st.ifMeta "scope::array_join::5".toList 16)
    (hc10 : IfCacheOK st.ifMeta "scope::array_join::10".toList 15)
    (hc6 : CacheOK st.forMeta "scope::array_join::6".toList 8)
    (hsize : ∀ l, tget st.coll.tbl a = some (.list l) →
      (utf8Encode (joinStr sep (l.map Item.render))).length + (utf8Encode sep).length < Calc.two53)
    (hfuel : 3 * arrLen st.coll.tbl a + 16 ≤ scriptFuel) :
    (runScriptCmd "array_join".toList (a :: sep :: rest) vars st).2.1 = vars := by
  have hpost := (aj_run 3 scriptFuel a sep rest vars st hfree hfree1 hne hok hsepOK hstale hc1 hc5 hc10 hc6
    (hclean jString (ajVars.under .string)) hsize hfuel).2
  unfold runScriptCmd
  rw [show scriptDepth = 3 + 3 from rfl, hpost.frame.vars, clear_of_callerClean aieScope vars hclean',
    clear_of_callerClean jScope vars hclean]
  simp

/-- the temporary `::arguments` array is released and nothing else is allocated or released:
    stated with the results in `C12_script_*_correct` (table lookup-equal to the caller's). -/
example : True := trivial

end Duck
