/-
  C17 — the JSON *text* layer (`serde_json` as used by `json_parse` / `json_encode`):
  the reader (`from_str::<Value>`, model `parseJson`) undoes the compact writer
  (`Value::to_string`, model `printJson`).

  * strings: every string — all of Unicode, quotes, backslashes, every control character — is
    read back from its escaped form, whatever follows the closing quote;
  * documents: every value of the modelled class (`TextDoc`: number leaves are integers the
    crate keeps exact, objects have strictly increasing keys — the representation invariant of
    the crate's `BTreeMap`) with at most 127 nested containers is read back from its compact
    text, also with white space before and after it; the documents `json_encode --collection`
    emits (`StringDoc`: string leaves) are a sub-class; the normalisation of the property maps
    every document with sorted keys into `StringDoc` and does not deepen it;
  * the bound 127 is sharp (`serde_json`'s `remaining_depth` starts at 128 and the error is
    raised when it reaches 0): 128 nested arrays are refused.

  The composition with the AST theorem (`json_parse --collection` … `json_encode --collection`
  return a text that reads back as the normalised document) is `C17_jsontext_encode_roundtrip`
  / `C17_jsontext_commands_roundtrip` in `Props/C17.lean`.

  * every JSON text: `Spec/JsonCst.lean` describes JSON texts as concrete syntax trees with
    everything a writer may choose made explicit (white space at every place of the RFC 8259
    grammar, the spelling of every string character — raw, short escape, `\uXXXX` of either case,
    surrogate pair —, members in any order with repeated keys).  `C17_jsontext_reads_every_text`:
    the reader returns the value of every well-formed tree (arrays in order, objects as maps
    with the last value of a repeated key, keys increasing) — it is insensitive to all those
    choices; `C17_jsontext_value_in_class`: that value lies in `TextDoc`, so the round trip
    applies to it; `C17_jsontext_object_is_map`: the object semantics is a map insertion.

  Outside the model: numbers the crate reads as `f64` (fractions, exponents, `-0`, integers
  beyond `u64`/`i64`) — `parseJsonE` answers `JErr.float` for a text containing one.  Not
  proved: that the reader refuses every text that is not the rendering of a tree (the error
  paths are compared with the crate by the harness stream `jparse`).
-/
import DuckModel.Sdk.JsonText
import DuckModel.Spec.JsonCst
import DuckModel.Lemmas.JsonTextLemmas
import DuckModel.Lemmas.JsonCstLemmas

namespace Duck
open Duck.Enc Duck.JsonText Duck.JsonCst

/-- every string is read back from its JSON form (`rest`: whatever follows the closing quote) -/
theorem C17_jsontext_string_roundtrip (s : List Char) (rest : List Char) :
    parseString (printString s ++ rest) = some (s, rest) := by
  rw [printString_append]
  simp [parseString, parseChars_print]

/-- the writer's escapes, one character at a time: the reader takes what the writer puts for `c`
    (the character itself, a two-character escape or `\u00XX`) for `c` and goes on with what
    follows -/
theorem C17_jsontext_char_roundtrip (c : Char) (T : List Char) :
    parseChars (escChar c ++ T) = consRes c (parseChars T) :=
  parseChars_esc c T

/-- the documents `json_encode --collection` emits (string leaves, strictly increasing keys) are
    read back from their compact text -/
theorem C17_jsontext_roundtrip (d : Json) (h : StringDoc d = true) (hd : depth d ≤ 127) :
    parseJson (printJson d) = some d := by
  have ⟨hn, hs⟩ := textDoc_iff.1 (stringDoc_textDoc d h)
  have := parseJsonE_print d [] [] rfl rfl hn hs (Nat.lt_succ_of_le hd)
  simp only [List.nil_append, List.append_nil] at this
  simp [parseJson, this]

/-- the same for the whole class of values of the model (null, booleans, exact integers,
    strings, arrays, objects with strictly increasing keys), with any white space before and
    after the text -/
theorem C17_jsontext_roundtrip_ws (d : Json) (w w' : List Char) (hw : ∀ c ∈ w, JsonText.isWs c = true)
    (hw' : ∀ c ∈ w', JsonText.isWs c = true) (h : TextDoc d = true) (hd : depth d ≤ 127) :
    parseJson (w ++ printJson d ++ w') = some d := by
  have ⟨hn, hs⟩ := textDoc_iff.1 h
  unfold parseJson
  rw [parseJsonE_print d w w' (List.all_eq_true.2 hw) (List.all_eq_true.2 hw') hn hs (Nat.lt_succ_of_le hd)]

/-- `StringDoc` is a sub-class of `TextDoc` -/
theorem C17_jsontext_stringdoc_textdoc (d : Json) (h : StringDoc d = true) : TextDoc d = true :=
  stringDoc_textDoc d h

/-- the normalisation of the property (scalars become strings, nulls are dropped) maps every
    document whose objects have strictly increasing keys into `StringDoc`, and the result is not
    nested deeper than the document -/
theorem C17_jsontext_norm_stringdoc (doc j : Json) (hs : SortedKeys doc = true)
    (hn : norm doc = some j) : StringDoc j = true ∧ depth j ≤ depth doc := by
  obtain ⟨h1, h2, h3⟩ := norm_class doc j hn
  exact ⟨stringDoc_iff.2 ⟨h1, h3 hs⟩, h2⟩

/-- a string token in any spelling of its characters is read as the string -/
theorem C17_jsontext_string_any_spelling (s : StrTok) (rest : List Char) (h : strOK s = true) :
    parseString (strText s ++ rest) = some (strValue s, rest) := by
  rw [strText_append]
  simp [parseString, parseChars_strBody s rest h]

/-- every JSON text without an `f64` number, up to 127 nested containers — any white space, any
    escape spelling, members in any order, keys repeated — is read as the document it denotes -/
theorem C17_jsontext_reads_every_text (c : Cst) (w w' : List Char) (hw : allWs w = true)
    (hw' : allWs w' = true) (hc : WF c = true) (hd : cdepth c ≤ 127) :
    parseJson (w ++ render c ++ w') = some (value c) := by
  unfold parseJson
  rw [parseJsonE_render c w w' hw hw' hc (Nat.lt_succ_of_le hd)]

/-- the document a well-formed text denotes is in the class of the round-trip theorems and not
    deeper than the text -/
theorem C17_jsontext_value_in_class (c : Cst) (hc : WF c = true) :
    TextDoc (value c) = true ∧ JsonText.depth (value c) ≤ cdepth c := by
  obtain ⟨h1, h2, h3⟩ := value_class c hc
  exact ⟨textDoc_iff.2 ⟨h1, h2⟩, h3⟩

/-- the object semantics (`BTreeMap::insert`, model `insertF`) is a map insertion: the key gets
    the new value, every other key keeps its value, the keys stay strictly increasing -/
theorem C17_jsontext_object_is_map (k : Str) (v : Json) (f : JFields) :
    lookupF k (insertF k v f) = some v ∧
    (∀ k2, k2 ≠ k → lookupF k2 (insertF k v f) = lookupF k2 f) ∧
    (sortedF f = true → sortedF (insertF k v f) = true) :=
  ⟨lookupF_insertF_same k v f, fun k2 h => lookupF_insertF_other k k2 v h f, sortedF_insertF k v f⟩

/-- `n` arrays around `d` -/
def nestArr : Nat → Json → Json
  | 0, d => d
  | n + 1, d => .arr (.cons (nestArr n d) .nil)

/-- more arrays open than `remaining_depth` allows are refused, whatever is inside and whatever
    the fuel: the counter reaches 0 at one of the `[` -/
theorem pValue_nestArr_refused (d : Json) (n f rem : Nat) (rest : List Char) (hrem : rem ≤ n + 1) :
    ∃ e, pValue f rem (printJson (nestArr (n + 1) d) ++ rest) = .error e := by
  induction f generalizing n rem rest with
  | zero => exact ⟨.fuel, rfl⟩
  | succ g ih =>
    simp only [nestArr, printJson, printItems, printItemsTail, List.cons_append]
    rw [pValue]
    by_cases h1 : rem ≤ 1
    · simp [skipWs, tokFacts, h1]
    · obtain ⟨m, rfl⟩ : ∃ m, n = m + 1 := ⟨n - 1, by omega⟩
      obtain ⟨e, he⟩ := ih m (rem - 1) (']' :: rest) (by omega)
      simp only [nestArr, printJson, printItems, printItemsTail, List.cons_append,
        List.append_assoc, List.append_nil, List.nil_append] at he ⊢
      simp [skipWs, tokFacts, h1, he]

theorem parseJson_nestArr_refused (d : Json) (n : Nat) (h : depthLimit ≤ n + 1) :
    parseJson (printJson (nestArr (n + 1) d)) = none := by
  obtain ⟨e, he⟩ :=
    pValue_nestArr_refused d n ((printJson (nestArr (n + 1) d)).length + 1) depthLimit [] h
  rw [List.append_nil] at he
  unfold parseJson parseJsonE
  rw [he]

/-- the bound of the round-trip theorems is sharp: 127 nested arrays are read, 128 are refused
    (`recursion limit exceeded`) -/
theorem C17_jsontext_depth_limit_sharp :
    parseJson (printJson (nestArr 127 (.str []))) = some (nestArr 127 (.str [])) ∧
    parseJson (printJson (nestArr 128 (.str []))) = none :=
  ⟨C17_jsontext_roundtrip _ (by decide +kernel) (by decide +kernel),
    parseJson_nestArr_refused _ 127 (Nat.le_refl _)⟩

/-! ## Non-vacuity -/
section Examples

/-- `{"a\n":["x\"y\\","\u0001é😀/",{}],"b":{"c":[]}}` -/
private def exDoc : Json :=
  .obj (.cons "a\n".toList
      (.arr (.cons (.str "x\"y\\".toList) (.cons (.str "\x01é😀/".toList) (.cons (.obj .nil) .nil))))
    (.cons "b".toList (.obj (.cons "c".toList (.arr .nil) .nil)) .nil))

example : printJson exDoc = "{\"a\\n\":[\"x\\\"y\\\\\",\"\\u0001é😀/\",{}],\"b\":{\"c\":[]}}".toList := by
  -- a string literal is `String.ofList` of its characters; the rewrite exposes them
  rw [String.toList_ofList]; decide +kernel
example : StringDoc exDoc = true := by rfl
example : depth exDoc = 3 := by rfl
example : parseJson (printJson exDoc) = some exDoc := by decide +kernel
example : parseJson (printJson exDoc) = some exDoc := C17_jsontext_roundtrip exDoc (by rfl) (by decide)

/-- the escapes of the writer: two-character forms, `\u00XX` in lower case, DEL and `/` raw -/
example : printString "\x00\x08\t\n\x0b\x0c\r\x1f \"\\/\x7f\u2028".toList =
    "\"\\u0000\\b\\t\\n\\u000b\\f\\r\\u001f \\\"\\\\/\x7f\u2028\"".toList := by
  rw [String.toList_ofList, String.toList_ofList]; decide +kernel

/-- the reader: white space between tokens, `\u` escapes of either case, a surrogate pair, `\/`,
    keys sorted, the last value of a repeated key -/
example : parseJson " { \"b\" : [ 1 , -2 , true , null ] ,\t\"a\":\"\\u00e9\\uD83D\\ude00\\/\",\r\n\"b\":\"last\" } ".toList
    = some (.obj (.cons "a".toList (.str "é😀/".toList) (.cons "b".toList (.str "last".toList) .nil))) := by
  rw [String.toList_ofList]; decide +kernel
example : parseJson "[0,18446744073709551615,-9223372036854775808]".toList =
    some (.arr (.cons (.num "0".toList) (.cons (.num "18446744073709551615".toList)
      (.cons (.num "-9223372036854775808".toList) .nil)))) := by
  repeat rw [String.toList_ofList]
  decide +kernel

/-- refused: lone surrogates, raw control character, trailing comma, leading zero, trailing
    garbage, unknown escape, cut-short literal, key that is not a string, missing colon -/
example : parseJson "\"\\ud800\"".toList = none ∧ parseJson "\"\\udc00\"".toList = none ∧
    parseJson "\"\\ud800\\u0041\"".toList = none ∧ parseJson "\"a\nb\"".toList = none ∧
    parseJson "[1,]".toList = none ∧ parseJson "{\"a\":1,}".toList = none ∧
    parseJson "01".toList = none ∧ parseJson "[1] x".toList = none ∧
    parseJson "\"\\x\"".toList = none ∧ parseJson "tru".toList = none ∧
    parseJson "{1:2}".toList = none ∧ parseJson "{\"a\" 1}".toList = none ∧
    parseJson "".toList = none ∧ parseJson "[".toList = none := by
  and_intros <;> (rw [String.toList_ofList]; decide +kernel)

/-- a concrete syntax tree: `{ "b" : [ 1 ,"\u00E9\ud83d\uDE00\/" ] , "a":null,"b":"x"}` — white
    space, `\u` escapes of both cases, a surrogate pair, `\/`, a repeated key, keys out of order -/
private def exCst : Cst :=
  .obj (.cons [' '] [('b', .raw)] [' '] [' ']
      (.arr [' '] (.num ['1'])
        (.cons [' '] [] (.str [('é', .u4 '0' '0' 'E' '9'), ('😀', .pair 'd' '8' '3' 'd' 'D' 'E' '0' '0'),
          ('/', .short '/')]) (.nil [' ']))) [' ']
    (.cons [' '] [('a', .raw)] [] [] .null []
      (.one [] [('b', .raw)] [] [] (.str [('x', .raw)]) [])))

example : render exCst =
    "{ \"b\" : [ 1 ,\"\\u00E9\\ud83d\\uDE00\\/\" ] , \"a\":null,\"b\":\"x\"}".toList := by
  rw [String.toList_ofList]; decide +kernel
example : WF exCst = true ∧ cdepth exCst = 2 := by decide +kernel
example : value exCst = .obj (.cons ['a'] .null (.cons ['b'] (.str ['x']) .nil)) := by decide +kernel
example : parseJson (render exCst) = some (value exCst) := by decide +kernel
/-- ill-formed trees are excluded by `WF`: a raw quote, a raw control character, a lone surrogate -/
example : WF (.str [('"', .raw)]) = false ∧ WF (.str [('\n', .raw)]) = false ∧
    WF (.str [('a', .u4 'd' '8' '0' '0')]) = false ∧ WF (.arr0 ['x']) = false ∧
    WF (.num "01".toList) = false := by decide +kernel

/-- numbers the crate reads as `f64` are outside the model: a distinct answer, not an error -/
example : parseJsonE "[1.5]".toList = .error .float ∧ parseJsonE "-0".toList = .error .float ∧
    parseJsonE "1e3".toList = .error .float ∧
    parseJsonE "18446744073709551616".toList = .error .float ∧
    parseJsonE "-9223372036854775809".toList = .error .float ∧
    parseJsonE "1.".toList = .error .float ∧ parseJsonE "-".toList = .error .syntax := by
  and_intros <;> (rw [String.toList_ofList]; rfl)

/-- the hypothesis "strictly increasing keys" is needed: the reader sorts -/
example : parseJson (printJson (.obj (.cons "b".toList (.str []) (.cons "a".toList (.str []) .nil))))
    = some (.obj (.cons "a".toList (.str []) (.cons "b".toList (.str []) .nil))) := by decide +kernel

private def okText : Except JErr (Option (Except EncErr (List Char))) → Option (List Char)
  | .ok (some (.ok t)) => some t
  | _ => none

/-- `json_parse --collection` + `json_encode --collection` on a text -/
example : okText (parseEncodeText " [ 1 , null , \"x\" , { \"b\" : true } ] ".toList) =
    some "[\"1\",\"x\",{\"b\":\"true\"}]".toList := by
  rw [String.toList_ofList, String.toList_ofList]; decide +kernel

end Examples

end Duck
