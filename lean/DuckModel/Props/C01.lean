/- C01 — a line written with the documented syntax parses back to the same instruction: all parts. -/
import DuckModel.Props.C01Core
import DuckModel.Props.C01Translated
