/-
  C15, second sentence - "the script-level alias, unalias, remove_command, is_command_defined and
  function definitions obey the same map".

  Model: Sdk/RegistryCmd.lean (`RegCmd.step` over `RState` = registry + the `ALIAS_STATE`
  sub-state of alias/unalias + the function meta-info of `fn`).  The registry invariant is
  `Reg.InvP` (Lemmas/RegistryLemmas.lean) - literally the body of `Reg.Inv` of Props/C15.lean,
  which imports this file.

  What the real commands do NOT do (modelled as they are, consequences stated as theorems):
    * `remove_command` leaves the `ALIAS_STATE` entry of a removed alias in place, so `SubOK`
      ("every recorded name is an alias-created command") is preserved by every operation
      EXCEPT such a removal; with a stale entry a later `unalias n` removes whatever command is
      reachable under `n` at that time (`C15_script_unalias_recorded_removes_any`, example at the
      end: alias foo; remove_command foo; fn foo; unalias foo - the FUNCTION is gone)
    * `fn` stores its meta-info before it registers the call command and nothing ever removes
      it, so once a name has been the subject of a `fn` (accepted or refused), a `fn` of that name
      at another line is an error even when the name is not registered
      (`C15_script_fn_known`)
    * `unalias n` of a name that `alias` did not record but that is a key of the alias table
      (an alias of a native command) deletes that one alias-table entry; the command stays
-/
import DuckModel.Sdk.RegistryCmd
import DuckModel.Lemmas.RegistryCmdLemmas

namespace Duck
open RegCmd

/-- every name recorded by `alias` is, in the registry, a command stored under that very name
    whose implementation was created by `alias`, and no alias-table entry shadows it -/
def RegCmd.RState.SubOK (s : RState) : Prop :=
  ∀ n, s.sub.containsKey n = true →
    s.reg.aliases.get n = none ∧
    ∃ c i, s.reg.commands.get n = some c ∧ c.tag = (Kind.aliasOf i).tag

/-- the operations that keep `SubOK`: everything except a `remove_command` that resolves to a
    recorded name and an embedder registration one of whose aliases is a recorded name -/
def RegCmd.Op.KeepsSub (s : RState) : Op → Prop
  | .removeCommand [k] => s.sub.containsKey (s.reg.resolve k) = false
  | .native _ al _ => ∀ a ∈ al, s.sub.containsKey a = false
  | _ => True

/-! ### the registry invariants of C15 hold after every script-level history -/

/-- the registry invariant is preserved by every script-level operation -/
theorem C15_script_inv_step (s : RState) (op : Op) (h : s.reg.InvP) : (step s op).1.reg.InvP :=
  RegCmd.invP_step s op h

/-- the registry invariant holds after every script-level history from the empty state -/
theorem C15_script_invariant_reachable (ops : List Op) : (run {} ops).1.reg.InvP :=
  RegCmd.invP_run {} ops Reg.invP_empty

/-- after a script-level history no alias points to a command that is gone -/
theorem C15_script_no_dangling (ops : List Op) (a m : Str)
    (h : (run {} ops).1.reg.aliases.get a = some m) :
    ((run {} ops).1.reg.commands.get m).isSome = true := by
  obtain ⟨c, hc, _⟩ := (RegCmd.invP_run {} ops Reg.invP_empty).1 a m h
  simp [hc]

/-- "obey the same map": the registry after a script-level operation is the old one, or the
    result of ONE `Commands::set`, or of ONE `Commands::remove`, or the old one without one
    alias-table entry (`unalias` of a native alias) -/
theorem C15_script_ops_refine (s : RState) (op : Op) :
    (step s op).1.reg = s.reg ∨
    (∃ c, (step s op).1.reg = (s.reg.set c).1) ∨
    (∃ n, (step s op).1.reg = (s.reg.remove n).1) ∨
    (∃ k, (step s op).1.reg = { s.reg with aliases := s.reg.aliases.erase k }) := by
  have hs := step_shape s op
  generalize step s op = x at hs ⊢
  cases hs with
  | same => exact .inl rfl
  | aliased name t rest id hfree =>
    exact .inr (.inl ⟨aliasSpec name id, by rw [Reg.set_aliasless_free _ _ rfl hfree]⟩)
  | unaliased key => exact .inr (.inr (.inl ⟨key, rfl⟩))
  | aliasDropped key => exact .inr (.inr (.inr ⟨key, rfl⟩))
  | removed n => exact .inr (.inr (.inl ⟨n, rfl⟩))
  | defined | registered => exact .inr (.inl ⟨_, rfl⟩)

/-! ### `alias` -/

/-- `alias name target …` is refused (an error) exactly when `name` is a registered command
    NAME; a name that is only a key of the alias table is accepted (as `Commands::set` does) -/
theorem C15_script_alias_refused_iff (s : RState) (name t : Str) (rest : List Str) (id : Nat) :
    (step s (.alias (name :: t :: rest) id)).2 =
      if (s.reg.commands.get name).isSome = true then .error else .value true := by
  show (aliasCmd s (name :: t :: rest) id).2 = _
  by_cases h : (s.reg.commands.get name).isSome = true
  · rw [aliasCmd_refused s name t rest id h, if_pos h]
  · have hn : s.reg.commands.get name = none := by simpa using h
    rw [aliasCmd_accepted s name t rest id hn, if_neg h]

/-- a refused `alias` (name clash, or fewer than two arguments) leaves the WHOLE state -
    registry, alias sub-state, function table - exactly as it was -/
theorem C15_script_alias_refused_unchanged (s : RState) (args : List Str) (id : Nat)
    (h : (step s (.alias args id)).2 ≠ .value true) : (step s (.alias args id)).1 = s := by
  match args with
  | [] => rfl
  | [_] => rfl
  | name :: t :: rest =>
    show (aliasCmd s (name :: t :: rest) id).1 = s
    by_cases hc : (s.reg.commands.get name).isSome = true
    · rw [aliasCmd_refused s name t rest id hc]
    · have hn : s.reg.commands.get name = none := by simpa using hc
      exfalso; apply h
      show (aliasCmd s (name :: t :: rest) id).2 = _
      rw [aliasCmd_accepted s name t rest id hn]

/-- `alias` answers `true` or fails with an error, nothing else -/
theorem C15_script_alias_outputs (s : RState) (args : List Str) (id : Nat) :
    (step s (.alias args id)).2 = .value true ∨ (step s (.alias args id)).2 = .error := by
  match args with
  | [] => exact Or.inr rfl
  | [_] => exact Or.inr rfl
  | name :: t :: rest =>
    rw [C15_script_alias_refused_iff]
    split
    · exact Or.inr rfl
    · exact Or.inl rfl

/-- an accepted `alias` makes the new command reachable under its name, records the name, and
    disturbs no other name (lookups, records, function table) -/
theorem C15_script_alias_accepted (s : RState) (args : List Str) (id : Nat)
    (h : (step s (.alias args id)).2 = .value true) :
    ∃ name rest, args = name :: rest ∧
      (step s (.alias args id)).1.reg.get name = some (aliasSpec name id) ∧
      (step s (.alias args id)).1.sub.containsKey name = true ∧
      (step s (.alias args id)).1.fns = s.fns ∧
      (∀ n, n ≠ name → (step s (.alias args id)).1.sub.containsKey n = s.sub.containsKey n) ∧
      (s.reg.InvP → ∀ n, n ≠ name → (step s (.alias args id)).1.reg.get n = s.reg.get n) := by
  match args with
  | [] => cases h
  | [_] => cases h
  | name :: t :: rest =>
    have hn : s.reg.commands.get name = none := by
      rw [C15_script_alias_refused_iff] at h
      by_cases hc : (s.reg.commands.get name).isSome = true
      · rw [if_pos hc] at h; cases h
      · simpa using hc
    refine ⟨name, t :: rest, rfl, ?_⟩
    show (aliasCmd s (name :: t :: rest) id).1.reg.get name = _ ∧ _
    simp only [show step s (.alias (name :: t :: rest) id) = aliasCmd s (name :: t :: rest) id from rfl]
    rw [aliasCmd_accepted s name t rest id hn]
    refine ⟨Reg.setOk_aliasless_get_self s.reg (aliasSpec name id) rfl, ?_, rfl, ?_, ?_⟩
    · simp [KV.containsKey_put]
    · intro n hne
      simp [KV.containsKey_put, hne]
    · intro hinv n hne
      exact Reg.setOk_aliasless_get_other s.reg (aliasSpec name id) rfl hinv hn n hne

/-! ### `unalias` -/

/-- the complete behaviour of `unalias key`: a RECORDED name is removed through
    `Commands::remove` and forgotten when that finds a command, otherwise nothing changes; a
    name that is not recorded loses its alias-table entry if it has one (the command stays);
    otherwise nothing changes and the answer is `false` -/
theorem C15_script_unalias_spec (s : RState) (key : Str) :
    step s (.unalias [key]) =
      if s.sub.containsKey key = true then
        if s.reg.exists key = true then
          ({ s with reg := (s.reg.remove key).1, sub := s.sub.erase key }, .value true)
        else (s, .value false)
      else if (s.reg.aliases.get key).isSome = true then
        ({ s with reg := { s.reg with aliases := s.reg.aliases.erase key } }, .value true)
      else (s, .value false) :=
  unaliasCmd_one s key

/-- `unalias` with any other number of arguments is an error and changes nothing -/
theorem C15_script_unalias_arity (s : RState) (args : List Str) (h : args.length ≠ 1) :
    step s (.unalias args) = (s, .error) := by
  match args, h with
  | [], _ => rfl
  | [_], h => simp at h
  | _ :: _ :: _, _ => rfl

/-- `unalias` never removes a command whose name `alias` did not record (or whose record a
    successful `unalias` erased since, see `C15_script_sub_step`): the name table, the records
    and the function table are then untouched -/
theorem C15_script_unalias_not_recorded (s : RState) (key : Str)
    (h : s.sub.containsKey key = false) :
    (step s (.unalias [key])).1.reg.commands = s.reg.commands ∧
    (step s (.unalias [key])).1.sub = s.sub ∧
    (step s (.unalias [key])).1.fns = s.fns ∧
    (step s (.unalias [key])).2 = .value (s.reg.aliases.get key).isSome := by
  rw [C15_script_unalias_spec]
  have h' : ¬ s.sub.containsKey key = true := by simp [h]
  rw [if_neg h']
  by_cases ha : (s.reg.aliases.get key).isSome = true
  · rw [if_pos ha, ha]; exact ⟨rfl, rfl, rfl, rfl⟩
  · rw [if_neg ha]
    have : (s.reg.aliases.get key).isSome = false := by simpa using ha
    rw [this]; exact ⟨rfl, rfl, rfl, rfl⟩

/-- a recorded name resolves to itself, so removing it removes the command stored under it -/
theorem RegCmd.RState.SubOK.remove_recorded {s : RState} (hok : s.SubOK) {key : Str}
    (h : s.sub.containsKey key = true) :
    ∃ c i, s.reg.commands.get key = some c ∧ c.tag = (Kind.aliasOf i).tag ∧
      s.reg.exists key = true ∧ s.reg.remove key = (s.reg.removeOk key c, true) := by
  obtain ⟨hal, c, i, hc, hi⟩ := hok key h
  have hres : s.reg.resolve key = key := Reg.resolve_of_alias_none hal
  refine ⟨c, i, hc, hi, by rw [Reg.exists, Reg.get_eq, hres, hc]; rfl, ?_⟩
  have := Reg.remove_some s.reg key c (by rw [hres]; exact hc)
  rwa [hres] at this

/-- when the records are exact (`SubOK`), `unalias n` of a recorded name answers `true`, removes
    exactly the command `n` - which `alias` created - and forgets the record -/
theorem C15_script_unalias_recorded (s : RState) (key : Str) (hok : s.SubOK)
    (h : s.sub.containsKey key = true) :
    (step s (.unalias [key])).2 = .value true ∧
    (∃ c i, s.reg.commands.get key = some c ∧ c.tag = (Kind.aliasOf i).tag) ∧
    (∀ m, (step s (.unalias [key])).1.reg.commands.get m =
      if m = key then none else s.reg.commands.get m) ∧
    (step s (.unalias [key])).1.sub.containsKey key = false ∧
    (∀ n, n ≠ key → (step s (.unalias [key])).1.sub.containsKey n = s.sub.containsKey n) := by
  obtain ⟨c, i, hc, hi, hex, hrem⟩ := hok.remove_recorded h
  rw [C15_script_unalias_spec, if_pos h, if_pos hex, hrem]
  refine ⟨rfl, ⟨c, i, hc, hi⟩, ?_, ?_, ?_⟩
  · intro m; exact Reg.removeOk_commands_get s.reg key c m
  · simp [KV.containsKey_erase]
  · intro n hne; simp [KV.containsKey_erase, hne]

/-- WITHOUT exact records (a stale entry left by `remove_command`): `unalias n` of a recorded
    name removes whatever command is reachable under `n` now - of any kind - and answers `true` -/
theorem C15_script_unalias_recorded_removes_any (s : RState) (key : Str) (c : CmdSpec)
    (hinv : s.reg.InvP) (h : s.sub.containsKey key = true) (hc : s.reg.get key = some c) :
    (step s (.unalias [key])).2 = .value true ∧
    (step s (.unalias [key])).1.reg.commands.get c.name = none ∧
    (step s (.unalias [key])).1.sub.containsKey key = false := by
  have hk : s.reg.commands.get (s.reg.resolve key) = some c := by rw [← Reg.get_eq]; exact hc
  have hname : c.name = s.reg.resolve key := hinv.2 _ _ hk
  have hex : s.reg.exists key = true := by simp [Reg.exists, hc]
  rw [C15_script_unalias_spec, if_pos h, if_pos hex, Reg.remove_some s.reg key c hk]
  refine ⟨rfl, ?_, ?_⟩
  · show (s.reg.removeOk (s.reg.resolve key) c).commands.get c.name = none
    rw [Reg.removeOk_commands_get, hname]; simp
  · simp [KV.containsKey_erase]

/-- how the records evolve: a name becomes recorded by an accepted `alias` of it, stops being
    recorded by an `unalias` of it that answers `true`, and NOTHING else touches the records
    (in particular not `remove_command`) -/
theorem C15_script_sub_step (s : RState) (op : Op) (n : Str) :
    (step s op).1.sub.containsKey n =
      match op with
      | .alias (name :: _ :: _) _ =>
        if n = name ∧ (step s op).2 = .value true then true else s.sub.containsKey n
      | .unalias [key] =>
        if n = key ∧ (step s op).2 = .value true then false else s.sub.containsKey n
      | _ => s.sub.containsKey n := by
  have hs := step_shape s op
  generalize step s op = x at hs ⊢
  cases hs with
  | same op out hout =>
    -- nothing changed, and the answer was not the `true` of an accepted `alias` / `unalias`
    split
    · refine (if_neg fun h => ?_).symm
      obtain ⟨_, e⟩ := hout h.2
      cases e
    · refine (if_neg fun h => ?_).symm
      obtain ⟨_, e⟩ := hout h.2
      cases e
    · rfl
  | aliased => simp [KV.containsKey_put]
  | unaliased => simp [KV.containsKey_erase]
  | aliasDropped key h1 =>
    by_cases hk : n = key
    · subst hk; simp [h1]
    · simp [hk]
  | removed | defined | registered => rfl

/-- the entry of a recorded name survives a `Commands::set` of another name that puts no alias
    over it -/
theorem RegCmd.RState.SubOK.entry_setOk {s : RState} (hok : s.SubOK) (c : CmdSpec) {n : Str}
    (hn : s.sub.containsKey n = true) (hne : n ≠ c.name) (hal : n ∉ c.aliases) :
    (s.reg.setOk c).aliases.get n = none ∧
    ∃ c' i, (s.reg.setOk c).commands.get n = some c' ∧ c'.tag = (Kind.aliasOf i).tag := by
  obtain ⟨ha, c', i, hc, hi⟩ := hok n hn
  refine ⟨?_, c', i, ?_, hi⟩
  · rw [Reg.setOk_aliases_get, if_neg hal, if_neg hne]; exact ha
  · rw [Reg.setOk_commands_get, if_neg hne]; exact hc

/-- the entry of a recorded name survives a `Commands::remove` of another name -/
theorem RegCmd.RState.SubOK.entry_removeOk {s : RState} (hok : s.SubOK) (k : Str) (ck : CmdSpec) {n : Str}
    (hn : s.sub.containsKey n = true) (hne : n ≠ k) :
    (s.reg.removeOk k ck).aliases.get n = none ∧
    ∃ c' i, (s.reg.removeOk k ck).commands.get n = some c' ∧ c'.tag = (Kind.aliasOf i).tag := by
  obtain ⟨ha, c', i, hc, hi⟩ := hok n hn
  refine ⟨?_, c', i, ?_, hi⟩
  · rw [Reg.removeOk_aliases_get]; split
    · rfl
    · exact ha
  · rw [Reg.removeOk_commands_get, if_neg hne]; exact hc

/-- exact records are kept by every operation except a `remove_command` that hits a recorded
    command and an embedder registration that puts an alias over a recorded name -/
theorem C15_script_subok_step (s : RState) (op : Op) (hok : s.SubOK) (hsafe : op.KeepsSub s) :
    (step s op).1.SubOK := by
  -- a recorded name is a command name, so a `set` that went through was not of that name
  have hfresh : ∀ c : CmdSpec, s.reg.commands.get c.name = none → ∀ n, s.sub.containsKey n = true → n ≠ c.name := by
    intro c hfree n hn e
    obtain ⟨_, c', _, hc, _⟩ := hok n hn
    rw [e, hfree] at hc; cases hc
  have hs := step_shape s op
  generalize step s op = x at hs
  cases hs with
  | same => exact hok
  | aliased name t rest id hfree =>
    intro n hn
    by_cases hne : n = name
    · subst hne
      refine ⟨?_, aliasSpec n id, id, ?_, rfl⟩
      · show (s.reg.setOk (aliasSpec n id)).aliases.get n = none
        simp [Reg.setOk_aliases_get, aliasSpec]
      · show (s.reg.setOk (aliasSpec n id)).commands.get n = _
        simp [Reg.setOk_commands_get, aliasSpec]
    · have hn' : s.sub.containsKey n = true := by
        have : (s.sub.put name true).containsKey n = true := hn
        rwa [KV.containsKey_put, if_neg hne] at this
      exact hok.entry_setOk (aliasSpec name id) hn' hne (List.not_mem_nil)
  | unaliased key h1 =>
    obtain ⟨ck, _, _, _, _, hrem⟩ := hok.remove_recorded h1
    simp only [hrem]
    intro n hn
    have hn2 : (s.sub.erase key).containsKey n = true := hn
    rw [KV.containsKey_erase] at hn2
    by_cases hne : n = key
    · rw [if_pos hne] at hn2; cases hn2
    · rw [if_neg hne] at hn2
      exact hok.entry_removeOk key ck hn2 hne
  | aliasDropped key =>
    intro n hn
    obtain ⟨hal, c, i, hc, hi⟩ := hok n hn
    refine ⟨?_, c, i, hc, hi⟩
    show (s.reg.aliases.erase key).get n = none
    rw [KV.get_erase]
    split
    · rfl
    · exact hal
  | removed k =>
    have hsafe' : s.sub.containsKey (s.reg.resolve k) = false := hsafe
    cases hk : s.reg.commands.get (s.reg.resolve k) with
    | none => rw [Reg.remove_none s.reg k hk]; exact hok
    | some ck =>
      rw [Reg.remove_some s.reg k ck hk]
      intro n hn
      refine hok.entry_removeOk _ ck hn fun e => ?_
      rw [← e, show s.sub.containsKey n = true from hn] at hsafe'; cases hsafe'
  | defined nm l =>
    rcases Reg.set_cases s.reg (fnSpec nm l) with ⟨_, e⟩ | ⟨⟨hfree, _⟩, e⟩
    · simp only [e]; exact hok
    · simp only [e]
      intro n hn
      exact hok.entry_setOk (fnSpec nm l) hn (hfresh _ hfree n hn) (List.not_mem_nil)
  | registered nm al t =>
    rcases Reg.set_cases s.reg (nativeSpec nm al t) with ⟨_, e⟩ | ⟨⟨hfree, _⟩, e⟩
    · simp only [e]; exact hok
    · simp only [e]
      intro n hn
      refine hok.entry_setOk _ hn (hfresh _ hfree n hn) fun hm => ?_
      have := hsafe n hm
      rw [show s.sub.containsKey n = true from hn] at this; cases this

/-- along a history all of whose operations keep exact records (`KeepsSub`) the records stay exact -/
theorem C15_script_subok_run (s : RState) (ops : List Op) (hok : s.SubOK)
    (hsafe : ∀ pre op post, ops = pre ++ op :: post → op.KeepsSub (run s pre).1) :
    (run s ops).1.SubOK := by
  induction ops generalizing s with
  | nil => exact hok
  | cons op ops ih =>
    have h1 : op.KeepsSub s := hsafe [] op ops rfl
    apply ih (step s op).1 (C15_script_subok_step s op hok h1)
    intro pre op' post e
    have := hsafe (op :: pre) op' post (by rw [e]; rfl)
    exact this

/-! ### `is_command_defined`, `remove_command` -/

/-- `is_command_defined n` answers exactly `Commands::exists n` and changes nothing -/
theorem C15_script_is_command_defined (s : RState) (n : Str) (rest : List Str) :
    step s (.isCommandDefined (n :: rest)) = (s, .value (s.reg.exists n)) := rfl

/-- `remove_command n` is `Commands::remove n` on the registry and answers its result; the
    alias records and the function table are left as they are (a removed alias stays recorded,
    a removed function stays known to `fn`) -/
theorem C15_script_remove_command (s : RState) (n : Str) :
    step s (.removeCommand [n]) =
      ({ s with reg := (s.reg.remove n).1 }, .value (s.reg.remove n).2) := rfl

theorem C15_script_remove_command_arity (s : RState) (args : List Str) (h : args.length ≠ 1) :
    step s (.removeCommand args) = (s, .error) := by
  match args, h with
  | [], _ => rfl
  | [_], h => simp at h
  | _ :: _ :: _, _ => rfl

/-! ### function definitions -/

/-- `fn name` of a name `fn` has not seen: acts as `Commands::set` of an alias-less command
    called `name`; accepted ⇒ the block is skipped, refused ⇒ error with the registry unchanged.
    In both cases the name is now known to `fn` (stored before the registration). -/
theorem C15_script_fn_fresh (s : RState) (name : Str) (line : Nat) (h : s.fns.get name = none) :
    step s (.defineFn name line true) =
      ({ s with reg := (s.reg.set (fnSpec name line)).1, fns := s.fns.put name line },
       if (s.reg.commands.get name).isSome = true then .error else .goto) := by
  show fnCmd s name line true = _
  rw [fnCmd_fresh s name line h, Reg.set_aliasless s.reg (fnSpec name line) rfl]
  show _ = ({ s with reg := _, fns := _ }, if (s.reg.commands.get (fnSpec name line).name).isSome = true then _ else _)
  split <;> simp

/-- an accepted definition makes the function reachable under its name -/
theorem C15_script_fn_accepted (s : RState) (name : Str) (line : Nat)
    (h : s.fns.get name = none) (hfree : s.reg.commands.get name = none) :
    (step s (.defineFn name line true)).2 = .goto ∧
    (step s (.defineFn name line true)).1.reg.get name = some (fnSpec name line) ∧
    (step s (.defineFn name line true)).1.sub = s.sub := by
  rw [C15_script_fn_fresh s name line h]
  refine ⟨by simp [hfree], ?_, rfl⟩
  show ((s.reg.set (fnSpec name line)).1).get name = _
  rw [Reg.set_aliasless_free s.reg (fnSpec name line) rfl hfree]
  exact Reg.setOk_aliasless_get_self s.reg (fnSpec name line) rfl

/-- `fn name` of a name `fn` has seen before (accepted OR refused, removed since or not): the
    registry is never touched; the very same line skips its block, any other line is an error -
    also when `name` is not registered at all -/
theorem C15_script_fn_known (s : RState) (name : Str) (line start : Nat) (e : Bool)
    (h : s.fns.get name = some start) :
    step s (.defineFn name line e) = (s, if start = line then .goto else .error) :=
  fnCmd_known s name line start e h

/-- a `fn` that does not answer "skip the block" leaves registry and alias records unchanged -/
theorem C15_script_fn_refused_unchanged (s : RState) (name : Str) (line : Nat) (e : Bool)
    (h : (step s (.defineFn name line e)).2 ≠ .goto) :
    (step s (.defineFn name line e)).1.reg = s.reg ∧
    (step s (.defineFn name line e)).1.sub = s.sub := by
  cases hk : s.fns.get name with
  | some start => rw [C15_script_fn_known s name line start e hk]; exact ⟨rfl, rfl⟩
  | none =>
    cases e with
    | false =>
      show (fnCmd s name line false).1.reg = _ ∧ (fnCmd s name line false).1.sub = _
      rw [fnCmd_noEnd s name line hk]; exact ⟨rfl, rfl⟩
    | true =>
      rw [C15_script_fn_fresh s name line hk] at h ⊢
      by_cases hc : (s.reg.commands.get name).isSome = true
      · refine ⟨?_, rfl⟩
        show (s.reg.set (fnSpec name line)).1 = s.reg
        rw [Reg.set_aliasless_taken s.reg (fnSpec name line) rfl hc]
      · exfalso; apply h; simp [hc]

/-! ### every failed operation leaves registry and records as they were -/

/-- an operation that reports failure (`false`, error, crash, refused registration) has changed
    neither the registry nor the alias records; and not the function table either unless it is a
    refused `fn` -/
theorem C15_script_failed_unchanged (s : RState) (op : Op)
    (h : (step s op).2 = .error ∨ (step s op).2 = .crash ∨ (step s op).2 = .set false ∨
      (step s op).2 = .value false) :
    (step s op).1.reg = s.reg ∧ (step s op).1.sub = s.sub ∧
    ((∀ n l e, op ≠ .defineFn n l e) → (step s op).1.fns = s.fns) := by
  have hs := step_shape s op
  generalize step s op = x at hs h ⊢
  cases hs with
  | same => exact ⟨rfl, rfl, fun _ => rfl⟩
  | aliased | unaliased | aliasDropped => rcases h with h | h | h | h <;> cases h
  | removed n =>
    have hf : (s.reg.remove n).2 = false := by
      rcases h with h | h | h | h
      · cases h
      · cases h
      · cases h
      · exact Out.value.inj h
    exact ⟨Reg.remove_false _ _ hf, rfl, fun _ => rfl⟩
  | defined n l =>
    have hf : (s.reg.set (fnSpec n l)).2 = false := by
      cases hb : (s.reg.set (fnSpec n l)).2 with
      | false => rfl
      | true => rw [hb] at h; rcases h with h | h | h | h <;> cases h
    exact ⟨Reg.set_false _ _ hf, rfl, fun hno => absurd rfl (hno n l true)⟩
  | registered n al t =>
    have hf : (s.reg.set (nativeSpec n al t)).2 = false := by
      rcases h with h | h | h | h
      · cases h
      · cases h
      · exact Out.set.inj h
      · cases h
    exact ⟨Reg.set_false _ _ hf, rfl, fun _ => rfl⟩

/-! ### non-vacuity -/

section Examples

private def foo : Str := "foo".toList
private def tgt : Str := "echo".toList

/-- a refused `alias` of an existing function, then `unalias`: error, then `false`, and the
    function is still there -/
example : (run {} [.defineFn foo 0 true, .alias [foo, tgt] 1, .unalias [foo],
      .isCommandDefined [foo]]).2 = [.goto, .error, .value false, .value true] := by decide
example : (run {} [.defineFn foo 0 true, .alias [foo, tgt] 1, .unalias [foo]]).1.reg.get foo =
    some (fnSpec foo 0) := by decide
example : (run {} [.defineFn foo 0 true, .alias [foo, tgt] 1]).1.sub.containsKey foo = false := by
  decide

/-- accepted alias, unalias, unalias again -/
example : (run {} [.alias [foo, tgt] 0, .isCommandDefined [foo], .unalias [foo], .unalias [foo],
      .isCommandDefined [foo]]).2 =
    [.value true, .value true, .value true, .value false, .value false] := by decide

/-- the stale record: `remove_command` of an alias keeps the record (`SubOK` is lost), a function
    of the same name defined afterwards is removed by `unalias` -/
example : (run {} [.alias [foo, tgt] 0, .removeCommand [foo], .defineFn foo 2 true,
      .isCommandDefined [foo], .unalias [foo], .isCommandDefined [foo]]).2 =
    [.value true, .value true, .goto, .value true, .value true, .value false] := by decide
example : (run {} [.alias [foo, tgt] 0, .removeCommand [foo]]).1.sub.containsKey foo = true := by
  decide
example : ¬ (run {} [.alias [foo, tgt] 0, .removeCommand [foo]]).1.SubOK := by
  intro h
  obtain ⟨_, c, _, hc, _⟩ := h foo (by decide)
  have : (run {} [.alias [foo, tgt] 0, .removeCommand [foo]]).1.reg.commands.get foo = none := by
    decide
  rw [this] at hc; cases hc

/-- the function table outlives the function: re-definition at another line is an error although
    the name is not registered; a refused definition blocks the name as well -/
example : (run {} [.defineFn foo 0 true, .removeCommand [foo], .defineFn foo 3 true,
      .isCommandDefined [foo]]).2 = [.goto, .value true, .error, .value false] := by decide
example : (run {} [.alias [foo, tgt] 0, .defineFn foo 1 true, .unalias [foo], .defineFn foo 4 true,
      .isCommandDefined [foo]]).2 =
    [.value true, .error, .value true, .error, .value false] := by decide

/-- `alias` over a native alias is accepted and shadows it; `unalias` of a native alias drops
    just the alias-table entry -/
example : (run {} [.native "std::B".toList ["b".toList] 7, .alias ["b".toList, tgt] 1,
      .unalias ["b".toList], .isCommandDefined ["b".toList],
      .isCommandDefined ["std::B".toList]]).2 =
    [.set true, .value true, .value true, .value false, .value true] := by decide
example : (run {} [.native "std::B".toList ["b".toList] 7, .unalias ["b".toList],
      .isCommandDefined ["b".toList], .isCommandDefined ["std::B".toList]]).2 =
    [.set true, .value true, .value false, .value true] := by decide

/-- `SubOK` is satisfiable by a state with a record -/
example : (run {} [.alias [foo, tgt] 0]).1.SubOK :=
  C15_script_subok_step {} (.alias [foo, tgt] 0) (by intro n h; cases h) trivial

end Examples

end Duck
