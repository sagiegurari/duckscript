/-
  C14 — including files is equivalent to pasting them in place, with provenance kept.

  Reading of the statement.  `Spec.inline w fuel root` (Spec/Inline.lean) is the textual
  inlining: every include directive line is REPLACED by the lines of the files it lists, in
  order, recursively; each line carries its provenance (file, 1-based line in that file).
  The real parse keeps the directive line as a `PreProcess` instruction that does nothing at
  run time (it shifts absolute instruction indexes, but is never a label or a block target), so
  the equivalence is stated modulo these instructions (`stripDirectives`).
  All theorems hold for an ARBITRARY abstract file system `fs` (`read`, `resolve`) and any
  include-depth fuel; the concrete path model (`treeFs`) is only used for the path rule and
  the examples.  The fuel stands for the finite depth of an acyclic tree: an include cycle
  overflows the stack in the real code (finding counted under C07) and ends in
  `depthExceeded` in the model.
-/
import DuckModel.Includes
import DuckModel.Lemmas.IncludeLemmas
import DuckModel.Props.C14Run
import DuckModel.Props.C14Sdk

namespace Duck
open Duck.Spec

/-- Master equation (total: any file system, fuel, root; success and every failure):
    the parse of the root file, directive instructions removed, is the line-by-line parse of the
    inlined lines — same instructions, same order, same (file, line) — and it fails exactly when
    the inlined text does: at the first malformed line (with that line's provenance) or at the
    first file that cannot be read. -/
theorem C14_parse_eq_inlined (fs : Fs) (fuel : Nat) (root : Str) :
    mapOk stripDirectives (parseFileF fs fuel root) =
      parseInlined (Spec.inline (worldOf fs) fuel root) :=
  parseFileF_eq_inline fs fuel root

/-- When the inlining succeeds within the fuel and every inlined line is well-formed, the parse
    succeeds and its non-directive instructions are exactly, in order, the instructions of the
    inlined lines, each carrying the file and line it was written on. -/
theorem C14_inline_equiv (fs : Fs) (fuel : Nat) (root : Str) (ls : List (Meta × Str))
    (hin : Spec.inline (worldOf fs) fuel root = (ls, none))
    (hok : ∀ p ∈ ls, LineWellFormed p.2) :
    ∃ is, parseFileF fs fuel root = .ok is ∧ stripDirectives is = ls.map instrOf :=
  inline_strip fs fuel root ls hin hok

/-- Every instruction of a successful parse names a file that was read and a line number
    within that file, and it is the parse of exactly that line. -/
theorem C14_provenance (fs : Fs) (fuel : Nat) (root : Str) (is : List Instruction)
    (h : parseFileF fs fuel root = .ok is) :
    ∀ i ∈ is, ∃ f text k l, i.mi = { line := some k, source := some f } ∧
      fs.read f = some text ∧ 1 ≤ k ∧ k ≤ (lines text).length ∧
      (lines text)[k - 1]? = some l ∧ parseLine l = .ok i.ty :=
  parseFileF_provenance fs fuel root is h

/-- The inlined lines themselves carry true provenance: the pair (m, l) is line `k` of the
    readable file `f` named by `m`. -/
theorem C14_inlined_lines_provenance (fs : Fs) (fuel : Nat) (root : Str) :
    ∀ p ∈ (Spec.inline (worldOf fs) fuel root).1, ∃ f text k,
      p.1 = { line := some k, source := some f } ∧ fs.read f = some text ∧ 1 ≤ k ∧
      (lines text)[k - 1]? = some p.2 :=
  inline_provenance (worldOf fs) fuel root

/-- A directive naming an unreadable file fails the whole parse with `ErrorReadingFile` of the
    resolved path (`Spec.inline` stops with `.missing p` exactly when `p = resolve includer arg`
    — or the root itself — cannot be read), whatever follows it, provided the lines pasted before
    it are well-formed. -/
theorem C14_missing_file (fs : Fs) (fuel : Nat) (root : Str) (ls : List (Meta × Str)) (p : Str)
    (hin : Spec.inline (worldOf fs) fuel root = (ls, some (.missing p)))
    (hok : ∀ q ∈ ls, LineWellFormed q.2) :
    parseFileF fs fuel root = .error ⟨.errorReadingFile p, {}⟩ := by
  have h := C14_parse_eq_inlined fs fuel root
  rw [hin] at h
  obtain ⟨is', his', _, _⟩ := parseEach_all_ok ls hok
  simp only [parseInlined, his', stopFail] at h
  exact mapOk_error _ _ h

/-- the same, directly on the including file: the lines before the directive are accepted
    lines that include nothing, the files listed before the unreadable one parse, and the
    path handed to `read` is `resolve (some includer) arg` -/
theorem C14_missing_file_direct (fs : Fs) (fuel : Nat) (f text : Str) (pre post : List Str)
    (d : Str) (as bs : List Str) (a : Str)
    (hread : fs.read f = some text) (hl : lines text = pre ++ d :: post)
    (hpre : ∀ l ∈ pre, ∃ ty, parseLine l = .ok ty ∧ ∀ c x, ty = .preProcess c x → c = some printName)
    (hd : includeDirective d = some (as ++ a :: bs))
    (has : ∀ x ∈ as, ∃ is, parseFileF fs (fuel + 1) (fs.resolve (some f) x) = .ok is)
    (hmiss : fs.read (fs.resolve (some f) a) = none) :
    parseFileF fs (fuel + 2) f =
      .error ⟨.errorReadingFile (fs.resolve (some f) a), {}⟩ := by
  rw [parseFileF, hread]
  simp only [hl]
  refine parseLinesWith_error_after_good _ fs (some f) pre (d :: post) _ (1 + pre.length) 1 hpre rfl ?_
  rw [parseLinesWith_cons_seq]
  have hstep : lineStep (parseFileF fs (fuel + 1)) fs (some f) (1 + pre.length) d =
      .error ⟨.errorReadingFile (fs.resolve (some f) a), {}⟩ := by
    obtain ⟨args, hpl, hargs⟩ := includeDirective_some d _ hd
    unfold lineStep
    simp only [hpl, runPre_include, hargs]
    have herr : parseFileF fs (fuel + 1) (fs.resolve (some f) a) =
        .error ⟨.errorReadingFile (fs.resolve (some f) a), {}⟩ := by rw [parseFileF, hmiss]
    rw [includeFiles_append_error (parseFileF fs (fuel + 1)) fs (some f) as bs a _ has herr]
  rw [hstep]
  rfl

/-- A malformed line of an included file fails the whole parse with that line's error kind and
    the meta info (line k, file f) of the place it was written — wherever the file was included
    from, however deep, and whatever comes after it (even unreadable files). -/
theorem C14_error_in_included_file (fs : Fs) (fuel : Nat) (root : Str)
    (pre post : List (Meta × Str)) (m : Meta) (bad : Str) (stop : Option Stop) (k : PErr)
    (hin : Spec.inline (worldOf fs) fuel root = (pre ++ (m, bad) :: post, stop))
    (hpre : ∀ p ∈ pre, LineWellFormed p.2) (hbad : lineOutcome bad = .error k) :
    parseFileF fs fuel root = .error ⟨k, m⟩ ∧
      ∃ f text n, m = { line := some n, source := some f } ∧ fs.read f = some text ∧ 1 ≤ n ∧
        (lines text)[n - 1]? = some bad := by
  constructor
  · have h := C14_parse_eq_inlined fs fuel root
    rw [hin] at h
    simp only [parseInlined, parseEach_first_error pre post m bad k hpre hbad] at h
    exact mapOk_error _ _ h
  · have := C14_inlined_lines_provenance fs fuel root (m, bad) (by rw [hin]; simp)
    exact this

/-- The file handed to `parse_file` (hence to `read`) for an argument `a` of a directive written
    in file `f` is `fs.resolve (some f) a` — `f` being the file that contains the directive, not
    the root of the parse: the directive line contributes its own instruction, then the
    instructions of `resolve (some f) a`, then those of the remaining arguments. -/
theorem C14_relative_to_includer (inc : Str → Except ParseFail (List Instruction)) (fs : Fs)
    (f : Str) (n : Nat) (d : Str) (ls : List Str) (a : Str) (rest : List Str)
    (hd : parseLine d = .ok (.preProcess (some includeName) (some (a :: rest)))) :
    parseLinesWith inc fs (some f) n (d :: ls) =
      seqE (seqE (seqE (.ok [⟨{ line := some n, source := some f },
                              .preProcess (some includeName) (some (a :: rest))⟩])
                       (inc (fs.resolve (some f) a)))
                 (includeFiles inc fs (some f) rest))
           (parseLinesWith inc fs (some f) (n + 1) ls) := by
  rw [parseLinesWith_cons_seq]
  congr 1
  unfold lineStep
  simp only [hd, runPre_include, Option.getD_some]
  rw [includeFiles_cons_seq]
  cases inc (fs.resolve (some f) a) <;> cases includeFiles inc fs (some f) rest <;> simp [seqE]

/-- the path rule of the concrete model: an argument that does not start with `/` or `\` is
    joined to the parent directory of the INCLUDING file and canonicalised when that succeeds;
    an argument that does is taken as it is -/
theorem C14_path_rule (t : Tree) (s par a : Str) (hs : parentOf s = some par) :
    (treeFs t).resolve (some s) a =
      if a.head? = some '/' ∨ a.head? = some '\\' then a
      else (canonicalize t (joinPath par a)).getD (joinPath par a) := by
  simp only [treeFs, resolveT, hs]
  split
  · rfl
  · cases canonicalize t (joinPath par a) <;> rfl


/-! ### the hypotheses are satisfiable (non-vacuity): a 3-file tree with a nested directory,
    `c.ds` included twice (directly, and from `sub/b.ds` through `../c.ds`) -/

def C14_pMain : Str := "/R/main.ds".toList
def C14_pB : Str := "/R/sub/b.ds".toList
def C14_pC : Str := "/R/c.ds".toList
def C14_lA : Str := "a 1".toList
def C14_lZ : Str := "z 9".toList
def C14_lB1 : Str := "b 1".toList
def C14_lB3 : Str := "b 3".toList
def C14_lC1 : Str := "c 1".toList
def C14_dMain : Str := "!include_files sub/b.ds c.ds".toList
def C14_dB : Str := "!include_files ../c.ds".toList
def C14_argB : Str := "sub/b.ds".toList
def C14_argC : Str := "c.ds".toList
def C14_argUp : Str := "../c.ds".toList
def C14_main : Str := "a 1\n!include_files sub/b.ds c.ds\nz 9\n".toList
def C14_b : Str := "b 1\r\n!include_files ../c.ds\r\nb 3".toList
def C14_c : Str := "c 1\n".toList
def C14_tree : Tree := [(C14_pMain, C14_main), (C14_pB, C14_b), (C14_pC, C14_c)]
def C14_cmd (c a : String) : ScriptInstr := { command := some c.toList, args := some [a.toList] }

/-- the path rule on the tree: relative to the includer's directory, `..` resolved,
    a name that does not exist is left as joined, the OS resolves `..` when reading -/
example : (treeFs C14_tree).resolve (some C14_pMain) C14_argB = C14_pB := by decide +kernel
example : (treeFs C14_tree).resolve (some C14_pB) C14_argUp = C14_pC := by decide +kernel
example : (treeFs C14_tree).resolve (some C14_pB) C14_argC = "/R/sub/c.ds".toList := by
  repeat rw [String.toList_ofList]
  decide +kernel
example : (treeFs C14_tree).resolve (some C14_pB) "/R/c.ds".toList = C14_pC := by decide +kernel
example : (treeFs C14_tree).read "/R/sub/../c.ds".toList = some C14_c := by
  repeat rw [String.toList_ofList]
  decide +kernel
example : (treeFs C14_tree).read "/R/sub".toList = none := by decide +kernel
example : parentOf "/R/./sub//b.ds".toList = some "/R/./sub".toList := by
  repeat rw [String.toList_ofList]
  decide +kernel
example : parentOf "/b.ds".toList = some "/".toList ∧ parentOf "/".toList = none := by decide +kernel

theorem C14_example_plain (c a : String) (h : instrOKb (C14_cmd c a) = true) :
    includeDirective (renderLine {} (C14_cmd c a)) = none ∧
      LineWellFormed (renderLine {} (C14_cmd c a)) := by
  have := plain_line_facts {} (C14_cmd c a) (instrOK_of_b _ h) (choicesOK_of_b _ (by decide +kernel))
  exact ⟨this.1, _, this.2⟩

/-- the inlining of the example tree: 6 lines, `c 1` twice, each with its own file and line -/
theorem C14_example_inline :
    Spec.inline (worldOf (treeFs C14_tree)) 3 C14_pMain =
      ([({ line := some 1, source := some C14_pMain }, C14_lA),
        ({ line := some 1, source := some C14_pB }, C14_lB1),
        ({ line := some 1, source := some C14_pC }, C14_lC1),
        ({ line := some 3, source := some C14_pB }, C14_lB3),
        ({ line := some 1, source := some C14_pC }, C14_lC1),
        ({ line := some 3, source := some C14_pMain }, C14_lZ)], none) := by
  -- evaluated by the kernel; the definitions are unfolded and the literals opened to character
  -- lists so that it need not decode the strings
  unfold C14_tree C14_pMain C14_pB C14_pC C14_main C14_b C14_c C14_lA C14_lB1 C14_lB3 C14_lC1 C14_lZ
  repeat rw [String.toList_ofList]
  decide +kernel

/-- hypotheses of `C14_inline_equiv` hold for the example, so its conclusion is about a real
    parse: 6 instructions are left when the directives are stripped -/
example : ∃ is, parseFileF (treeFs C14_tree) 3 C14_pMain = .ok is ∧
    (stripDirectives is).length = 6 := by
  have hwf : ∀ p ∈ [C14_lA, C14_lB1, C14_lC1, C14_lB3, C14_lZ], LineWellFormed p := by
    have key : ∀ l ∈ [C14_lA, C14_lB1, C14_lC1, C14_lB3, C14_lZ], (lineOutcome l).toBool = true := by
      unfold C14_lA C14_lB1 C14_lC1 C14_lB3 C14_lZ
      repeat rw [String.toList_ofList]
      decide +kernel
    intro l hl
    cases h : lineOutcome l with
    | ok ty => exact ⟨ty, h⟩
    | error e => have := key l hl; rw [h] at this; cases this
  obtain ⟨is, h1, h2⟩ := C14_inline_equiv (treeFs C14_tree) 3 C14_pMain _ C14_example_inline
    (by
      intro p hp
      simp only [List.mem_cons, List.not_mem_nil, or_false] at hp
      rcases hp with rfl | rfl | rfl | rfl | rfl | rfl <;> exact hwf _ (by simp))
  exact ⟨is, h1, by rw [h2]; rfl⟩

/-- a malformed line for `C14_error_in_included_file`, and a tree in which a listed file is
    missing (`Spec.inline` stops with the resolved path) -/
example : lineOutcome ":\"".toList = .error .invalidQuotesLocation := by
  unfold lineOutcome
  rw [show ":\"".toList = ':' :: '"' :: [] from by decide, quote_starts_label []]

example : (Spec.inline (worldOf (treeFs [(C14_pMain, C14_main)])) 3 C14_pMain).2 =
    some (.missing C14_pB) := by
  unfold C14_pMain C14_pB C14_main
  repeat rw [String.toList_ofList]
  decide +kernel

end Duck
