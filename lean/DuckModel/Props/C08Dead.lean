/-
  C08 — a dead error kind.  `ScriptError::EmptyLabel` (raised by `find_label` when the scanned
  label value is `Some("")`) can never be produced: names are scanned with quotes disallowed, and
  without quotes the scanner only returns a value that has at least one character.  Stated on the
  model — which equals the translation of the current scanner source, `C08_scanner_translation`.
-/
import DuckModel.Lemmas.ScannerLemmas

namespace Duck

/-- `find_label` never reports an empty label -/
theorem C08_find_label_never_empty (l : Str) : findLabel l ≠ .error .emptyLabel :=
  fun h => absurd (findLabel_err h) (by decide)

/-- NO LINE is ever rejected with `EmptyLabel`: the error kind is dead code -/
theorem C08_empty_label_unreachable (line : Str) : parseLine line ≠ .error .emptyLabel :=
  fun h => absurd (parseLine_err h) (by decide)

end Duck
