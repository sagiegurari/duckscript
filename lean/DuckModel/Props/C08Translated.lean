/-
  C08 / C01 — the hand-written scanner model IS the translation of the current source.

  `Generated/ScannerPNV.lean` is produced on every run by a Rust→Lean translator
  (bin/rust2lean.py, bin/fragments/scanner_pnv.py) from the character loop of
  `parse_next_value` in duckscript/src/parser.rs.  The theorems below prove that the step function
  all parser theorems (C01 round trip, C08 totality / error kinds, C02 spread re-parsing, C09
  re-serialisation, C14 includes) are stated about — `Duck.pvStep` in Parser.lean — equals that
  translation, for every flag setting, scanner state, character and remaining input; hence the
  loops and `parse_next_value` itself agree.  A change of the Rust loop body that alters its meaning
  makes this file fail to check: a broken proof obligation, not only a sampled difference.
-/
import DuckModel.Lemmas.ScannerLemmas
import DuckModel.Generated.ScannerPNV

namespace Duck
open Duck.Generated

theorem C08_scanner_translation (fl : PVFlags) (st : PVSt) (c : Char) (rest : Str) :
    pvStepGen fl st c rest = pvStep fl st c rest := by
  unfold pvStepGen pvStep
  -- the two bodies are the same text but for the branch that ends an unquoted token
  refine ite_congr rfl (fun _ => ?_) (fun _ => rfl)
  refine ite_congr rfl (fun _ => rfl) (fun _ => ?_)
  refine ite_congr rfl (fun _ => rfl) (fun _ => ?_)
  refine ite_congr rfl (fun _ => rfl) (fun _ => ?_)
  refine ite_congr rfl (fun h => ?_) (fun _ => rfl)
  refine ite_congr rfl (fun _ => rfl) (fun h2 => ?_)
  -- there the translation also asks whether the character is `#`: it is
  rw [if_pos (tokenEnd_hash h.2 h2)]

/-- the loop over the translated body: written by hand in the shape of `pvLoop` (only the body
    is translated) -/
def pvLoopGen (fl : PVFlags) : PVSt → Str → Except PErr (PVSt × Str × Bool)
  | st, [] => .ok (st, [], false)
  | st, c :: rest =>
    match pvStepGen fl st c rest with
    | .cont st' => pvLoopGen fl st' rest
    | .brk st' r fe => .ok (st', r, fe)
    | .err e => .error e

theorem C08_scanner_translation_loop (fl : PVFlags) (st : PVSt) (l : Str) :
    pvLoopGen fl st l = pvLoop fl st l := by
  induction l generalizing st with
  | nil => rfl
  | cons c rest ih =>
    unfold pvLoopGen pvLoop
    rw [C08_scanner_translation]
    cases pvStep fl st c rest with
    | cont st' => exact ih st'
    | brk st' r fe => rfl
    | err e => rfl

/-- `parse_next_value` on that loop, written by hand in the shape of `parseNextValue` -/
def parseNextValueGen (fl : PVFlags) (l : Str) : Except PErr (Str × Option Str) :=
  match l with
  | [] => .ok ([], none)
  | _ =>
    match pvLoopGen fl {} l with
    | .error e => .error e
    | .ok (st, rest, fe) => pvFinish st rest fe

theorem C08_scanner_translation_value (fl : PVFlags) (l : Str) :
    parseNextValueGen fl l = parseNextValue fl l := by
  unfold parseNextValueGen parseNextValue
  cases l with
  | nil => rfl
  | cons c rest => simp only [C08_scanner_translation_loop]; rfl

/- the branch the hand-written model leaves out is dead: when the token ends on an unquoted
   character that is neither a blank nor `=`, that character is `#` -/
example (fl : PVFlags) (c : Char) (h : c = ' ' ∨ c = '#' ∨ (fl.stopOnEquals ∧ c = '='))
    (h2 : ¬ (c = ' ' ∨ c = '=')) : c = '#' :=
  tokenEnd_hash h h2

end Duck
