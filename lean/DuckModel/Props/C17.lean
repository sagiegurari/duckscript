/-
  C17 — encodings round-trip.

  * base64: `base64_decode (base64_encode bytes) = bytes` for every byte list (any length);
  * UTF-8: `bytes_to_string (string_to_bytes text) = text` for every text (all scalar values);
  * hex: `hex_decode (hex_encode n) = n` for every `n < 2^64`, on the number level and on the
    level of the two commands (decimal text in, decimal text out);
  * JSON: `json_encode --collection (json_parse --collection doc)` is the normalised document
    (scalars → strings, nulls dropped), for every document none of whose texts is a live handle
    name.  That hypothesis is forced by the code: `encode_from_state_value` looks every string
    up in the handle store, so a string leaf that *is* a handle name is replaced by that
    handle's content (handle names are `handle:` + 20 random alphanumerics, so a document
    cannot contain one unless it was built from a handle on purpose).

  * properties: `map_to_properties` then `map_load_properties` — theorems `C17_props_…` in
    `Props/C17Props.lean` (model `Sdk/Properties.lean` of the `java-properties` writer/reader).

  * JSON text layer (`serde_json::from_str` / `Value::to_string`, model `Sdk/JsonText.lean`):
    theorems `C17_jsontext_…` in `Props/C17Json.lean` (the reader undoes the compact writer);
    composed with the AST theorem below: `C17_jsontext_encode_roundtrip` (the text
    `json_encode --collection` returns reads back as the normalised document) and
    `C17_jsontext_commands_roundtrip` (text in, text out).  Numbers the crate reads as `f64`
    are outside the text model — see obligations `partial`.
-/
import DuckModel.Props.C17Props
import DuckModel.Props.C17Json
import DuckModel.Sdk.Encode
import DuckModel.Sdk.Utf8Decode
import DuckModel.Lemmas.EncodeLemmas
import DuckModel.Lemmas.Utf8DecodeLemmas

namespace Duck
open Duck.Enc

/-- base64: decoding an encoding gives the bytes back — every byte list, every length
    (induction in steps of three bytes, the three padding shapes as base cases) -/
theorem C17_base64_roundtrip (bs : List Nat) (h : ∀ b ∈ bs, b < 256) :
    b64Decode (b64Encode bs) = some bs :=
  b64_roundtrip bs h

/-- `string_to_bytes` then `bytes_to_string`: every text (1-, 2-, 3- and 4-byte scalars) -/
theorem C17_utf8_roundtrip (s : List Char) : utf8Decode (utf8Encode s) = some s :=
  utf8_roundtrip s

/-- text → bytes → base64 → bytes → text -/
theorem C17_text_base64_roundtrip (s : List Char) :
    (b64Decode (b64Encode (utf8Encode s))).bind utf8Decode = some s := by
  rw [b64_roundtrip _ (utf8Encode_lt_256 s)]
  exact utf8_roundtrip s

/-- `hex_decode (hex_encode n) = n` on numbers -/
theorem C17_hex_roundtrip (n : Nat) (h : n < 2 ^ 64) : hexDecode (hexEncode n) = some n :=
  hex_roundtrip n h

/-- the two commands composed on the decimal text of any `u64` -/
theorem C17_hex_commands_roundtrip (n : Nat) (h : n < 2 ^ 64) :
    (hexEncodeCmd (decEncode n)).bind hexDecodeCmd = some (decEncode n) := by
  simp [hexEncodeCmd, hexDecodeCmd, dec_roundtrip n h, hex_roundtrip n h]

/-- JSON, general form: any injective supply of handle names, any store whose handles were
    drawn from it, any document whose texts are not handle names.  The parsed value encodes
    to the normalised document in the resulting store, in every later store, with every
    fuel ≥ the recursion depth; a top-level `null` parses to "no value". -/
theorem C17_json_roundtrip_general (key : Nat → Str) (hinj : Injective key) (doc : Json)
    (st : Store) (hinv : Inv key st) (hno : NoHandle key doc) :
    match (parseJ key doc st).1 with
    | none => norm doc = none
    | some v => ∃ j, norm doc = some j ∧
        ∀ st'', Inv key st'' → Ext (parseJ key doc st).2 st'' → ∀ f, need doc ≤ f →
          encodeVal f st''.entries (.str v) = .ok j :=
  (parseJ_spec hinj doc st hinv hno).2.2

/-- JSON: `encodeFromStore (parseToStore doc) = normalise doc` -/
theorem C17_json_roundtrip (doc : Json) (hno : NoHandle handleKey doc) :
    match (parseToStore doc).1 with
    | none => norm doc = none
    | some v => ∃ j, norm doc = some j ∧ encodeFromStore (parseToStore doc).2 v = .ok j := by
  obtain ⟨hinv, _, h⟩ := parseJ_spec handleKey_injective doc {} (inv_empty _) hno
  have hlen := parseJ_length handleKey_injective doc {} (inv_empty _) hno
  have hneed := need_le doc
  unfold parseToStore
  cases hr : (parseJ handleKey doc {}).1 with
  | none => rwa [hr] at h
  | some v =>
    rw [hr] at h
    obtain ⟨j, hj, hd⟩ := h
    refine ⟨j, hj, ?_⟩
    unfold encodeFromStore
    apply hd _ hinv (Ext.refl _)
    rw [hlen]
    show need doc ≤ 2 * (0 + containers doc) + 2
    omega

/-- the handles `json_parse --collection` creates: one per array/object, none overwritten -/
theorem C17_json_parse_allocates (doc : Json) (hno : NoHandle handleKey doc) :
    (parseToStore doc).2.entries.length = containers doc := by
  have := parseJ_length handleKey_injective doc {} (inv_empty _) hno
  simpa [parseToStore] using this

open Duck.JsonText in
/-- the text `json_encode --collection` returns for a normalised document reads back as it -/
theorem norm_reads_back (doc : Json) (hs : SortedKeys doc = true) (hd : depth doc ≤ 127) (j : Json)
    (hj : norm doc = some j) : parseJson (printJson j) = some j := by
  have hc := C17_jsontext_norm_stringdoc doc j hs hj
  exact C17_jsontext_roundtrip j hc.1 (by omega)

open Duck.JsonText in
/-- the two commands on any text the reader accepts as `doc` -/
theorem parseEncodeText_of_parse (text : List Char) (doc : Json) (hp : parseJsonE text = .ok doc)
    (hno : NoHandle handleKey doc) :
    parseEncodeText text = .ok ((norm doc).map fun j => .ok (printJson j)) := by
  unfold parseEncodeText
  rw [hp]
  have h := C17_json_roundtrip doc hno
  dsimp only
  cases hv : (parseToStore doc).1 with
  | none => rw [hv] at h; simp [h]
  | some v =>
    rw [hv] at h
    obtain ⟨j, hj, he⟩ := h
    simp [hj, he]

open Duck.JsonText in
/-- JSON, text level, AST in / text out: for every document (in the domain of
    `C17_json_roundtrip`, objects with strictly increasing keys as in a `serde_json::Map`, at
    most 127 nested containers) the value `json_parse --collection` returns encodes to the
    normalised document `j`; the text `json_encode --collection` returns is the compact text of
    `j`, and `serde_json::from_str` reads that text back as `j` -/
theorem C17_jsontext_encode_roundtrip (doc : Json) (hno : NoHandle handleKey doc)
    (hs : SortedKeys doc = true) (hd : depth doc ≤ 127) :
    match (parseToStore doc).1 with
    | none => norm doc = none
    | some v => ∃ j, norm doc = some j ∧
        (encodeFromStore (parseToStore doc).2 v).map printJson = .ok (printJson j) ∧
        parseJson (printJson j) = some j := by
  have h := C17_json_roundtrip doc hno
  cases hv : (parseToStore doc).1 with
  | none => rw [hv] at h; exact h
  | some v =>
    rw [hv] at h
    obtain ⟨j, hj, he⟩ := h
    refine ⟨j, hj, ?_, norm_reads_back doc hs hd j hj⟩
    rw [he]; rfl

open Duck.JsonText in
/-- JSON, text level, text in / text out: for every document of the modelled class (exact
    integers, sorted keys; depth ≤ 127; no text that names a live handle) written compactly
    with any white space around it, `json_parse --collection` followed by
    `json_encode --collection` returns exactly the compact text of the normalised document (no
    value when the document is `null`), and that text reads back as the normalised document -/
theorem C17_jsontext_commands_roundtrip (doc : Json) (w w' : List Char)
    (hw : ∀ c ∈ w, JsonText.isWs c = true) (hw' : ∀ c ∈ w', JsonText.isWs c = true) (ht : TextDoc doc = true)
    (hd : depth doc ≤ 127) (hno : NoHandle handleKey doc) :
    parseEncodeText (w ++ printJson doc ++ w') =
      .ok ((norm doc).map fun j => .ok (printJson j)) ∧
    ∀ j, norm doc = some j → parseJson (printJson j) = some j := by
  have ⟨hn, hs⟩ := textDoc_iff.1 ht
  exact ⟨parseEncodeText_of_parse _ doc (parseJsonE_print doc w w' (List.all_eq_true.2 hw) (List.all_eq_true.2 hw') hn hs (Nat.lt_succ_of_le hd)) hno,
    norm_reads_back doc hs hd⟩

open Duck.JsonText Duck.JsonCst in
/-- C17 for JSON on the level of texts, every text: for every JSON text (a well-formed concrete
    syntax tree `c` of `Spec/JsonCst.lean`: any white space, any escape spelling, members in any
    order, keys repeated; numbers exact integers; at most 127 nested containers; white space
    around it) none of whose texts names a live handle, `json_parse --collection` followed by
    `json_encode --collection` returns exactly the compact text of the normalisation of the
    document the text denotes (no value for `null`), and that text reads back as the normalised
    document -/
theorem C17_jsontext_text_roundtrip (c : Cst) (w w' : List Char) (hw : allWs w = true)
    (hw' : allWs w' = true) (hc : WF c = true) (hd : cdepth c ≤ 127)
    (hno : NoHandle handleKey (value c)) :
    parseEncodeText (w ++ render c ++ w') =
      .ok ((norm (value c)).map fun j => .ok (printJson j)) ∧
    ∀ j, norm (value c) = some j → parseJson (printJson j) = some j := by
  obtain ⟨ht, hdv⟩ := C17_jsontext_value_in_class c hc
  exact ⟨parseEncodeText_of_parse _ _ (parseJsonE_render c w w' hw hw' hc (Nat.lt_succ_of_le hd)) hno,
    norm_reads_back _ (textDoc_iff.1 ht).2 (by omega)⟩

/-! ## Non-vacuity -/
section Examples

private def bytes1 : List Nat := [0, 255, 97, 10, 200]

example : b64Encode bytes1 = "AP9hCsg=".toList := by decide +kernel
example : b64Decode "AP9hCsg=".toList = some bytes1 := by decide +kernel
example : b64Encode [102, 111] = "Zm8=".toList ∧ b64Encode [102] = "Zg==".toList := by
  decide +kernel
/-- rejected: bad length, bad symbol, padding in the middle, non-zero trailing bits -/
example : b64Decode "Zm8".toList = none ∧ b64Decode "Zm8*".toList = none ∧
    b64Decode "Zg==Zg==".toList = none ∧ b64Decode "Zh==".toList = none := by decide +kernel

example : utf8Encode "a\x00é€😀".toList = [97, 0, 195, 169, 226, 130, 172, 240, 159, 152, 128] := by decide +kernel
example : utf8Decode [97, 0, 195, 169, 226, 130, 172, 240, 159, 152, 128] = some "a\x00é€😀".toList := by decide +kernel
/-- rejected: overlong, surrogate, truncated, stray continuation, above U+10FFFF -/
example : utf8Decode [0xC0, 0x80] = none ∧ utf8Decode [0xED, 0xA0, 0x80] = none ∧
    utf8Decode [0xE2, 0x82] = none ∧ utf8Decode [0x80] = none ∧
    utf8Decode [0xF4, 0x90, 0x80, 0x80] = none := by decide +kernel

example : hexEncode 255 = "0xff".toList ∧ hexEncode 0 = "0x0".toList := by decide +kernel
example : hexEncode 18446744073709551615 = "0xffffffffffffffff".toList := by decide +kernel
example : hexDecode "0x0xFf".toList = some 255 ∧ hexDecode "0x".toList = none ∧
    hexDecode "0x10000000000000000".toList = none ∧ hexDecode "+f".toList = some 15 ∧
    hexDecode "-f".toList = none := by decide +kernel
example : hexDecodeCmd "0xffffffffffffffff".toList = some "18446744073709551615".toList := by
  -- a string literal is `String.ofList` of its characters; the rewrite exposes them
  rw [String.toList_ofList, String.toList_ofList]; decide +kernel

/-- `{"a":[1,null,"x",{"b":true}],"n":null,"k k":[]}` -/
private def doc1 : Json :=
  .obj (.cons "a".toList (.arr (.cons (.num "1".toList) (.cons .null (.cons (.str "x".toList)
      (.cons (.obj (.cons "b".toList (.bool true) .nil)) .nil)))))
    (.cons "n".toList .null (.cons "k k".toList (.arr .nil) .nil)))

private def doc1n : Json :=
  .obj (.cons "a".toList (.arr (.cons (.str "1".toList) (.cons (.str "x".toList)
      (.cons (.obj (.cons "b".toList (.str "true".toList) .nil)) .nil))))
    (.cons "k k".toList (.arr .nil) .nil))

example : norm doc1 = some doc1n := by rfl
example : (parseToStore doc1).1 = some (handleKey 3) := by rfl
example : (parseToStore doc1).2.entries.length = 4 := by rfl
example : encodeFromStore (parseToStore doc1).2 (handleKey 3) = .ok doc1n := by rfl
example : NoHandle handleKey doc1 := by
  refine ⟨⟨?_, True.intro, ?_, ⟨?_, True.intro⟩, True.intro⟩, True.intro, True.intro, True.intro⟩ <;>
    exact not_handle_of_prefix _ (by decide)

/-- the hypothesis of the JSON theorem is needed: a string leaf that names a live handle is
    replaced by the handle's content (here the array refers to itself: out of fuel = the real
    code recurses until the stack overflows) -/
example : encodeFromStore (parseToStore (.arr (.cons (.str (handleKey 0)) .nil))).2 (handleKey 0)
    = .error .fuel := by rfl

/-- the text-level theorems apply to `doc1` (keys `a`, `k k`, `n` are not sorted there, so the
    sorted variant is used): hypotheses hold, the text is as expected -/
private def doc1s : Json :=
  .obj (.cons "a".toList (.arr (.cons (.num "1".toList) (.cons .null (.cons (.str "x\n".toList)
      (.cons (.obj (.cons "b".toList (.bool true) .nil)) .nil)))))
    (.cons "k k".toList (.arr .nil) (.cons "n".toList .null .nil)))

example : JsonText.TextDoc doc1s = true ∧ JsonText.depth doc1s = 3 := by decide +kernel
example : JsonText.printJson doc1s =
    "{\"a\":[1,null,\"x\\n\",{\"b\":true}],\"k k\":[],\"n\":null}".toList := by
  rw [String.toList_ofList]; decide +kernel
example : (norm doc1s).map JsonText.printJson =
    some "{\"a\":[\"1\",\"x\\n\",{\"b\":\"true\"}],\"k k\":[]}".toList := by
  rw [String.toList_ofList]; decide +kernel

/-- a store with an unsupported value -/
example : encodeFromStore { next := 1, entries := [(handleKey 0, .other)] } (handleKey 0)
    = .error .unsupported := by rfl

end Examples

end Duck
