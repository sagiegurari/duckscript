/-
  C16 — `uppercase` / `lowercase` return what `str::to_uppercase` / `str::to_lowercase` return,
  over all of Unicode.

  The model (Sdk/CaseMap.lean) is the algorithm of the Rust standard library over the tables of
  the installed toolchain (UnicodeCase.lean: generated, compared with the toolchain over all code
  points on every check run).  Proved here, from the tables (kernel evaluation) and the loop:
  the ASCII maps are instances; both functions are idempotent (no produced character is mapped
  again, and no `Σ` is ever produced); a text is a fixed point of `lowercase` exactly when the
  independently generated table of UnicodeLower.lean (linter model, C20) says so; character
  counts; the final-sigma rule at an arbitrary position.
-/
import DuckModel.Sdk.Strings
import DuckModel.Lemmas.CaseLemmas

namespace Duck
open Duck.Strings Duck.UCase

/-- the commands are the whole-text functions; no argument is the error result -/
theorem C16_case_cmd (s : Str) (rest : List Str) :
    run "lowercase" (s :: rest) = some (.str (enc (toLowercase s))) ∧
    run "uppercase" (s :: rest) = some (.str (enc (toUppercase s))) ∧
    run "lowercase" [] = some .err ∧ run "uppercase" [] = some .err := ⟨rfl, rfl, rfl, rfl⟩

/-- on ASCII text `lowercase` is the ASCII map of Chars.lean (`asciiLower`, which stands for
    `to_lowercase` in `isTrue`, Sdk/Condition.lean) -/
theorem C16_case_lower_ascii (s : Str) (h : isAscii s = true) :
    toLowercase s = s.map asciiLowerChar := by
  have hall := isAscii_iff.mp h
  rw [toLowercase, lowerGo_no_sigma [] s (fun c hc e => by have := hall c hc; omega)]
  exact flatMap_eq_map s fun c hc => lowerChar_ascii c (hall c hc)

/-- on ASCII text `uppercase` is the ASCII map -/
theorem C16_case_upper_ascii (s : Str) (h : isAscii s = true) :
    toUppercase s = s.map asciiUpperChar :=
  flatMap_eq_map s fun c hc => upperChar_ascii c (isAscii_iff.mp h c hc)

/-- `lowercase` is idempotent on every text: no character it produces is mapped again (in
    particular it never produces a `Σ`, so the context rule cannot fire the second time) -/
theorem C16_case_lower_idempotent (s : Str) : toLowercase (toLowercase s) = toLowercase s := by
  unfold toLowercase
  exact (lowerGo_eq_self_iff [] _).mpr (lowerGo_out_fixed [] s)

/-- `uppercase` is idempotent on every text -/
theorem C16_case_upper_idempotent (s : Str) : toUppercase (toUppercase s) = toUppercase s := by
  unfold toUppercase
  apply flatMap_mapChar_fixed
  intro d hd
  rw [List.mem_flatMap] at hd
  obtain ⟨c, _, hc⟩ := hd
  exact (upperGood.mapChar c).fixed d hc

/-- a text is unchanged by `lowercase` exactly when `isLowerText` (UnicodeLower.lean, the test
    the linter model of C20 uses, a table generated independently) says it is lower case -/
theorem C16_case_lower_fixed_iff (t : Str) : isLowerText t = true ↔ toLowercase t = t := by
  simp only [toLowercase, isLowerText, lowerGo_eq_self_iff, List.all_eq_true, lowerFixedChar_iff]

/-- the two generated tables agree: `char::to_lowercase` changes a code point exactly when it is
    an ASCII capital or listed in `notLowerRanges` -/
theorem C16_case_tables_agree (n : Nat) :
    (lowerMap.lookup n).isSome = true ↔
      (65 ≤ n ∧ n ≤ 90) ∨ ∃ r ∈ notLowerRanges, r.1 ≤ n ∧ n ≤ r.2 := by
  rw [Option.isSome_iff_ne_none, Ne, lookup_eq_none_iff_not_key, Classical.not_not, lower_key_iff]
  simp [inRanges]

/-- every character becomes one to three characters -/
theorem C16_case_length (s : Str) :
    s.length ≤ (toLowercase s).length ∧ (toLowercase s).length ≤ 3 * s.length ∧
    s.length ≤ (toUppercase s).length ∧ (toUppercase s).length ≤ 3 * s.length := by
  refine ⟨(lowerGo_length [] s).1, (lowerGo_length [] s).2, ?_⟩
  unfold toUppercase
  induction s with
  | nil => simp
  | cons c r ih =>
    have : 1 ≤ (upperChar c).length ∧ (upperChar c).length ≤ 3 := (upperGood.mapChar c).length
    simp only [List.flatMap_cons, List.length_append, List.length_cons]
    omega

/-- without a capital sigma `lowercase` maps character by character -/
theorem C16_case_lower_pointwise (s : Str) (h : ∀ c ∈ s, c.toNat ≠ 0x3A3) :
    toLowercase s = s.flatMap lowerChar := lowerGo_no_sigma [] s h

/-- texts all of whose characters have one-character mappings keep their character count -/
theorem C16_case_count_preserved (s : Str) :
    ((∀ c ∈ s, c.toNat ≠ 0x3A3 → (lowerChar c).length = 1) → (toLowercase s).length = s.length) ∧
    ((∀ c ∈ s, (upperChar c).length = 1) → (toUppercase s).length = s.length) := by
  constructor
  · intro h
    unfold toLowercase
    generalize ([] : List Char) = rb
    induction s generalizing rb with
    | nil => rfl
    | cons c r ih =>
      have hlen : (lowerAt rb r c).length = 1 := by
        by_cases hs : c.toNat = 0x3A3
        · rw [lowerAt_sigma _ _ _ hs]; rfl
        · rw [lowerAt_not_sigma _ _ _ hs]; exact h c (by simp) hs
      simp only [lowerGo, List.length_append, List.length_cons, hlen,
        ih (fun d hd => h d (by simp [hd])) (c :: rb)]
      omega
  · intro h
    rw [toUppercase, List.length_flatMap, List.map_congr_left h, List.map_const',
      List.sum_replicate_nat, Nat.mul_one]

/-- `uppercase` has no context rule: it distributes over concatenation -/
theorem C16_case_upper_append (a b : Str) :
    toUppercase (a ++ b) = toUppercase a ++ toUppercase b := by
  simp [toUppercase]

/-- the final-sigma rule at an arbitrary position: in `p ++ Σ :: q` the sigma becomes `ς` exactly
    when, skipping case-ignorable characters, a cased character stands before it and no cased
    character stands after it (both read off the original text); `p` is lower-cased knowing that
    `Σ :: q` follows, `q` knowing that `p`, `Σ` precede -/
theorem C16_case_final_sigma (p q : Str) (c : Char) (hc : c.toNat = 0x3A3) :
    toLowercase (p ++ c :: q) =
      lowerCtx [] p (c :: q) ++
        (if caseIgnorableThenCased p.reverse && !caseIgnorableThenCased q then Char.ofNat 0x3C2
         else Char.ofNat 0x3C3) :: lowerGo (c :: p.reverse) q := by
  unfold toLowercase
  rw [lowerGo_append, lowerGo, lowerAt_sigma _ _ _ hc]
  simp

/-! ### non-vacuity: final sigma in context, multi-character mappings, fixed points -/

/- A string literal is `String.ofList` of its characters; rewriting with `String.toList_ofList`
   exposes them.  The loop is unfolded over the characters and each is looked up by
   `mapChar_expandRuns`. -/
example : toLowercase "ΟΔΟΣ".toList = "οδος".toList := by
  rw [String.toList_ofList, String.toList_ofList]
  simp only [toLowercase, lowerGo, lowerAt, lowerChar, lowerMap]
  rw [mapChar_expandRuns]
  decide +kernel
example : toLowercase "aΣ a.Σ ΑΣΑ Σ".toList = "aς a.ς ασα σ".toList := by
  rw [String.toList_ofList, String.toList_ofList]
  simp only [toLowercase, lowerGo, lowerAt, lowerChar, lowerMap]
  rw [mapChar_expandRuns]
  decide +kernel
example : toLowercase "İ".toList = "i̇".toList := by decide +kernel
example : toUppercase "straße ŉ ﬁ ǅ".toList = "STRASSE ʼN FI Ǆ".toList := by
  unfold toUppercase upperChar upperMap
  rw [mapChar_expandRuns, String.toList_ofList, String.toList_ofList]
  decide +kernel
example : isLowerText "σς".toList = true ∧ toLowercase "σς".toList = "σς".toList := by
  have h : isLowerText "σς".toList = true := by decide +kernel
  exact ⟨h, (C16_case_lower_fixed_iff _).mp h⟩
example : (toUppercase "ΐ".toList).length = 3 := by
  unfold toUppercase upperChar upperMap
  rw [mapChar_expandRuns]
  decide +kernel

end Duck
