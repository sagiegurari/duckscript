/-
  C17 — the java-properties round trip: `map_to_properties` followed by
  `map_load_properties` into a fresh map gives back the same map.

  Model: `Sdk/Properties.lean` (the two commands and the `java-properties` 2.0.0 writer and
  reader as transcribed from the crate).  The property as stated (every map) is false for the
  code and for the model; what holds is the round trip on an explicit class of entries:

  * characters (`safeChar`): TAB, LF, FF, CR, U+0020 … U+007F, and U+1000 … U+FFFF except the 17
    characters of windows-1252 in that range.  Every other character breaks the round trip of
    some one-entry map (theorems `C17_props_refuted_…`): other control characters, the 27 code
    points of U+0080 … U+009F that windows-1252 lacks, U+0100 … U+0FFF and everything above U+FFFF
    get a `\u` escape that is not four digits wide; U+00A0 … U+00FF, the other 5 of U+0080 … U+009F
    (U+0081, U+008D, U+008F, U+0090, U+009D) and the 27 windows-1252 specials are written as one
    byte ≥ 0x80 which the command then fails to read as UTF-8;
  * length (`fitsBuffer`): a key or value that contains a character above U+007F must have an
    escaped form of at most 256 bytes (the encoder's buffer): beyond that the `\u` escape at the
    buffer boundary is cut (`C17_props_refuted_escape_cut_at_buffer_end`);
  * the value of the entry written last must not end in a blank (`lastValueOk`): the command
    trims the text, which cuts the escaped blank in two (`C17_props_refuted_trailing_space`).

  The writer emits the entries in the iteration order of a hash map; the theorems take the
  entries as a list in the order of writing and hold for every order.
-/
import DuckModel.Sdk.Properties
import DuckModel.Lemmas.PropertiesLemmas

namespace Duck
open Duck.JProps

/-- the property as stated (every map with distinct keys comes back): FALSE for the model, as
    for the code — see `C17_props_roundtrip_full_refuted` and the `C17_props_refuted_…` theorems;
    `C17_props_roundtrip` proves it on the explicit class where it holds -/
def C17_props_roundtrip_full : Prop :=
  ∀ m : Entries, (m.map Prod.fst).Nodup → (roundTrip m).map toMap = .ok m

/-- write then load: the entries come back, in the order they were written
    (no hypothesis on the keys is needed at this level) -/
theorem C17_props_roundtrip (m : Entries) (hs : safeEntries m = true) (hl : lastValueOk m = true) :
    roundTrip m = .ok m := by
  have hs' := (safeEntries_iff m).1 hs
  unfold roundTrip
  rw [writeProps_safe m hs' hl]
  exact loadProps_lines m hs'

/-- the same on the level of the maps: for entries with distinct keys the map the loaded pairs
    are inserted into (later pairs replace earlier ones) is the original one -/
theorem C17_props_roundtrip_map (m : Entries) (hk : (m.map Prod.fst).Nodup)
    (hs : safeEntries m = true) (hl : lastValueOk m = true) :
    (roundTrip m).map toMap = .ok m := by
  rw [C17_props_roundtrip m hs hl]
  show Except.ok (toMap m) = Except.ok m
  rw [toMap_nodup m hk]

/-- `map_to_properties` does not fail on the safe class -/
theorem C17_props_write_ok (m : Entries) (hs : safeEntries m = true) (hl : lastValueOk m = true) :
    ∃ t, writeProps m = .ok t ∧ ∀ c ∈ t, c.toNat < 0x80 :=
  have hs' := (safeEntries_iff m).1 hs
  ⟨_, writeProps_safe m hs' hl, joinLines_ascii _ fun l hl d hd => (lines_ascii m hs' l hl d hd).1⟩

/-- pure ASCII entries (TAB, LF, FF, CR, U+0020 … U+007F) of any length round-trip as soon as
    the last value does not end in a blank -/
theorem C17_props_roundtrip_ascii (m : Entries)
    (ha : ∀ e ∈ m, (e.1.all safeAsciiChar && e.2.all safeAsciiChar) = true)
    (hl : lastValueOk m = true) : roundTrip m = .ok m := by
  apply C17_props_roundtrip m _ hl
  simp only [safeEntries, safeText, List.all_eq_true, Bool.and_eq_true, fitsBuffer, Bool.or_eq_true,
    safeChar]
  intro e he
  have := ha e he
  simp only [Bool.and_eq_true, List.all_eq_true] at this
  exact ⟨⟨fun c hc => Or.inl (this.1 c hc), Or.inl this.1⟩, ⟨fun c hc => Or.inl (this.2 c hc), Or.inl this.2⟩⟩

/-- the character class is exact: every character outside `safeChar` breaks the round trip of
    the one-entry map `k ↦ c` (the load fails, the write fails, or another text comes back) -/
theorem C17_props_safe_class_maximal (c : Char) (h : safeChar c = false) :
    roundTrip [(['k'], [c])] ≠ .ok [(['k'], [c])] := by
  show roundTrip (oneEntry c) ≠ .ok (oneEntry c)
  simp only [safeChar, Bool.or_eq_false_iff] at h
  obtain ⟨ha, hb⟩ := h
  simp only [safeAsciiChar, Bool.or_eq_false_iff, Bool.and_eq_false_iff, decide_eq_false_iff_not] at ha
  by_cases hsp : cp1252High.contains c.toNat = true
  · exact badOn_spec _ bad_specials c (by simpa using hsp)
  have hsp' : cp1252High.contains c.toNat = false := by simpa using hsp
  by_cases h1 : c.toNat < 0x20
  · apply badOn_spec _ bad_controls c
    simp only [List.mem_filter, List.mem_range, decide_eq_true_eq]
    omega
  by_cases h2 : 0xA0 ≤ c.toNat ∧ c.toNat < 0x100
  · apply badOn_spec _ bad_latin1 c
    rw [List.mem_range'_1]; omega
  -- what is left gets a `\u` escape from the encoder, of fewer or of more than four digits
  have h3 : 0x80 ≤ c.toNat := by omega
  have he := escapeChar_high c h3
  have hn := cp1252Encode_high c h3 (by omega) hsp'
  by_cases h4 : c.toNat < 0x1000
  · rw [roundTrip_short c he hn h4]; simp
  · apply roundTrip_long c he hn
    simp only [safeBmpChar, hsp', Bool.not_false, Bool.and_true, Bool.and_eq_false_iff,
      decide_eq_false_iff_not] at hb
    omega

/-- the reader fails only through escapes: `map_load_properties` of a text without backslash
    succeeds (whatever else the text contains: comments, blank lines, any separators, non-ASCII) -/
theorem C17_props_load_total (t : Str) (h : ∀ c ∈ t, c ≠ '\\') : ∃ es, loadProps t = .ok es := by
  unfold loadProps
  have h1 := decodeInput_noBs t h
  have h2 := natLines_noBs _ h1 false [] (fun x hx => by simp at hx)
  rw [logicalLines_plain _ fun l hl => countEndBs_noBs l (h2 l hl)]
  exact readLines_noBs _ h2

/-! ## the recorded finding classes, reproduced by the model

  The test vectors are evaluated by the kernel.  A string literal is `String.ofList` of its
  characters; rewriting with `String.toList_ofList` exposes them. -/

/-- C17/latin1-supplement: `é` is written as the windows-1252 byte 0xE9, which is not UTF-8:
    `map_to_properties` fails -/
theorem C17_props_refuted_latin1_supplement :
    writeBytes [("k".toList, "é".toList)] = [107, 61, 233, 10] ∧
    roundTrip [("k".toList, "é".toList)] = .error .utf8 := by
  constructor <;> (repeat rw [String.toList_ofList]) <;> decide +kernel

/-- … a C1 control character the encoding does not have is written as `\u80`: the load fails -/
theorem C17_props_refuted_latin1_supplement_c1 :
    writeProps [("k".toList, [Char.ofNat 0x80])] = .ok "k=\\u80".toList ∧
    roundTrip [("k".toList, [Char.ofNat 0x80])] = .error .escape := by
  constructor <;> (repeat rw [String.toList_ofList]) <;> decide +kernel

/-- C17/properties-cp1252-specials: `€` is written as the byte 0x80 -/
theorem C17_props_refuted_cp1252_specials :
    writeBytes [("k".toList, "€".toList)] = [107, 61, 128, 10] ∧
    roundTrip [("k".toList, "€".toList)] = .error .utf8 := by
  constructor <;> (repeat rw [String.toList_ofList]) <;> decide +kernel

/-- C17/properties-unicode-escape-width: `\u100` (three digits) cannot be read back;
    `\u1f600` (five digits) is read as U+1F60 followed by `0`; `\u0` (one digit) -/
theorem C17_props_refuted_unicode_escape_width :
    writeProps [("k".toList, "Ā".toList)] = .ok "k=\\u100".toList ∧
    roundTrip [("k".toList, "Ā".toList)] = .error .escape ∧
    writeProps [("k".toList, "😀".toList)] = .ok "k=\\u1f600".toList ∧
    roundTrip [("k".toList, "😀".toList)] = .ok [("k".toList, "ὠ0".toList)] ∧
    roundTrip [("k".toList, ['\x00'])] = .error .escape ∧
    roundTrip [("k".toList, ['\x01', 'a', 'b', 'c'])] = .ok [("k".toList, [Char.ofNat 0x1abc])] := by
  refine ⟨?_, ?_, ?_, ?_, ?_, ?_⟩ <;> (repeat rw [String.toList_ofList]) <;> decide +kernel

/-- C17/properties-trailing-space: the text `k=a\ ` is trimmed to `k=a\`; the reader takes the
    backslash for a line continuation, finds the end of the input and drops the entry.  With more
    entries only the one written last is lost. -/
theorem C17_props_refuted_trailing_space :
    writeProps [("k".toList, "a ".toList)] = .ok "k=a\\".toList ∧
    roundTrip [("k".toList, "a ".toList)] = .ok [] ∧
    roundTrip [("a".toList, "x ".toList), ("b".toList, "y ".toList)] = .ok [("a".toList, "x ".toList)] := by
  refine ⟨?_, ?_, ?_⟩ <;> (repeat rw [String.toList_ofList]) <;> decide +kernel

/-- Not among the recorded classes: a `\u` escape that does not fit into the room left in the
    encoder's 256-byte buffer is cut, not resumed.
    251 letters followed by U+4E2D: the file ends in `\u4e2` and the load fails;
    255 letters: only the backslash arrives and the entry is dropped;
    250 or 256 letters: fine. -/
theorem C17_props_refuted_escape_cut_at_buffer_end :
    roundTrip [("k".toList, List.replicate 251 'a' ++ ['中'])] = .error .escape ∧
    roundTrip [("k".toList, List.replicate 255 'a' ++ ['中'])] = .ok [] ∧
    roundTrip [("k".toList, List.replicate 250 'a' ++ ['中'])] = .ok [("k".toList, List.replicate 250 'a' ++ ['中'])] ∧
    roundTrip [("k".toList, List.replicate 256 'a' ++ ['中'])] = .ok [("k".toList, List.replicate 256 'a' ++ ['中'])] := by
  -- the line in the file, then the reader on that line; 250 letters are still in the safe class
  refine ⟨?_, ?_, C17_props_roundtrip _ (by decide +kernel) (by decide +kernel), ?_⟩
  · rw [roundTrip_line _ ("k=".toList ++ List.replicate 251 'a' ++ "\\u4e2".toList) (by decide +kernel)
      (by decide +kernel) (by decide +kernel)]
    decide +kernel
  · rw [roundTrip_line _ ("k=".toList ++ List.replicate 255 'a' ++ "\\".toList) (by decide +kernel)
      (by decide +kernel) (by decide +kernel)]
    decide +kernel
  · rw [roundTrip_line _ ("k=".toList ++ List.replicate 256 'a' ++ "\\u4e2d".toList) (by decide +kernel)
      (by decide +kernel) (by decide +kernel)]
    decide +kernel

theorem C17_props_roundtrip_full_refuted : ¬ C17_props_roundtrip_full := by
  intro h
  have := h [("k".toList, "a ".toList)] (by decide)
  revert this
  repeat rw [String.toList_ofList]
  decide +kernel

/-! ## Non-vacuity -/
section Examples

private def m1 : Entries :=
  [("a b".toList, " x: y\t".toList), ("#!=:\\".toList, "\r\n\x0c~".toList), ("k".toList, "中\uffff".toList),
   ("".toList, "".toList)]

example : safeEntries m1 = true ∧ lastValueOk m1 = true := by
  rw [m1]; repeat rw [String.toList_ofList]
  decide +kernel
example : writeProps m1 =
    .ok "a\\ b=\\ x\\:\\ y\\t\n\\#\\!\\=\\:\\\\=\\r\\n\\f~\nk=\\u4e2d\\uffff\n=".toList := by
  rw [m1]; repeat rw [String.toList_ofList]
  decide +kernel
example : roundTrip m1 = .ok m1 := by
  rw [m1]; repeat rw [String.toList_ofList]
  decide +kernel
/-- the reader on a hand-written text: comments, separators, escapes, continuation, CRLF,
    duplicate key, missing value -/
example : loadProps "# c\r\n! d\nk=v\nk2 : v2\nk3 v3\n  k4\\ x  =  v\\u0041\\n\nlong = a\\\n   b\nk=w\nlone".toList =
    .ok [("k".toList, "v".toList), ("k2".toList, "v2".toList), ("k3".toList, "v3".toList),
      ("k4 x".toList, "vA\n".toList), ("long".toList, "ab".toList), ("k".toList, "w".toList),
      ("lone".toList, [])] := by
  repeat rw [String.toList_ofList]
  decide +kernel
example : toMap [("k".toList, "v".toList), ("j".toList, "x".toList), ("k".toList, "w".toList)] =
    [("k".toList, "w".toList), ("j".toList, "x".toList)] := by
  repeat rw [String.toList_ofList]
  decide +kernel
/-- a malformed escape inside a comment fails the whole load; a BOM switches to UTF-8 -/
example : loadProps "# \\u12\nk=v".toList = .error .escape ∧
    loadProps "k=é".toList = .ok [("k".toList, "Ã©".toList)] ∧
    loadProps "\ufeffk=é".toList = .ok [("k".toList, "é".toList)] := by
  refine ⟨?_, ?_, ?_⟩ <;> (repeat rw [String.toList_ofList]) <;> decide +kernel

end Examples

end Duck
