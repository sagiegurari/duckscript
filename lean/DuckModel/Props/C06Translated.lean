/-
  C06 — the hand-written condition evaluator IS (a refinement of) the translation of the current
  source.

  `Generated/ScannerCond.lean` is produced on every run by the Rust→Lean translator
  (bin/rust2lean.py, bin/fragments/scanner_cond.py) from
  `eval_condition_for_slice` in duckscript_sdk/src/utils/condition.rs.  The translation is INDEX
  FAITHFUL: it keeps `start_block`, `index`, the signed `counter`, slices
  `&arguments[start_block..index]` for the recursive call and has an explicit `.panic` outcome
  where Rust would unwind (slice out of range).  The hand-written model `evalSliceF`
  (Sdk/Condition.lean, the one `C06_eval_correct` and all other C06 theorems are about) collects
  the tokens of an open group in `block` and counts with a `Nat`.

  Theorems: for EVERY fuel and token list the translated function answers exactly what the model
  answers — in particular it never panics.  The proof is a refinement
  (Lemmas/CondTranslationLemmas.lean): `CondRel` relates the two states (same flags / accumulators
  / token state, `counter` = the model's as an `Int`, no group open ⇒ counter 0, and while a group
  is open `block = arguments[start_block .. index)`), `condStep_refines` carries it over one
  token, the recursive call on the slice corresponds to `ev block` one fuel level down.
  A change of the Rust function that alters its meaning makes this file fail to check.
-/
import DuckModel.Lemmas.CondTranslationLemmas

namespace Duck
open Duck.Generated

/-- one token: related states step to related results (`cont` / `Ok` / `Err` of the same kind) -/
theorem C06_scanner_translation_step (ev' : List Str → CondOut) (ev : List Str → Except CondErr Bool)
    (hev : ∀ l, ev' l = CondOut.ofExcept (ev l))
    (args : List Str) (g : CondSt) (m : CSt) (a : Str) (rest : List Str)
    (hr : CondRel args g m) (hd : args.drop g.index = a :: rest) :
    CondStepRel args g.index (condStepGen ev' args g a) (cStep ev m a) :=
  condStep_refines ev' ev args g m a rest hev hr hd

/-- the whole loop and the code after it, from the initial states -/
theorem C06_scanner_translation_loop (ev' : List Str → CondOut) (ev : List Str → Except CondErr Bool)
    (hev : ∀ l, ev' l = CondOut.ofExcept (ev l)) (args : List Str) :
    condLoopGen ev' args {} args = CondOut.ofExcept (cLoop ev {} args) :=
  condLoop_refines ev' ev args hev args {} {} (condRel_init args) rfl

/-- the translated `eval_condition_for_slice` computes what the model computes: every fuel,
    every token list -/
theorem C06_scanner_translation (fuel : Nat) (args : List Str) :
    evalSliceGen fuel args = CondOut.ofExcept (evalSliceF fuel args) := by
  induction fuel generalizing args with
  | zero => rfl
  | succ fuel ih =>
    cases args with
    | nil => rfl
    | cons a rest =>
      simp only [evalSliceGen, evalSliceF, List.isEmpty_cons, Bool.false_eq_true, if_false]
      exact C06_scanner_translation_loop (evalSliceGen fuel) (evalSliceF fuel) ih (a :: rest)

/-- with the model's own fuel (nesting is never deeper than the number of tokens) -/
theorem C06_scanner_translation_evalSlice (args : List Str) :
    evalSliceGen (args.length + 1) args = CondOut.ofExcept (evalSlice args) :=
  C06_scanner_translation _ args

/-- the index-faithful translation never reaches a Rust panic: `&arguments[start_block..index]`
    is always in range -/
theorem C06_scanner_translation_no_panic (fuel : Nat) (args : List Str) :
    evalSliceGen fuel args ≠ .panic := by
  rw [C06_scanner_translation]
  cases evalSliceF fuel args <;> simp [CondOut.ofExcept]

/-- read back as a `Result`: the same `Ok` / `Err` -/
def Generated.CondOut.toExcept? : CondOut → Option (Except CondErr Bool)
  | .ok b => some (.ok b)
  | .err e => some (.error e)
  | .panic => none

theorem C06_scanner_translation_result (args : List Str) :
    (evalSliceGen (args.length + 1) args).toExcept? = some (evalSlice args) := by
  rw [C06_scanner_translation_evalSlice]
  cases evalSlice args <;> rfl

/- non-vacuity: the translated function runs (groups, nesting, errors) -/
example : evalSliceGen 5 ["(".toList, "true".toList, "or".toList, "false".toList, ")".toList,
    "and".toList, "(".toList, "(".toList, "0".toList, ")".toList, ")".toList] = .ok false := by decide +kernel
example : evalSliceGen 5 ["(".toList, "x".toList] = .err .missingClose := by decide +kernel
example : evalSliceGen 5 ["x".toList, ")".toList] = .err .unexpectedClose := by decide +kernel
example : evalSliceGen 5 ["(".toList, "a".toList, "b".toList, ")".toList] = .err .unexpectedValue := by decide +kernel

end Duck
