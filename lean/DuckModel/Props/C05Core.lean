/-
  C05 — functions: arguments, return values, early return and scoped isolation.

  Theorems about the transcribed commands of `Sdk/Flow.lean` (`run_call`, `end_fn`, `return`,
  `scope::push/pop`), at full generality: arbitrary nested evaluator `nested`, arbitrary generic-end
  dispatcher `endRec`, arbitrary instruction list `is`, arbitrary state, variables and arguments.

  * `C05_call_binds_args`, `C05_params_lookup`, `C05_params_other` — a call of a defined function
    jumps to the line after `fn`, pushes the call frame and binds `1`..`n` (on top of the caller's
    variables for a plain function, on top of NOTHING for a `<scope>` function).
  * `C05_call_undefined` — calling an undefined name is an error and changes nothing.
  * `C05_return_value`, `C05_return_bare`, `C05_return_scoped`, `C05_return_scoped_bare`,
    `C05_end_function`, `C05_end_function_scoped`, `C05_no_matching_frame_*` — what `return` and
    `end_fn` do with the frame, the output variable and the saved scope.
  * `C05_scoped_isolation` — scoped call, ANY body, `return v`: the caller's variables are exactly
    those before the call plus the output variable.
  * `C05_return_ignores_block_stacks_*` — `return` / `end_fn` neither read nor write the
    if / while / for stacks (why leaving if/while nests through `return` is harmless).
  * KNOWN DEFECT: `C05_return_leaves_for_state`, `C05_fresh_call_counterexample`,
    `C05_fresh_call_refuted` — `return` from inside a for-in body leaves the loop's iteration entry
    on the for stack, so the next call of the same function RESUMES the old iteration instead of
    starting afresh (`r1 = a`, `r2 = b`).

  Corner that the property leaves open, stated precisely in `C05_return_scoped_bare` /
  `C05_end_function_scoped`: a `<scope>` call that ends without a value restores EXACTLY the saved
  variables, so an output variable that held a value before the call holds it again afterwards
  (the runner erased it only in the callee's scope).
-/
import DuckModel.Sdk.Flow
import DuckModel.Spec.Tree
import DuckModel.Lemmas.FunctionLemmas

namespace Duck
open Duck.Fn

section commands
variable (nested : EvalFn)
  (endRec : Cmd → List Str → Option Str → Nat → Vars → Sdk → CmdResult × Vars × Sdk)
  (is : List Instruction)

/-- the frame `run_call` pushes -/
def callFrame (s : Sdk) (fi : FnInfo) (out : Option Str) (line : Nat) : FnCall :=
  { callLine := line, startLine := fi.start, endLine := fi.stop, ctx := s.lineCtx, out := out,
    isScoped := fi.isScoped }

/-- `return` on line `line` belongs to the frame `ci` -/
abbrev RetMatches (ci : FnCall) (line : Nat) (s : Sdk) : Prop :=
  ci.startLine < line ∧ line < ci.endLine ∧ ci.ctx = s.lineCtx

/-- `end_fn` on line `line` belongs to the frame `ci` -/
abbrev EndMatches (ci : FnCall) (line : Nat) (s : Sdk) : Prop :=
  ci.endLine = line ∧ ci.ctx = s.lineCtx

/-! ### 1. the call -/

/-- calling a defined function: jump to the first body line, push the frame, bind `1`..`n`;
    a `<scope>` function starts from the EMPTY variable map and the caller's variables are saved -/
theorem C05_call_binds_args (name : Str) (args : List Str) (out : Option Str) (line : Nat)
    (vars : Vars) (s : Sdk) (fi : FnInfo) (h : s.fns.get name = some fi) :
    runCmd nested endRec is (.call name) args out line vars s =
      (.goTo none (.line (fi.start + 1)),
       Spec.bindParams (if fi.isScoped then [] else vars) args,
       { s with fnStack := callFrame s fi out line :: s.fnStack,
                scopeStack := if fi.isScoped then vars :: s.scopeStack else s.scopeStack }) := by
  simp only [runCmd, h]
  cases hsc : fi.isScoped <;> simp [scopePush_nil, Spec.bindParams, callFrame, hsc]

/-- `${i+1}` is the `i`-th argument -/
theorem C05_params_lookup (base : Vars) (args : List Str) (i : Nat) (h : i < args.length) :
    (Spec.bindParams base args).get (natToStr (i + 1)) = args[i]? := by
  have := get_bindFrom_hit 0 base args i h
  simpa [bindParams_eq] using this

/-- every name that is not one of `1`..`n` keeps its `base` value -/
theorem C05_params_other (base : Vars) (args : List Str) (k : Str)
    (h : ¬ IsParam args.length k) :
    (Spec.bindParams base args).get k = base.get k := by
  rw [bindParams_eq]
  apply get_bindFrom_other
  intro i hi e
  exact h ⟨i, hi, by simpa using e⟩

/-- the parameter names are pairwise different (so the lookups above are unambiguous) -/
theorem C05_param_names_injective (i j : Nat) (h : natToStr (i + 1) = natToStr (j + 1)) : i = j := by
  have := natToStr_inj h
  omega

/-! ### 2. undefined function -/

theorem C05_call_undefined (name : Str) (args : List Str) (out : Option Str) (line : Nat)
    (vars : Vars) (s : Sdk) (h : s.fns.get name = none) :
    runCmd nested endRec is (.call name) args out line vars s = (.error [], vars, s) := by
  simp only [runCmd, h, errR]

/-! ### 3. `return` from a plain function -/

/-- `return v …`: pop the frame, store `v` in the call's output variable, resume after the call
    with `v` as the flow value; nothing else changes -/
theorem C05_return_value (v : Str) (more : List Str) (out : Option Str) (line : Nat) (vars : Vars)
    (s : Sdk) (ci : FnCall) (rest : List FnCall) (hs : s.fnStack = ci :: rest)
    (hm : RetMatches ci line s) (hp : ci.isScoped = false) :
    runCmd nested endRec is .returnC (v :: more) out line vars s =
      (.goTo (some v) (.line (ci.callLine + 1)), Vars.updateOutput vars ci.out (some v),
       { s with fnStack := rest }) := by
  obtain ⟨h1, h2, h3⟩ := hm
  simp only [runCmd, hs, List.head?_cons, h1, h2, h3, hp, and_self, if_true, List.tail_cons,
    List.head?_cons]
  cases ci.out <;> simp [Vars.updateOutput]

/-- bare `return`: pop the frame, ERASE the call's output variable, no flow value -/
theorem C05_return_bare (out : Option Str) (line : Nat) (vars : Vars)
    (s : Sdk) (ci : FnCall) (rest : List FnCall) (hs : s.fnStack = ci :: rest)
    (hm : RetMatches ci line s) (hp : ci.isScoped = false) :
    runCmd nested endRec is .returnC [] out line vars s =
      (.goTo none (.line (ci.callLine + 1)), Vars.updateOutput vars ci.out none,
       { s with fnStack := rest }) := by
  obtain ⟨h1, h2, h3⟩ := hm
  simp only [runCmd, hs, List.head?_cons, h1, h2, h3, hp, and_self, if_true, List.tail_cons]
  cases ci.out <;> simp [Vars.updateOutput]

/-- lookup form: only the output variable changes -/
theorem C05_return_lookup (vars : Vars) (o : Option Str) (v : Option Str) (k : Str) :
    (Vars.updateOutput vars o v).get k = if o = some k then v else vars.get k := by
  cases o with
  | none => simp [Vars.updateOutput]
  | some n =>
    cases v with
    | some x =>
      simp only [Vars.updateOutput, VarScope.get_set, Option.some.injEq]
      by_cases h : k = n
      · subst h; simp
      · have : ¬ n = k := fun e => h e.symm
        simp [h, this]
    | none =>
      simp only [Vars.updateOutput, VarScope.get_erase, Option.some.injEq]
      by_cases h : k = n
      · subst h; simp
      · have : ¬ n = k := fun e => h e.symm
        simp [h, this]

/-! ### 4. `return` from a `<scope>` function -/

/-- `return v …` with the caller's variables `saved` on top of the scope stack: the variables
    afterwards are `saved` plus `out ↦ v` — whatever the body did to the variable map -/
theorem C05_return_scoped (v : Str) (more : List Str) (out : Option Str) (line : Nat) (vars : Vars)
    (s : Sdk) (ci : FnCall) (rest : List FnCall) (saved : Vars) (scopes : List Vars)
    (hs : s.fnStack = ci :: rest) (hsc : s.scopeStack = saved :: scopes)
    (hm : RetMatches ci line s) (hp : ci.isScoped = true) :
    runCmd nested endRec is .returnC (v :: more) out line vars s =
      (.goTo (some v) (.line (ci.callLine + 1)), Vars.updateOutput saved ci.out (some v),
       { s with fnStack := rest, scopeStack := scopes }) := by
  obtain ⟨h1, h2, h3⟩ := hm
  simp only [runCmd, hs, List.head?_cons, h1, h2, h3, hp, and_self, if_true, List.tail_cons]
  cases ci.out with
  | none =>
    rw [scopePop_nil _ _ saved scopes (by simpa using hsc)]
    simp [Vars.updateOutput]
  | some n =>
    rw [scopePop_one _ _ saved scopes n (by simpa using hsc)]
    simp [Vars.updateOutput, VarScope.get_set]

/-- lookup form of `C05_return_scoped` -/
theorem C05_return_scoped_lookup (v : Str) (more : List Str) (out : Option Str) (line : Nat)
    (vars : Vars) (s : Sdk) (ci : FnCall) (rest : List FnCall) (saved : Vars) (scopes : List Vars)
    (hs : s.fnStack = ci :: rest) (hsc : s.scopeStack = saved :: scopes)
    (hm : RetMatches ci line s) (hp : ci.isScoped = true) (k : Str) :
    (runCmd nested endRec is .returnC (v :: more) out line vars s).2.1.get k =
      if ci.out = some k then some v else saved.get k := by
  rw [C05_return_scoped nested endRec is v more out line vars s ci rest saved scopes hs hsc hm hp]
  exact C05_return_lookup saved ci.out (some v) k

/-- bare `return` in a `<scope>` function: the variables afterwards are EXACTLY `saved`.  The
    output variable is erased in the callee's map first, so the copy list `[out]` finds nothing to
    copy: `ci.out` ends up with whatever value the caller had for it before the call
    (`saved.get out`), not "undefined" — the corner the property leaves open. -/
theorem C05_return_scoped_bare (out : Option Str) (line : Nat) (vars : Vars)
    (s : Sdk) (ci : FnCall) (rest : List FnCall) (saved : Vars) (scopes : List Vars)
    (hs : s.fnStack = ci :: rest) (hsc : s.scopeStack = saved :: scopes)
    (hm : RetMatches ci line s) (hp : ci.isScoped = true) :
    runCmd nested endRec is .returnC [] out line vars s =
      (.goTo none (.line (ci.callLine + 1)), saved,
       { s with fnStack := rest, scopeStack := scopes }) := by
  obtain ⟨h1, h2, h3⟩ := hm
  simp only [runCmd, hs, List.head?_cons, h1, h2, h3, hp, and_self, if_true, List.tail_cons]
  cases ci.out with
  | none =>
    rw [scopePop_nil _ _ saved scopes (by simpa using hsc)]
    simp
  | some n =>
    rw [scopePop_one _ _ saved scopes n (by simpa using hsc)]
    simp [VarScope.get_erase]

/-- a `<scope>` frame without a saved scope (cannot arise from `run_call`): error result; the
    frame is gone and the output variable already written -/
theorem C05_return_scoped_no_saved (args : List Str) (out : Option Str) (line : Nat) (vars : Vars)
    (s : Sdk) (ci : FnCall) (rest : List FnCall)
    (hs : s.fnStack = ci :: rest) (hsc : s.scopeStack = [])
    (hm : RetMatches ci line s) (hp : ci.isScoped = true) :
    runCmd nested endRec is .returnC args out line vars s =
      (.error [], Vars.updateOutput vars ci.out args.head?, { s with fnStack := rest }) := by
  obtain ⟨h1, h2, h3⟩ := hm
  simp only [runCmd, hs, List.head?_cons, h1, h2, h3, hp, and_self, if_true, List.tail_cons]
  rw [scopePop_empty _ _ _ (by simpa using hsc)]
  cases ci.out <;> cases args <;> simp [Vars.updateOutput, errR]

/-! ### 5. reaching the end of the function -/

/-- `end_fn` of a plain function: pop the frame, resume after the call, variables untouched -/
theorem C05_end_function (args : List Str) (out : Option Str) (line : Nat) (vars : Vars)
    (s : Sdk) (ci : FnCall) (rest : List FnCall) (hs : s.fnStack = ci :: rest)
    (hm : EndMatches ci line s) (hp : ci.isScoped = false) :
    runCmd nested endRec is .endFunction args out line vars s =
      (.goTo none (.line (ci.callLine + 1)), vars, { s with fnStack := rest }) := by
  obtain ⟨h1, h2⟩ := hm
  simp [runCmd, hs, h1, h2, hp]

/-- `end_fn` of a `<scope>` function: the variables are EXACTLY the saved ones (copy list empty) -/
theorem C05_end_function_scoped (args : List Str) (out : Option Str) (line : Nat) (vars : Vars)
    (s : Sdk) (ci : FnCall) (rest : List FnCall) (saved : Vars) (scopes : List Vars)
    (hs : s.fnStack = ci :: rest) (hsc : s.scopeStack = saved :: scopes)
    (hm : EndMatches ci line s) (hp : ci.isScoped = true) :
    runCmd nested endRec is .endFunction args out line vars s =
      (.goTo none (.line (ci.callLine + 1)), saved,
       { s with fnStack := rest, scopeStack := scopes }) := by
  obtain ⟨h1, h2⟩ := hm
  simp only [runCmd, hs, List.head?_cons, h1, h2, hp, and_self, if_true, List.tail_cons]
  rw [scopePop_nil _ _ saved scopes (by simpa using hsc)]

/-- `return` without a matching frame on top (or with no frame at all) is a no-op -/
theorem C05_no_matching_frame_return (args : List Str) (out : Option Str) (line : Nat)
    (vars : Vars) (s : Sdk) (h : ∀ ci, s.fnStack.head? = some ci → ¬ RetMatches ci line s) :
    runCmd nested endRec is .returnC args out line vars s = (.continue none, vars, s) := by
  simp only [runCmd]
  cases hh : s.fnStack.head? with
  | none => rfl
  | some ci =>
    have := h ci hh
    simp only [RetMatches] at this
    simp [this]

/-- `end_fn` without a matching frame on top (or with no frame at all) is a no-op -/
theorem C05_no_matching_frame_end (args : List Str) (out : Option Str) (line : Nat)
    (vars : Vars) (s : Sdk) (h : ∀ ci, s.fnStack.head? = some ci → ¬ EndMatches ci line s) :
    runCmd nested endRec is .endFunction args out line vars s = (.continue none, vars, s) := by
  simp only [runCmd]
  cases hh : s.fnStack.head? with
  | none => rfl
  | some ci =>
    have := h ci hh
    simp only [EndMatches] at this
    simp [this]

/-! ### 6. scoped isolation (call ∘ any body ∘ return) -/

/-- A `<scope>` call made with variables `vars0`; then ANY body: the variables `bodyVars` and the
    state `s1` at the `return` are arbitrary except that the call's frame and saved scope are on
    top of their stacks and the line context is the same.  The body started from the parameter
    bindings only (no caller variable is visible), and after `return v` the variables are `vars0`
    plus `out ↦ v`, the two stacks are back to what was below. -/
theorem C05_scoped_isolation (name : Str) (args : List Str) (out : Option Str) (callLine : Nat)
    (vars0 : Vars) (s0 : Sdk) (fi : FnInfo)
    (hfi : s0.fns.get name = some fi) (hsc : fi.isScoped = true)
    (bodyVars : Vars) (s1 : Sdk) (frames : List FnCall) (scopes : List Vars)
    (hfn : s1.fnStack = callFrame s0 fi out callLine :: frames)
    (hscope : s1.scopeStack = vars0 :: scopes) (hctx : s1.lineCtx = s0.lineCtx)
    (retLine : Nat) (h1 : fi.start < retLine) (h2 : retLine < fi.stop)
    (v : Str) (more : List Str) (retOut : Option Str) :
    let c := runCmd nested endRec is (.call name) args out callLine vars0 s0
    let r := runCmd nested endRec is .returnC (v :: more) retOut retLine bodyVars s1
    -- the call: parameters only, caller variables saved
    c.1 = .goTo none (.line (fi.start + 1)) ∧
    c.2.1 = Spec.bindParams [] args ∧
    (∀ k, ¬ IsParam args.length k → c.2.1.get k = none) ∧
    c.2.2.fnStack = callFrame s0 fi out callLine :: s0.fnStack ∧
    c.2.2.scopeStack = vars0 :: s0.scopeStack ∧
    -- the return
    r.1 = .goTo (some v) (.line (callLine + 1)) ∧
    (∀ k, r.2.1.get k = if out = some k then some v else vars0.get k) ∧
    r.2.2 = { s1 with fnStack := frames, scopeStack := scopes } := by
  intro c r
  have hc : c = _ := C05_call_binds_args nested endRec is name args out callLine vars0 s0 fi hfi
  have hm : RetMatches (callFrame s0 fi out callLine) retLine s1 :=
    ⟨h1, h2, by simp [callFrame, hctx]⟩
  have hr : r = _ := C05_return_scoped nested endRec is v more retOut retLine bodyVars s1
    (callFrame s0 fi out callLine) frames vars0 scopes hfn hscope hm (by simpa [callFrame] using hsc)
  clear_value c r
  subst hc hr
  refine ⟨rfl, by simp [hsc], ?_, rfl, by simp [hsc], rfl, ?_, rfl⟩
  · intro k hk
    simp only [hsc, if_true]
    rw [C05_params_other [] args k hk]
    rfl
  · intro k
    exact C05_return_lookup vars0 out (some v) k

/-! ### 7. `return` / `end_fn` do not look at the if / while / for stacks -/

/-- replace the three block stacks -/
def withBlockStacks (s : Sdk) (ifS : List IfCall) (whS : List WhileCall) (foS : List ForCall) : Sdk :=
  { s with ifStack := ifS, whileStack := whS, forStack := foS }

/-- not read: running with other block stacks gives the same result, variables and remaining
    state (the block stacks are carried along untouched) -/
theorem C05_return_ignores_block_stacks (c : Cmd) (hc : c = .returnC ∨ c = .endFunction)
    (args : List Str) (out : Option Str) (line : Nat) (vars : Vars) (s : Sdk)
    (ifS : List IfCall) (whS : List WhileCall) (foS : List ForCall) :
    runCmd nested endRec is c args out line vars (withBlockStacks s ifS whS foS) =
      ((runCmd nested endRec is c args out line vars s).1,
       (runCmd nested endRec is c args out line vars s).2.1,
       withBlockStacks (runCmd nested endRec is c args out line vars s).2.2 ifS whS foS) := by
  rcases hc with rfl | rfl
  · simp only [runCmd, withBlockStacks]
    cases s.fnStack.head? with
    | none => rfl
    | some ci =>
      simp only
      by_cases hcond : ci.startLine < line ∧ line < ci.endLine ∧ ci.ctx = s.lineCtx
      · simp only [hcond, and_self, if_true]
        cases hsc : ci.isScoped
        · simp
        · simp only [scopePop, if_true]
          cases s.scopeStack.head? <;> simp
      · simp only [hcond, if_false]
  · simp only [runCmd, withBlockStacks]
    cases s.fnStack.head? with
    | none => rfl
    | some ci =>
      simp only
      by_cases hcond : ci.endLine = line ∧ ci.ctx = s.lineCtx
      · simp only [hcond, and_self, if_true]
        cases hsc : ci.isScoped
        · simp
        · simp only [scopePop, if_true]
          cases s.scopeStack.head? <;> simp
      · simp only [hcond, if_false]

/-- not written: the three block stacks of the result are those of the input -/
theorem C05_return_keeps_block_stacks (c : Cmd) (hc : c = .returnC ∨ c = .endFunction)
    (args : List Str) (out : Option Str) (line : Nat) (vars : Vars) (s : Sdk) :
    (runCmd nested endRec is c args out line vars s).2.2.ifStack = s.ifStack ∧
    (runCmd nested endRec is c args out line vars s).2.2.whileStack = s.whileStack ∧
    (runCmd nested endRec is c args out line vars s).2.2.forStack = s.forStack := by
  -- `s` is `withBlockStacks s` with its own stacks, so the stacks that come out are those put in
  have h : (runCmd nested endRec is c args out line vars s).2.2 =
      withBlockStacks (runCmd nested endRec is c args out line vars s).2.2 s.ifStack s.whileStack s.forStack :=
    congrArg (·.2.2)
      (C05_return_ignores_block_stacks nested endRec is c hc args out line vars s s.ifStack s.whileStack s.forStack)
  exact ⟨(congrArg Sdk.ifStack h).trans rfl, (congrArg Sdk.whileStack h).trans rfl,
    (congrArg Sdk.forStack h).trans rfl⟩

/-! ### 8. the known defect: `return` out of a for-in loop leaves the loop's iteration state -/

/-- `return` leaves the for stack exactly as it is — even when the top entry `fc` is the iteration
    state of a loop INSIDE the returning function (`ci.startLine < fc.start`, `fc.stop < ci.endLine`,
    same line context), i.e. a loop that this `return` has just left for good. -/
theorem C05_return_leaves_for_state (args : List Str) (out : Option Str) (line : Nat)
    (vars : Vars) (s : Sdk) (ci : FnCall) (rest : List FnCall) (fc : ForCall) (fors : List ForCall)
    (_hs : s.fnStack = ci :: rest) (_hm : RetMatches ci line s)
    (_hf : s.forStack = fc :: fors)
    (_hin : ci.startLine < fc.start ∧ fc.stop < ci.endLine ∧ fc.ctx = ci.ctx) :
    (runCmd nested endRec is .returnC args out line vars s).2.2.forStack = fc :: fors := by
  rw [← _hf]
  exact (C05_return_keeps_block_stacks nested endRec is .returnC (Or.inl rfl) args out line vars s).2.2

end commands

/-! ### the witness program -/

/-- a script line from string literals -/
def C05_line (out : Option String) (cmd : String) (args : List String) : ScriptInstr :=
  Spec.mkInstr (out.map String.toList) cmd.toList (args.map String.toList)

/-- ```
    h = array a b c
    fn f
    for i in ${h}
    return ${i}
    end
    end
    r1 = f
    r2 = f
    ``` -/
def C05_witness : List Instruction := Spec.program.go
  [ C05_line (some "h") "array" ["a", "b", "c"],
    C05_line none "fn" ["f"],
    C05_line none "for" ["i", "in", "${h}"],
    C05_line none "return" ["${i}"],
    C05_line none "end" [],
    C05_line none "end" [],
    C05_line (some "r1") "f" [],
    C05_line (some "r2") "f" [] ] 1

/-- The same function called twice with the same argument; `scoped = true` makes the body see
    exactly the same variables (only `1`) in both calls.
    ```
    h = array <items>
    fn [<scope>] f
    for i in ${1}
    return ${i}
    end
    end
    r1 = f ${h}
    r2 = f ${h}
    ``` -/
def C05_twoCalls (sc : Bool) (items : List Str) : List Instruction := Spec.program.go
  [ Spec.mkInstr (some "h".toList) "array".toList items,
    Spec.mkInstr none "fn".toList (if sc then ["<scope>".toList, "f".toList] else ["f".toList]),
    C05_line none "for" ["i", "in", "${1}"],
    C05_line none "return" ["${i}"],
    C05_line none "end" [],
    C05_line none "end" [],
    C05_line (some "r1") "f" ["${h}"],
    C05_line (some "r2") "f" ["${h}"] ] 1

/-- the witness program and the two-call program with a `<scope>` function (on `[a, b, c]` and on the
    empty array), run -/
theorem C05_witness_runs :
    ((interpRun 200 C05_witness [] {}).2 = .reachedEnd ∧
      (interpRun 200 C05_witness [] {}).1.vars.get "r1".toList = some "a".toList ∧
      (interpRun 200 C05_witness [] {}).1.vars.get "r2".toList = some "b".toList ∧
      (interpRun 200 C05_witness [] {}).1.st.forStack =
        [{ iteration := 2, start := 2, stop := 4, ctx := [] }] ∧
      (interpRun 200 C05_witness [] {}).1.st.fnStack = []) ∧
    ((interpRun 200 (C05_twoCalls true ["a".toList, "b".toList, "c".toList]) [] {}).2 = .reachedEnd ∧
      (interpRun 200 (C05_twoCalls true ["a".toList, "b".toList, "c".toList]) [] {}).1.vars.get "r1".toList
        = some "a".toList ∧
      (interpRun 200 (C05_twoCalls true ["a".toList, "b".toList, "c".toList]) [] {}).1.vars.get "r2".toList
        = some "b".toList) ∧
    ((interpRun 200 (C05_twoCalls true []) [] {}).2 = .reachedEnd ∧
      (interpRun 200 (C05_twoCalls true []) [] {}).1.vars.get "r1".toList =
        (interpRun 200 (C05_twoCalls true []) [] {}).1.vars.get "r2".toList) := by
  decide +kernel

/-- the two calls return DIFFERENT elements: the second call resumes the loop the first call left
    (a fresh call would return "a" twice); the stale entry is still on the for stack at the end -/
theorem C05_fresh_call_counterexample :
    (interpRun 200 C05_witness [] {}).2 = .reachedEnd ∧
    (interpRun 200 C05_witness [] {}).1.vars.get "r1".toList = some "a".toList ∧
    (interpRun 200 C05_witness [] {}).1.vars.get "r2".toList = some "b".toList ∧
    (interpRun 200 C05_witness [] {}).1.st.forStack =
      [{ iteration := 2, start := 2, stop := 4, ctx := [] }] ∧
    (interpRun 200 C05_witness [] {}).1.st.fnStack = [] :=
  C05_witness_runs.1

/-- "every later call starts afresh": in the two-call program family (any array content, plain or
    `<scope>` function) both calls — same function, same argument — give the same result.
    FALSE for the implementation, see `C05_fresh_call_refuted`. -/
def C05_fresh_call_statement : Prop :=
  ∀ (sc : Bool) (items : List Str) (fuel : Nat),
    (interpRun fuel (C05_twoCalls sc items) [] {}).2 = .reachedEnd →
    (interpRun fuel (C05_twoCalls sc items) [] {}).1.vars.get "r1".toList =
      (interpRun fuel (C05_twoCalls sc items) [] {}).1.vars.get "r2".toList

theorem C05_fresh_call_scoped_counterexample :
    (interpRun 200 (C05_twoCalls true ["a".toList, "b".toList, "c".toList]) [] {}).2 = .reachedEnd ∧
    (interpRun 200 (C05_twoCalls true ["a".toList, "b".toList, "c".toList]) [] {}).1.vars.get "r1".toList
      = some "a".toList ∧
    (interpRun 200 (C05_twoCalls true ["a".toList, "b".toList, "c".toList]) [] {}).1.vars.get "r2".toList
      = some "b".toList :=
  C05_witness_runs.2.1

theorem C05_fresh_call_refuted : ¬ C05_fresh_call_statement := by
  intro h
  have h' := h true ["a".toList, "b".toList, "c".toList] 200
  obtain ⟨h0, h1, h2⟩ := C05_fresh_call_scoped_counterexample
  rw [h1, h2] at h'
  exact absurd (h' h0) (by decide)

/-- state form of "starts afresh": after a `return`, no iteration entry of a loop inside the
    function that has just returned is left on the for stack.  FALSE, by
    `C05_return_leaves_for_state`. -/
def C05_return_cleans_loops_statement : Prop :=
  ∀ (nested : EvalFn)
    (endRec : Cmd → List Str → Option Str → Nat → Vars → Sdk → CmdResult × Vars × Sdk)
    (is : List Instruction) (args : List Str) (out : Option Str) (line : Nat) (vars : Vars) (s : Sdk)
    (ci : FnCall) (rest : List FnCall), s.fnStack = ci :: rest → RetMatches ci line s →
    ∀ fc ∈ (runCmd nested endRec is .returnC args out line vars s).2.2.forStack,
      ¬ (ci.startLine < fc.start ∧ fc.stop < ci.endLine ∧ fc.ctx = ci.ctx)

theorem C05_return_cleans_loops_refuted : ¬ C05_return_cleans_loops_statement := by
  intro h
  let ci : FnCall := { callLine := 6, startLine := 1, endLine := 5, ctx := [], out := none, isScoped := false }
  let fc : ForCall := { iteration := 1, start := 2, stop := 4, ctx := [] }
  let s : Sdk := { fnStack := [ci], forStack := [fc] }
  have hm : RetMatches ci 3 s := by decide
  have hin : ci.startLine < fc.start ∧ fc.stop < ci.endLine ∧ fc.ctx = ci.ctx := by decide
  have hl := C05_return_leaves_for_state (fun _ _ v s => (none, none, v, s))
    (fun _ _ _ _ v s => (.continue none, v, s)) [] [] none 3 [] s ci [] fc [] rfl hm rfl hin
  exact h _ _ [] [] none 3 [] s ci [] rfl hm fc (by rw [hl]; simp) hin

/-! ### 9. non-vacuity: every hypothesis set above is satisfiable -/

section nonvacuity

def exFi : FnInfo := { start := 1, stop := 5, isScoped := true }
def exS0 : Sdk := { fns := [("f".toList, exFi)] }
def exFrame (sc : Bool) : FnCall :=
  { callLine := 6, startLine := 1, endLine := 5, ctx := [], out := some "r".toList, isScoped := sc }

/-- `C05_call_binds_args` -/
example : ∃ (s : Sdk) (name : Str) (fi : FnInfo), s.fns.get name = some fi :=
  ⟨exS0, "f".toList, exFi, by decide⟩
/-- `C05_params_lookup` -/
example : ∃ (args : List Str) (i : Nat), i < args.length := ⟨["x".toList], 0, by decide⟩
/-- `C05_params_other`: "x" is not a parameter name of a two-argument call -/
example : ¬ IsParam 2 "x".toList := by
  rintro ⟨i, hi, e⟩
  have : i = 0 ∨ i = 1 := by omega
  rcases this with rfl | rfl <;> exact absurd e (by decide)
/-- `C05_call_undefined` -/
example : (exS0.fns.get "g".toList) = none := by decide
/-- `C05_return_value`, `C05_return_bare`, `C05_return_scoped_no_saved` -/
example : ∃ s ci rest line, s.fnStack = ci :: rest ∧ RetMatches ci line s ∧ ci.isScoped = false ∧
    s.scopeStack = [] :=
  ⟨{ fnStack := [exFrame false] }, exFrame false, [], 3, rfl, by decide, rfl, rfl⟩
/-- `C05_return_scoped`, `C05_return_scoped_bare`, `C05_return_scoped_lookup` -/
example : ∃ s ci rest saved scopes line, s.fnStack = ci :: rest ∧ s.scopeStack = saved :: scopes ∧
    RetMatches ci line s ∧ ci.isScoped = true :=
  ⟨{ fnStack := [exFrame true], scopeStack := [[("x".toList, "1".toList)]] }, exFrame true, [], _, [], 3,
    rfl, rfl, by decide, rfl⟩
/-- `C05_end_function` -/
example : ∃ s ci rest line, s.fnStack = ci :: rest ∧ EndMatches ci line s ∧ ci.isScoped = false :=
  ⟨{ fnStack := [exFrame false] }, exFrame false, [], 5, rfl, by decide, rfl⟩
/-- `C05_end_function_scoped` -/
example : ∃ s ci rest saved scopes line, s.fnStack = ci :: rest ∧ s.scopeStack = saved :: scopes ∧
    EndMatches ci line s ∧ ci.isScoped = true :=
  ⟨{ fnStack := [exFrame true], scopeStack := [[]] }, exFrame true, [], [], [], 5, rfl, rfl, by decide, rfl⟩
/-- `C05_no_matching_frame_*`: empty stack, and a frame of another function -/
example : ∀ ci, ({} : Sdk).fnStack.head? = some ci → ¬ RetMatches ci 3 {} := by
  intro ci h; simp at h
example : ∀ ci, ({ fnStack := [exFrame false] } : Sdk).fnStack.head? = some ci →
    ¬ EndMatches ci 9 { fnStack := [exFrame false] } := by
  intro ci h
  simp only [List.head?_cons, Option.some.injEq] at h
  subst h
  decide
/-- `C05_scoped_isolation`: the hypotheses hold for the state right after the call itself -/
example : ∃ (s1 : Sdk) (frames : List FnCall) (scopes : List Vars) (vars0 : Vars) (retLine : Nat),
    exS0.fns.get "f".toList = some exFi ∧ exFi.isScoped = true ∧
    s1.fnStack = callFrame exS0 exFi (some "r".toList) 6 :: frames ∧
    s1.scopeStack = vars0 :: scopes ∧ s1.lineCtx = exS0.lineCtx ∧
    exFi.start < retLine ∧ retLine < exFi.stop :=
  ⟨{ exS0 with fnStack := [callFrame exS0 exFi (some "r".toList) 6], scopeStack := [[("x".toList, "1".toList)]] },
    [], [], _, 3, by decide, rfl, rfl, rfl, rfl, by decide, by decide⟩

/-- `C05_return_leaves_for_state`: see the state built in `C05_return_cleans_loops_refuted`; the
    witness run reaches such a state at its first `return` -/
example : ∃ (s : Sdk) (ci : FnCall) (rest : List FnCall) (fc : ForCall) (fors : List ForCall)
    (line : Nat), s.fnStack = ci :: rest ∧ RetMatches ci line s ∧
    s.forStack = fc :: fors ∧ (ci.startLine < fc.start ∧ fc.stop < ci.endLine ∧ fc.ctx = ci.ctx) :=
  ⟨{ fnStack := [exFrame false], forStack := [{ iteration := 1, start := 2, stop := 4, ctx := [] }] },
    exFrame false, [], _, [], 3, rfl, by decide, rfl, by decide⟩
/-- `C05_fresh_call_statement`: its premise (the run reaches the end) holds for the witness, and
    for the empty array both calls agree (so the statement is not trivially false either) -/
example : (interpRun 200 (C05_twoCalls true []) [] {}).2 = .reachedEnd ∧
    (interpRun 200 (C05_twoCalls true []) [] {}).1.vars.get "r1".toList =
      (interpRun 200 (C05_twoCalls true []) [] {}).1.vars.get "r2".toList :=
  C05_witness_runs.2.2

end nonvacuity

end Duck
