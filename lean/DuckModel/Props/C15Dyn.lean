/-
  C15 ∘ C03: the registry invariant along RUNS in which commands change the command table.

  `DynScripted.lean` is the command semantics of the `runm` correspondence stream: commands
  register and remove commands (`reg`, `unreg`: `Commands::set` / `Commands::remove` through
  `CommandInvocationContext.commands`) while the runner executes a script, and one Context goes
  from run to run.  The theorems say that whatever the scripts do - any texts, any queue of
  command results, any number of runs - no alias of the returned command table ever points to a
  command that is gone (C15's invariant, here for every reachable state of the RUNNER, not only
  for histories of direct API calls).
-/
import DuckModel.DynScripted
import DuckModel.Lemmas.RegistryLemmas
import DuckModel.Lemmas.RunnerLemmas

namespace Duck
open Reg

/-- what a command invocation can do to the command table: nothing, or one `Commands::set`
    (`reg`), or one `Commands::remove` (`unreg`) -/
theorem dynSem_reg_cases {name : Str} {args : List Str} {out : Option Str} {line : Nat}
    {vars vars' : Vars} {s s' : DynSt} {r : CmdResult}
    (h : dynSem name args out line vars s = some (r, vars', s')) :
    s'.reg = s.reg ∨ (∃ c, s'.reg = (s.reg.set c).1) ∨ ∃ n, s'.reg = (s.reg.remove n).1 := by
  unfold dynSem at h
  dsimp only at h
  repeat' split at h
  all_goals cases h
  -- every branch of `dynSem` is one of the three
  all_goals first | exact .inl rfl | exact .inr (.inl ⟨_, rfl⟩) | exact .inr (.inr ⟨_, rfl⟩)

theorem C15_dyn_command_inv (name : Str) (args : List Str) (out : Option Str) (line : Nat)
    (vars vars' : Vars) (s s' : DynSt) (r : CmdResult)
    (h : dynSem name args out line vars s = some (r, vars', s')) (hi : s.reg.InvP) :
    s'.reg.InvP := by
  rcases dynSem_reg_cases h with e | ⟨c, e⟩ | ⟨n, e⟩ <;> rw [e]
  · exact hi
  · exact invP_set _ _ hi
  · exact invP_remove _ _ hi

theorem C15_dyn_instruction_inv (vars : Vars) (s : DynSt) (i : Instruction) (line : Nat)
    (hi : s.reg.InvP) : (runInstruction dynSem vars s i line).2.2.2.reg.InvP :=
  runInstruction_inv (P := fun s => s.reg.InvP) (C15_dyn_command_inv _ _ _ _ _ _ _ _ _) vars s i line hi

theorem C15_dyn_on_error_inv (vars : Vars) (s : DynSt) (e : Str) (mi : Meta)
    (hi : s.reg.InvP) : (runOnError dynSem vars s e mi).2.2.reg.InvP :=
  runOnError_inv (P := fun s => s.reg.InvP) (C15_dyn_command_inv _ _ _ _ _ _ _ _ _) vars s e mi hi

/-- the invariant on what one iteration of the runner's loop returns (go on / ended) -/
def StepInv : RunState DynSt ⊕ (RunState DynSt × RunEnd) → Prop
  | .inl rs' => rs'.st.reg.InvP
  | .inr p => p.1.st.reg.InvP

theorem C15_dyn_step_inv (is : List Instruction) (labels : List (Str × Nat)) (rs : RunState DynSt)
    (hi : rs.st.reg.InvP) : StepInv (runStep dynSem is labels dynHalt rs) := by
  have h := runStep_inv (sem := dynSem) (P := fun s => s.reg.InvP) (C15_dyn_command_inv _ _ _ _ _ _ _ _ _) is labels dynHalt rs hi
  cases hs : runStep dynSem is labels dynHalt rs with
  | inl rs' => rw [hs] at h; exact h
  | inr p => rw [hs] at h; exact h

theorem C15_dyn_loop_inv (is : List Instruction) (labels : List (Str × Nat)) (fuel : Nat)
    (rs : RunState DynSt) (hi : rs.st.reg.InvP) :
    (runLoop dynSem is labels dynHalt fuel rs).1.st.reg.InvP :=
  runLoop_inv (P := fun s => s.reg.InvP) (C15_dyn_command_inv _ _ _ _ _ _ _ _ _) is labels dynHalt fuel rs hi

/-- EVERY RUN: whatever the script, the queue of results, the variables and the fuel, the command
    table the run hands back has no dangling alias -/
theorem C15_dyn_run_no_dangling (fuel : Nat) (is : List Instruction) (vars : Vars) (s : DynSt)
    (hi : s.reg.InvP) : (run dynSem dynHalt fuel is vars s).1.st.reg.InvP :=
  C15_dyn_loop_inv is (labelTable is) fuel _ hi

/-- the embedder's registrations before the first run keep it -/
theorem C15_dyn_register_inv (cs : List CmdSpec) (r : Reg) (hi : r.InvP) : (dynRegister r cs).InvP := by
  induction cs generalizing r with
  | nil => exact hi
  | cons c cs ih => exact ih _ (invP_set r c hi)

/-- EVERY HISTORY OF RUNS on one Context (`dynRuns`): scripts as texts (parse errors included),
    each run starting from the state the previous one returned -/
theorem C15_dyn_runs_no_dangling (fuel : Nat) (texts : List Str) (vars : Vars) (s : DynSt)
    (hi : s.reg.InvP) : (dynRuns fuel texts vars s).2.reg.InvP := by
  induction texts generalizing vars s with
  | nil => exact hi
  | cons t rest ih =>
    unfold dynRuns
    cases hrun : runScript dynSem dynHalt fuel t vars s with
    | error e => exact hi
    | ok p =>
      obtain ⟨rs, e⟩ := p
      have h : rs.st.reg.InvP := by
        unfold runScript at hrun
        cases hp : parseText t with
        | error pe => rw [hp] at hrun; cases hrun
        | ok is =>
          rw [hp] at hrun
          simp only [Except.ok.injEq] at hrun
          have := C15_dyn_run_no_dangling fuel is vars s hi
          rw [hrun] at this
          exact this
      cases e with
      | fail msg mi => exact h
      | outOfFuel => exact h
      | exitCalled => exact ih _ _ h
      | reachedEnd => exact ih _ _ h
      | halted => exact ih _ _ h

/-- from the registrations of the `runm` stream: the invariant holds after any history -/
theorem C15_dyn_history_no_dangling (fuel : Nat) (cs : List CmdSpec) (queue : List CmdResult)
    (texts : List Str) (vars : Vars) :
    (dynRuns fuel texts vars { queue := queue, reg := dynRegister {} cs }).2.reg.InvP :=
  C15_dyn_runs_no_dangling fuel texts vars _ (C15_dyn_register_inv cs {} invP_empty)

/-- … and the alias-first resolution the log shows: the command that runs for a written word is
    the one its alias entry names, if there is one -/
theorem C15_dyn_resolution (s : DynSt) (word target : Str) (h : s.reg.aliases.get word = some target) :
    s.reg.get word = s.reg.commands.get target := by
  rw [Reg.get_eq, Reg.resolve_of_alias_some h]

/- non-vacuity: a run in which a command registers `on_error` and a later error reaches it -/
example :
    let st : DynSt := { queue := [.error "boom".toList], reg := dynRegister {} [⟨"reg".toList, [], 0⟩, ⟨"c1".toList, ["k".toList], 0⟩] }
    ((dynRuns 100 ["reg on_error\nk".toList] [] st).2.log.map (·.name)) =
      ["reg".toList, "c1".toList, "on_error".toList] := by decide +kernel

end Duck
