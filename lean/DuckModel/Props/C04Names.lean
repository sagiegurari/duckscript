/-
  C04 / C05 — the interpreter model resolves the straight-line SDK commands it knows by
  exactly the spellings the source registers (regenerated on every run), and the flow-control
  commands by exactly the spellings of the regenerated keyword tables.
-/
import DuckModel.Lemmas.NamesLemmas

namespace Duck
open Duck.Generated Duck.Spec

/-- every registered spelling of set / equals / not / array / range resolves to that command,
    and the model knows no further spelling of them -/
theorem C04_straightline_names :
    (∀ n, n ∈ cmdNamesSet ↔ resolveCmd {} n = some .set) ∧
    (∀ n, n ∈ cmdNamesEquals ↔ resolveCmd {} n = some .equals) ∧
    (∀ n, n ∈ cmdNamesNot ↔ resolveCmd {} n = some .notC) ∧
    (∀ n, n ∈ cmdNamesArray ↔ resolveCmd {} n = some .array) ∧
    (∀ n, n ∈ cmdNamesRange ↔ resolveCmd {} n = some .range) :=
  ⟨fun _ => (resolveCmd_iff (c := .set)).symm, fun _ => (resolveCmd_iff (c := .equals)).symm,
    fun _ => (resolveCmd_iff (c := .notC)).symm, fun _ => (resolveCmd_iff (c := .array)).symm,
    fun _ => (resolveCmd_iff (c := .range)).symm⟩

/-- every spelling of a flow-control keyword resolves to its command -/
theorem C04_flow_names (k : Str) :
    (isIfKw k = true → resolveCmd {} k = some .ifC) ∧
    (isElifKw k = true → resolveCmd {} k = some .elseIf) ∧
    (isElseKw k = true → resolveCmd {} k = some .elseC) ∧
    (namesEndIfCommand.contains k = true → resolveCmd {} k = some .endIf) ∧
    (isWhileKw k = true → resolveCmd {} k = some .whileC) ∧
    (namesEndWhileCommand.contains k = true → resolveCmd {} k = some .endWhile) ∧
    (isForKw k = true → resolveCmd {} k = some .forIn) ∧
    (namesEndForInCommand.contains k = true → resolveCmd {} k = some .endFor) ∧
    (isFnKw k = true → resolveCmd {} k = some .function) ∧
    (namesEndFunctionCommand.contains k = true → resolveCmd {} k = some .endFunction) ∧
    (namesReturnCommand.contains k = true → resolveCmd {} k = some .returnC) ∧
    (k = endWord → resolveCmd {} k = some .endC) :=
  ⟨(resolve_kw .ifC · {}), (resolve_kw .elseIf · {}), (resolve_kw .elseC · {}),
    (resolve_kw .endIf · {}), (resolve_kw .whileC · {}), (resolve_kw .endWhile · {}),
    (resolve_kw .forIn · {}), (resolve_kw .endFor · {}), (resolve_kw .function · {}),
    (resolve_kw .endFunction · {}), (resolve_kw .returnC · {}),
    fun h => (resolveCmd_iff (c := .endC)).mpr (List.mem_singleton.mpr h)⟩

end Duck
