/-
  C15 — the command registry is a consistent name/alias map.
  This file: the public `Commands` API.  The script-level commands (alias, unalias,
  remove_command, is_command_defined, fn): Props/C15Script.lean (theorems `C15_script_…`).
  Props/C15Translated.lean: the methods of `impl Commands` as TRANSLATED from the current source
  (Generated/RegistryFns.lean, over an abstract finite map) compute what this model computes
  (theorems `C15_registry_translation_<method>`).  Props/C15Dyn.lean: the invariant along runs whose
  commands change the command table.  This file imports the three so that the target
  `DuckModel.Props.C15` builds all of C15.
-/
import DuckModel.Registry
import DuckModel.Lemmas.RegistryLemmas
import DuckModel.Props.C15Script
import DuckModel.Props.C15Dyn
import DuckModel.Props.C15Translated

namespace Duck

/-- registry invariant: every alias points to a registered command that lists it, and
    every command is stored under its own name -/
def Reg.Inv (r : Reg) : Prop :=
  (∀ a m, r.aliases.get a = some m → ∃ c, r.commands.get m = some c ∧ a ∈ c.aliases) ∧
  (∀ m c, r.commands.get m = some c → c.name = m)

/-- a registration is refused exactly when its name is a registered name or one of its
    aliases is a registered alias -/
theorem C15_refused_iff (r : Reg) (c : CmdSpec) :
    (r.set c).2 = false ↔
      (r.commands.get c.name).isSome = true ∨ ∃ a ∈ c.aliases, (r.aliases.get a).isSome = true := by
  rcases Reg.set_cases r c with ⟨hc, e⟩ | ⟨⟨hn, ha⟩, e⟩
  · rw [e]; simpa using hc
  · rw [e]
    constructor
    · intro h; cases h
    · rintro (h | ⟨a, hm, h⟩)
      · simp [hn] at h
      · simp [ha a hm] at h

/-- a refused registration leaves the registry exactly as it was -/
theorem C15_refused_unchanged (r : Reg) (c : CmdSpec) (h : (r.set c).2 = false) :
    (r.set c).1.commands = r.commands ∧ (r.set c).1.aliases = r.aliases := by
  rw [Reg.set_false r c h]
  exact ⟨rfl, rfl⟩

/-- an accepted registration makes the command reachable under its name and every alias -/
theorem C15_accepted_reachable (r : Reg) (c : CmdSpec) (h : (r.set c).2 = true) :
    (r.set c).1.get c.name = some c ∧ ∀ a ∈ c.aliases, (r.set c).1.get a = some c := by
  rcases Reg.set_cases r c with ⟨_, e⟩ | ⟨_, e⟩
  · rw [e] at h; cases h
  · rw [e]
    have found : ∀ a, a ∈ c.aliases ∨ a = c.name → (r.setOk c).get a = some c := fun a ha => by
      rw [Reg.get_eq, Reg.setOk_resolve_of_mem r c ha, Reg.setOk_commands_get, if_pos rfl]
    exact ⟨found _ (.inr rfl), fun a ha => found a (.inl ha)⟩

-- the frame property needs no invariant: `hinv` is not used
set_option linter.unusedVariables false in
/-- an accepted registration does not disturb any other name: lookups of names that are
    neither the new name nor one of the new aliases are unchanged -/
theorem C15_accepted_frame (r : Reg) (c : CmdSpec) (h : (r.set c).2 = true) (hinv : r.Inv)
    (n : Str) (hn : n ≠ c.name) (ha : n ∉ c.aliases) (hr : r.resolve n ≠ c.name) :
    (r.set c).1.get n = r.get n := by
  rcases Reg.set_cases r c with ⟨_, e⟩ | ⟨_, e⟩
  · rw [e] at h; cases h
  · rw [e]
    exact Reg.setOk_get_other r c n hn ha hr

/-- lookups consult the alias table first -/
theorem C15_alias_first (r : Reg) (a m : Str) (h : r.aliases.get a = some m) :
    r.get a = r.commands.get m := by
  rw [Reg.get_eq, Reg.resolve_of_alias_some h]

/-- removing a command (by name or alias) removes it together with exactly the aliases that
    point to it, and nothing else -/
theorem C15_remove_exact (r : Reg) (n : Str) (c : CmdSpec) (hinv : r.Inv)
    (hc : r.get n = some c) :
    (r.remove n).2 = true ∧
    (∀ m, (r.remove n).1.commands.get m = if m = c.name then none else r.commands.get m) ∧
    (∀ a, (r.remove n).1.aliases.get a =
      if r.aliases.get a = some c.name then none else r.aliases.get a) := by
  have hk : r.commands.get (r.resolve n) = some c := by rw [← Reg.get_eq]; exact hc
  have hname : c.name = r.resolve n := hinv.2 _ _ hk
  rw [Reg.remove_some r n c hk]
  refine ⟨rfl, ?_, ?_⟩
  · intro m
    simp only [Reg.removeOk_commands_get, hname]
  · intro a
    simp only [Reg.removeOk_aliases_get]
    by_cases hcond : r.aliases.get a = some c.name
    · obtain ⟨c', hc', hac'⟩ := hinv.1 a c.name hcond
      rw [hname, hk] at hc'
      cases hc'
      simp [hcond, hac']
    · simp [hcond]

/-- removing an unknown name changes nothing -/
theorem C15_remove_unknown (r : Reg) (n : Str) (h : r.get n = none) :
    (r.remove n).2 = false ∧ (r.remove n).1.commands = r.commands ∧
      (r.remove n).1.aliases = r.aliases := by
  have hk : r.commands.get (r.resolve n) = none := by rw [← Reg.get_eq]; exact h
  rw [Reg.remove_none r n hk]
  exact ⟨rfl, rfl, rfl⟩

/-- the invariant is preserved by every operation -/
theorem C15_inv_step (r : Reg) (op : RegOp) (h : r.Inv) : (r.apply op).1.Inv :=
  Reg.apply_induction Reg.invP_set Reg.invP_remove r op h

/-- after any history no alias points to a command that is gone -/
theorem C15_no_dangling (ops : List RegOp) (a m : Str)
    (h : ((Reg.run {} ops).1).aliases.get a = some m) :
    (((Reg.run {} ops).1).commands.get m).isSome = true := by
  obtain ⟨c, hc, _⟩ := (Reg.invP_run {} ops Reg.invP_empty).1 a m h
  simp [hc]

/-- `get_all_command_names` lists exactly the registered names -/
theorem C15_names_complete (r : Reg) (n : Str) :
    n ∈ r.names ↔ (r.commands.get n).isSome = true := by
  unfold Reg.names
  rw [Reg.mem_sortStrs, KV.get_isSome_iff_mem]

/-- `get_all_command_names` is sorted (no later element is strictly below an earlier one) -/
theorem C15_names_sorted (r : Reg) :
    (r.names).Pairwise (fun a b => Reg.strLt b a = false) :=
  Reg.pairwise_sortStrs _

/-- every registry reachable from the empty one satisfies the invariant -/
theorem C15_invariant_reachable (ops : List RegOp) : ((Reg.run {} ops).1).Inv :=
  Reg.invP_run {} ops Reg.invP_empty

/-- `Reg.InvP` (Lemmas/RegistryLemmas.lean) has the very body of `Reg.Inv`: it is there for the
    lemma files and for Props/C15Script.lean, which this file imports.  The theorems above state
    `Reg.Inv` and are proved by the `invP_…` lemmas through this definitional equality. -/
theorem C15_inv_iff_invP (r : Reg) : r.Inv ↔ r.InvP := Iff.rfl

/-! ### non-vacuity -/

section Examples

private def cA : CmdSpec := { name := "a".toList, aliases := ["x".toList], tag := 1 }
private def cX : CmdSpec := { name := "x".toList, aliases := [], tag := 2 }
private def cC : CmdSpec := { name := "c".toList, aliases := ["x".toList], tag := 3 }

/-- the history `set a[x]; set x[]; set c[x]; remove a` -/
private def hist : List RegOp := [.set cA, .set cX, .set cC, .remove "a".toList]

/-- `set x[]` is accepted although `x` is an alias of `a` (and wipes that alias), so `set c[x]`
    is accepted as well; after `remove a` the alias `x ↦ c` is still in place -/
example : (Reg.run {} hist).2 = [.bool true, .bool true, .bool true, .bool true] := by decide
example : (Reg.run {} hist).1.aliases.get "x".toList = some "c".toList := by decide
example : (Reg.run {} hist).1.get "x".toList = some cC := by decide
example : (Reg.run {} hist).1.get "a".toList = none := by decide
example : (Reg.run {} hist).1.names = ["c".toList, "x".toList] := by decide

/-- a refused registration (alias clash) and a removal through an alias -/
example : (Reg.run {} [.set cA, .set cC, .remove "x".toList, .names]).2 =
    [.bool true, .bool false, .bool true, .names []] := by decide

/-- a concrete non-empty registry satisfying the invariant -/
example : (Reg.set {} cA).1.Inv ∧ (Reg.set {} cA).1.get "x".toList = some cA :=
  ⟨C15_inv_step {} (.set cA) Reg.invP_empty, by decide⟩

/-- the invariant is not trivially true: a dangling alias violates it -/
example : ¬ Reg.Inv { commands := [], aliases := [("x".toList, "a".toList)] } := by
  intro h
  obtain ⟨c, hc, _⟩ := h.1 "x".toList "a".toList (by decide)
  simp at hc

end Examples

end Duck
