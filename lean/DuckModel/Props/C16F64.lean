/-
  C16 — `less_than` and `greater_than` agree with numeric order: what is true of a command that
  parses both arguments as IEEE-754 binary64 (`str::parse::<f64>`) and compares with `<` / `>`.

  Model: Sdk/F64.lean (literal grammar of Rust's `dec2flt`; the denoted rational rounded to the
  nearest binary64, ties to even, gradual underflow, overflow to infinity; IEEE comparison).
  Numeric order: Spec/F64Order.lean (`Lit.exactLt`: cross-multiplication over `Int`, ±infinity at
  the ends, nothing about floating point).

  In order: the rounding function (monotone, results are binary64 values, binary64 values are
  returned unchanged, within half a unit in the last place with ties to even, no 53-bit value nearer,
  the reader's overflow / underflow shortcuts change nothing); the reader accepts exactly the
  literal grammar of `dec2flt` (Spec/F64Grammar.lean); the two commands: always an answer, never a
  numerically false `true`, the numeric order exactly on binary64 values, on integers up to 2^53 and
  on plain decimals of at most 15 digits; why the full statement fails (2^53 + 1 rounds to 2^53);
  NaN, the infinities, the two zeros.
-/
import DuckModel.Sdk.Strings
import DuckModel.Spec.F64Order
import DuckModel.Spec.F64Grammar
import DuckModel.Lemmas.F64Lemmas
import DuckModel.Lemmas.F64GrammarLemmas

namespace Duck
open Duck.Strings Duck.F64

/-! ### the rounding function -/

/-- Round-to-nearest-even into binary64 is monotone: for signed fractions
    ±a₁/d₁ ≤ ±a₂/d₂ (cross-multiplied over `Int`), the rounded values are in IEEE order `≤`
    (−0 = +0, ±infinity at the ends) -/
theorem C16_f64_round_monotone (n1 n2 : Bool) (a1 d1 a2 d2 : Nat) (h1 : 0 < d1) (h2 : 0 < d2)
    (h : sgn n1 a1 * (d2 : Int) ≤ sgn n2 a2 * (d1 : Int)) :
    (roundToF64 n1 a1 d1).le (roundToF64 n2 a2 d2) = true :=
  round_monotone n1 n2 a1 d1 a2 d2 h1 h2 h

-- `roundToF64` kept folded, as at `roundToF64_canonical` (Lemmas/F64Lemmas.lean)
attribute [local irreducible] roundToF64 in
/-- every result is a binary64 value: never NaN; ±infinity, or ± m · 2^e with m < 2^53,
    −1074 ≤ e ≤ 971, and m < 2^52 only at e = −1074 (subnormals, zeros) -/
theorem C16_f64_round_canonical (neg : Bool) (num den : Nat) (hd : 0 < den) :
    (roundToF64 neg num den).Canonical ∧ (roundToF64 neg num den).isNan = false :=
  ⟨roundToF64_canonical neg num den hd, roundToF64_not_nan neg num den⟩

/-- a fraction that IS a finite binary64 value (num/den = M · 2^F / 2^1074, M < 2^53, below
    2^1024) is returned unchanged -/
theorem C16_f64_round_representable (neg : Bool) (num den M F : Nat) (hd : 0 < den) (hM : M < 2 ^ 53)
    (hB : M * 2 ^ F < 2 ^ 2098) (hv : num * 2 ^ 1074 = M * 2 ^ F * den) :
    (roundToF64 neg num den).key = sgn neg (M * 2 ^ F) := by
  rw [key_roundToF64 _ _ _ hd, hv, roundVal_exact M F den hM hd, Nat.min_eq_left (Nat.le_of_lt hB)]

/-- nearest: the rounded magnitude `v · 2^E` (scaled by 2^1074; `v` the integer mantissa, `2^E` the
    unit in the last place) is within half a unit of the exact fraction N/d, and an exact tie goes to
    the even mantissa -/
theorem C16_f64_round_half_ulp (N d : Nat) (hd : 0 < d) :
    let E := scaleExp N d
    let v := rne N (d * 2 ^ E)
    2 * v * (d * 2 ^ E) ≤ 2 * N + d * 2 ^ E ∧ 2 * N ≤ 2 * v * (d * 2 ^ E) + d * 2 ^ E ∧
    (2 * v * (d * 2 ^ E) = 2 * N + d * 2 ^ E → v % 2 = 0) ∧
    (2 * N = 2 * v * (d * 2 ^ E) + d * 2 ^ E → v % 2 = 0) ∧
    roundVal N d = v * 2 ^ E :=
  ⟨(rne_bounds N _ (Nat.mul_pos hd (Nat.two_pow_pos _))).1,
   (rne_bounds N _ (Nat.mul_pos hd (Nat.two_pow_pos _))).2.1,
   (rne_bounds N _ (Nat.mul_pos hd (Nat.two_pow_pos _))).2.2.1,
   (rne_bounds N _ (Nat.mul_pos hd (Nat.two_pow_pos _))).2.2.2, rfl⟩

/-- Correct rounding.  Scaled by 2^1074 every finite binary64 magnitude is a natural M · 2^F with
    M < 2^53; `roundVal N d` (the magnitude `roundToF64` returns for N / d = num · 2^1074 / den,
    before the overflow test: `key_roundToF64`) is such a natural, and no other one - in particular
    no other double - is closer to N / d.  Distances are multiplied by d.  Together with
    `C16_f64_round_half_ulp` (exact ties go to the even mantissa) and IEEE's definition of overflow
    (round as if the exponent range were unbounded, then test against 2^1024) this IS
    roundTiesToEven. -/
theorem C16_f64_round_nearest (N d M F : Nat) (hd : 0 < d) (hM : M < 2 ^ 53) :
    ((N : Int) - ((roundVal N d * d : Nat) : Int)).natAbs ≤
      ((N : Int) - ((M * 2 ^ F * d : Nat) : Int)).natAbs := by
  have hg := grid_gap N d M F hd hM
  have hc := rne_cases N (d * 2 ^ scaleExp N d)
  have hx : roundVal N d * d = rne N (d * 2 ^ scaleExp N d) * (d * 2 ^ scaleExp N d) := by
    unfold roundVal; ring
  rw [hx]
  have hD : 0 < d * 2 ^ scaleExp N d := Nat.mul_pos hd (Nat.two_pow_pos _)
  have hN : d * 2 ^ scaleExp N d * (N / (d * 2 ^ scaleExp N d)) + N % (d * 2 ^ scaleExp N d) = N :=
    Nat.div_add_mod N _
  have hr : N % (d * 2 ^ scaleExp N d) < d * 2 ^ scaleExp N d := Nat.mod_lt N hD
  generalize d * 2 ^ scaleExp N d = D at *
  generalize M * 2 ^ F * d = Y at *
  generalize N / D = k at *
  generalize N % D = r at *
  have e1 : (k + 1) * D = k * D + D := by ring
  have e2 : D * k = k * D := Nat.mul_comm _ _
  rw [e1] at hg
  rw [e2] at hN
  rcases hc with ⟨hv, ht, _⟩ | ⟨hv, ht, _⟩ <;> rw [hv]
  · generalize k * D = KD at *
    omega
  · rw [e1]
    generalize k * D = KD at *
    omega

/-- the key (value · 2^1074) of a rounded fraction is the signed `roundVal`, capped at the key of
    infinity: the link between `roundToF64` and the `Nat`-level statements above -/
theorem C16_f64_round_key (neg : Bool) (num den : Nat) (hd : 0 < den) :
    (roundToF64 neg num den).key = sgn neg (min (roundVal (num * 2 ^ 1074) den) (2 ^ 2098)) ∧
    (roundToF64 neg num den = .inf neg ↔ 2 ^ 2098 ≤ roundVal (num * 2 ^ 1074) den) :=
  ⟨key_roundToF64 neg num den hd, (roundToF64_inf_iff neg num den hd).symm⟩

/-- the reader's shortcuts (zero mantissa; exponent > 400 = overflow; value < 10^-400 = underflow)
    return exactly what rounding the exact rational returns -/
theorem C16_f64_clamp_exact (l : Lit) : l.toF64 = l.toF64Exact := toF64_eq_exact l

/-! ### the reader: exactly the literal grammar (Spec/F64Grammar.lean) -/

/-- A text is accepted exactly when it is a well-formed numeric literal - optional sign,
    digits with an optional point and fraction (at least one digit overall), optional exponent
    `e|E [+-] digits+` - or a signed `nan` / `inf` / `infinity` in any casing; the value read is the
    literal's denotation: ± (mantissa digits as one integer) · 10^(exponent − number of fraction
    digits).  Everything else - the empty text, blanks, `_`, hex, a lone sign or point, a missing
    exponent, two signs - is rejected. -/
theorem C16_f64_grammar (s : Str) (l : Lit) :
    parseLit s = some l ↔ ((∃ c : NumCst, c.WF ∧ s = c.render ∧ l = c.denote) ∨ WordLit s l) := by
  constructor
  · exact parseLit_complete s l
  · rintro (⟨c, hwf, rfl, rfl⟩ | hw)
    · exact parseLit_render c hwf
    · exact parseLit_word hw

/-! ### the two commands -/

/-- both commands always answer: a boolean when both arguments are literals, the error result
    otherwise - no input is left unmodelled -/
theorem C16_f64_compare_total (a b : Str) :
    (∃ la lb, parseLit a = some la ∧ parseLit b = some lb ∧
      lessThan [a, b] = .bool (F64.lt la.toF64 lb.toF64) ∧
      greaterThan [a, b] = .bool (F64.lt lb.toF64 la.toF64)) ∨
    ((parseLit a = none ∨ parseLit b = none) ∧ lessThan [a, b] = .err ∧ greaterThan [a, b] = .err) := by
  cases ha : parseLit a with
  | none => exact .inr ⟨.inl rfl, compare_unparsed (.inl ha)⟩
  | some la =>
    cases hb : parseLit b with
    | none => exact .inr ⟨.inr rfl, compare_unparsed (.inr hb)⟩
    | some lb => exact .inl ⟨la, lb, rfl, rfl, compare_parsed ha hb⟩

/-- anything `str::parse::<f64>` rejects gives the error result -/
theorem C16_f64_compare_non_numeric (a b : Str) (h : parseLit a = none ∨ parseLit b = none) :
    lessThan [a, b] = .err ∧ greaterThan [a, b] = .err :=
  compare_unparsed h

/-- Soundness, for all literals (any length, any exponent, infinities; a NaN never compares true):
    the commands never claim an order that is numerically false.
    `less_than a b = true` implies value a < value b as exact rationals (a literal that overflows
    keeps its rational value here: `1e400` is 10^400, not infinity); value a < value b implies
    `greater_than a b = false`; and symmetrically. -/
theorem C16_f64_less_than_sound (a b : Str) (la lb : Lit)
    (ha : parseLit a = some la) (hb : parseLit b = some lb) :
    (lessThan [a, b] = .bool true → la.exactLt lb) ∧
    (la.exactLt lb → greaterThan [a, b] = .bool false) ∧
    (greaterThan [a, b] = .bool true → lb.exactLt la) ∧
    (lb.exactLt la → lessThan [a, b] = .bool false) := by
  obtain ⟨hl, hg⟩ := compare_parsed ha hb
  have asym : ∀ x y : Lit, x.exactLt y → F64.lt y.toF64 x.toF64 = false := fun x y hxy =>
    Bool.eq_false_iff.mpr fun hyx => Lit.exactLt_asymm hxy (lit_lt_sound y x hyx)
  refine ⟨?_, ?_, ?_, ?_⟩
  · intro h; rw [hl] at h; exact lit_lt_sound la lb (by simpa using h)
  · intro h; rw [hg, asym la lb h]
  · intro h; rw [hg] at h; exact lit_lt_sound lb la (by simpa using h)
  · intro h; rw [hl, asym lb la h]

/-- Exact on binary64-representable literals (every finite double written out exactly, in any
    spelling: integers up to 2^53, dyadic fractions, `inf`): the answer is the numeric order -/
theorem C16_f64_compare_exact (a b : Str) (la lb : Lit)
    (ha : parseLit a = some la) (hb : parseLit b = some lb)
    (ra : la.Representable) (rb : lb.Representable) :
    lessThan [a, b] = .bool (decide (la.exactLt lb)) ∧
    greaterThan [a, b] = .bool (decide (lb.exactLt la)) := by
  obtain ⟨hl, hg⟩ := compare_parsed ha hb
  rw [hl, hg, lit_lt_exact la lb ra rb, lit_lt_exact lb la rb ra]
  exact ⟨rfl, rfl⟩

/-- integer literals (what `str::parse::<i64>` accepts) of magnitude at most 2^53: the two
    commands decide the integer order.  The bound is sharp (`C16_f64_ties`). -/
theorem C16_f64_compare_int (a b : Str) (v w : Int)
    (ha : parseInt a = some v) (hb : parseInt b = some w)
    (hv : v.natAbs ≤ 2 ^ 53) (hw : w.natAbs ≤ 2 ^ 53) :
    lessThan [a, b] = .bool (decide (v < w)) ∧ greaterThan [a, b] = .bool (decide (v > w)) := by
  obtain ⟨n1, x, hx, hxv, _⟩ := parseLit_of_parseInt ha
  obtain ⟨n2, y, hy, hyw, _⟩ := parseLit_of_parseInt hb
  rw [← hxv, natAbs_sgn] at hv
  rw [← hyw, natAbs_sgn] at hw
  obtain ⟨hl, hg⟩ := C16_f64_compare_exact a b _ _ hx hy
    (int_representable n1 x hv) (int_representable n2 y hw)
  rw [hl, hg]
  constructor
  · congr 1; exact decide_eq_decide.mpr (by rw [exactLt_int, hxv, hyw])
  · congr 1; exact decide_eq_decide.mpr (by rw [exactLt_int, hxv, hyw])

/-- integer literals of at most 15 characters: a corollary, 10^15 ≤ 2^53 -/
theorem C16_f64_compare_int15 (a b : Str) (v w : Int)
    (ha : parseInt a = some v) (hb : parseInt b = some w)
    (hla : a.length ≤ 15) (hlb : b.length ≤ 15) :
    lessThan [a, b] = .bool (decide (v < w)) ∧ greaterThan [a, b] = .bool (decide (v > w)) := by
  obtain ⟨n1, x, _, hxv, hx⟩ := parseLit_of_parseInt ha
  obtain ⟨n2, y, _, hyw, hy⟩ := parseLit_of_parseInt hb
  have h15 : (10 : Nat) ^ 15 ≤ 2 ^ 53 := by decide
  have p1 : (10 : Nat) ^ a.length ≤ 10 ^ 15 := Nat.pow_le_pow_right (by decide) hla
  have p2 : (10 : Nat) ^ b.length ≤ 10 ^ 15 := Nat.pow_le_pow_right (by decide) hlb
  refine C16_f64_compare_int a b v w ha hb ?_ ?_
  · rw [← hxv, natAbs_sgn]; omega
  · rw [← hyw, natAbs_sgn]; omega

/-- Exact on plain decimals with at most 15 significant digits, at most 15 of them after the point
    (± m / 10^s, m < 10^15, s ≤ 15 - the class `DBL_DIG = 15` speaks about): the answer
    is the numeric order.  Such values are in general not binary64 values (0.1); the proof is that
    rounding is strictly monotone on the class: two distinct members differ by more than 10^-15
    relative, a unit in the last place is at most 2^-52 relative, and 10^15 + 1 < 2^52. -/
theorem C16_f64_compare_decimal15 (a b : Str) (la lb : Lit)
    (ha : parseLit a = some la) (hb : parseLit b = some lb)
    (ca : la.Decimal15) (cb : lb.Decimal15) :
    lessThan [a, b] = .bool (decide (la.exactLt lb)) ∧
    greaterThan [a, b] = .bool (decide (lb.exactLt la)) := by
  obtain ⟨hl, hg⟩ := compare_parsed ha hb
  rw [hl, hg, lit_lt_decimal15 la lb ca cb, lit_lt_decimal15 lb la cb ca]
  exact ⟨rfl, rfl⟩

/-! ### why the full statement is false: ties -/

/-- the full statement of the property: on all non-NaN literals the answer is the numeric order -/
def C16_compare_order_full : Prop :=
  ∀ (a b : Str) (la lb : Lit), parseLit a = some la → parseLit b = some lb → la ≠ .nan → lb ≠ .nan →
    lessThan [a, b] = .bool (decide (la.exactLt lb))

/-- 2^53 + 1 lies halfway between the doubles 2^53 and 2^53 + 2 and rounds to the even mantissa,
    2^53: the command says that 9007199254740992 is NOT less than 9007199254740993
    (the real command says the same: harness fixed cases `close-numbers`) -/
theorem C16_f64_ties :
    lessThan ["9007199254740992".toList, "9007199254740993".toList] = .bool false ∧
    greaterThan ["9007199254740993".toList, "9007199254740992".toList] = .bool false ∧
    parseF64 "9007199254740993".toList = some (.fin false (2 ^ 52) 1) ∧
    parseF64 "9007199254740992".toList = some (.fin false (2 ^ 52) 1) := by
  rw [String.toList_ofList, String.toList_ofList]; decide +kernel

/-- `less_than` does not agree with numeric order on all literals -/
theorem C16_f64_compare_order_full_refuted : ¬ C16_compare_order_full := by
  intro h
  have := h "9007199254740992".toList "9007199254740993".toList
    (.dec false 9007199254740992 0) (.dec false 9007199254740993 0)
    (by decide +kernel) (by decide +kernel) (by simp) (by simp)
  rw [C16_f64_ties.1] at this
  have hlt : (Lit.dec false 9007199254740992 0).exactLt (.dec false 9007199254740993 0) := by decide
  simp [hlt] at this

/-! ### NaN, infinities, zeros -/

/-- a NaN on either side: both commands answer `false` -/
theorem C16_f64_nan (a b : Str) (la lb : Lit) (ha : parseLit a = some la) (hb : parseLit b = some lb)
    (h : la = .nan ∨ lb = .nan) :
    lessThan [a, b] = .bool false ∧ greaterThan [a, b] = .bool false := by
  obtain ⟨hl, hg⟩ := compare_parsed ha hb
  rw [hl, hg]
  rcases h with h | h <;> subst h <;> simp [Lit.toF64, F64.lt, F64.isNan]

/-- nothing is below −infinity or above +infinity; −infinity is below +infinity -/
theorem C16_f64_inf_ends (a b : Str) (l : Lit) (ha : parseLit a = some l) :
    (parseLit b = some (.inf true) → lessThan [a, b] = .bool false ∧ greaterThan [b, a] = .bool false) ∧
    (parseLit b = some (.inf false) → greaterThan [a, b] = .bool false ∧ lessThan [b, a] = .bool false) ∧
    (parseLit a = some (.inf true) → parseLit b = some (.inf false) →
      lessThan [a, b] = .bool true ∧ greaterThan [b, a] = .bool true) := by
  have hB := bigKey_pos
  -- against an infinity only its sign can make the comparison true
  have key : ∀ n, (F64.lt (.inf n) l.toF64 = true → n = true) ∧ (F64.lt l.toF64 (.inf n) = true → n = false) := by
    intro n
    by_cases hl : l = .nan
    · subst hl; simp [Lit.toF64, lt_nan_left, lt_nan_right]
    · exact lt_inf_sound _ n (toF64_key_bounds l hl)
  refine ⟨fun hb => ?_, fun hb => ?_, fun ha' hb => ?_⟩
  · rw [(compare_parsed ha hb).1, (compare_parsed hb ha).2]
    have : F64.lt l.toF64 (.inf true) = false := Bool.eq_false_iff.mpr fun h => by cases (key true).2 h
    exact ⟨congrArg _ this, congrArg _ this⟩
  · rw [(compare_parsed ha hb).2, (compare_parsed hb ha).1]
    have : F64.lt (.inf false) l.toF64 = false := Bool.eq_false_iff.mpr fun h => by cases (key false).1 h
    exact ⟨congrArg _ this, congrArg _ this⟩
  · rw [(compare_parsed ha' hb).1, (compare_parsed hb ha').2]
    have : F64.lt (Lit.inf true).toF64 (Lit.inf false).toF64 = true := by
      rw [lt_eq_of_not_nan _ _ rfl rfl]
      show decide ((F64.inf true).key < (F64.inf false).key) = true
      rw [key_inf, key_inf]; simp; omega
    exact ⟨congrArg _ this, congrArg _ this⟩

/-- −0 and +0, in any spelling (`-0`, `0e5`, `-.0`, …), are equal: neither is less or greater -/
theorem C16_f64_signed_zero (a b : Str) (n1 n2 : Bool) (e1 e2 : Int)
    (ha : parseLit a = some (.dec n1 0 e1)) (hb : parseLit b = some (.dec n2 0 e2)) :
    lessThan [a, b] = .bool false ∧ greaterThan [a, b] = .bool false := by
  obtain ⟨hl, hg⟩ := compare_parsed ha hb
  rw [hl, hg]
  simp [Lit.toF64, F64.lt, F64.key]

/-! ### non-vacuity (kernel-evaluated on the model; the same literals are harness fixed cases) -/

-- a string literal is `String.ofList` of its characters; rewriting with `String.toList_ofList`
-- exposes them to the evaluation

-- grammar
example : parseLit "5.".toList = some (.dec false 5 0) := by
  rw [String.toList_ofList]; decide +kernel
example : parseLit ".5".toList = some (.dec false 5 (-1)) := by
  rw [String.toList_ofList]; decide +kernel
example : parseLit "+.5e-3".toList = some (.dec false 5 (-4)) := by
  rw [String.toList_ofList]; decide +kernel
example : parseLit "-1.25E+2".toList = some (.dec true 125 0) := by
  rw [String.toList_ofList]; decide +kernel
example : parseLit "iNfInItY".toList = some (.inf false) := by
  rw [String.toList_ofList]; decide +kernel
example : parseLit "-NaN".toList = some .nan := by
  rw [String.toList_ofList]; decide +kernel
example : ["", " 1", "1 ", "1e", "1e+", ".e1", ".", "+", "1_0", "0x10", "١", "infinit", "+-1"].all
    (fun s => parseLit s.toList == none) = true := by decide +kernel
example : (NumCst.mk (some true) "1".toList (some "25".toList) (some (true, some false, "2".toList))).render
    = "-1.25E+2".toList := by decide
example : (NumCst.mk (some true) "1".toList (some "25".toList) (some (true, some false, "2".toList))).denote
    = .dec true 125 0 := by decide
example : (NumCst.mk (some true) "1".toList (some "25".toList) (some (true, some false, "2".toList))).WF :=
  ⟨by decide, by decide, by decide, fun up es ed h => by cases h; exact ⟨by decide, by decide⟩⟩
example : WordLit "-iNfInItY".toList (.inf true) :=
  WordLit.inf (some true) "iNfInItY".toList (Or.inr (by decide +kernel))
-- rounding: ties to even in both directions, subnormals, underflow, overflow threshold
example : parseF64 "9007199254740995".toList = some (.fin false (2 ^ 52 + 2) 1) := by
  rw [String.toList_ofList]; decide +kernel
example : parseF64 "0.1".toList = some (.fin false 0x1999999999999a (-56)) := by
  rw [String.toList_ofList]; decide +kernel
example : parseF64 "5e-324".toList = some (.fin false 1 (-1074)) := by
  rw [String.toList_ofList]; decide +kernel
example : parseF64 "2.4703282292062327e-324".toList = some (.fin false 0 (-1074)) := by
  rw [String.toList_ofList]; decide +kernel
example : parseF64 "2.4703282292062328e-324".toList = some (.fin false 1 (-1074)) := by
  rw [String.toList_ofList]; decide +kernel
example : parseF64 "-1e-400".toList = some (.fin true 0 (-1074)) := by
  rw [String.toList_ofList]; decide +kernel
example : parseF64 "2.2250738585072011e-308".toList = some (.fin false (2 ^ 52 - 1) (-1074)) := by
  rw [String.toList_ofList]; decide +kernel
example : parseF64 "2.2250738585072014e-308".toList = some (.fin false (2 ^ 52) (-1074)) := by
  rw [String.toList_ofList]; decide +kernel
example : parseF64 "1.7976931348623157e308".toList = some (.fin false (2 ^ 53 - 1) 971) := by
  rw [String.toList_ofList]; decide +kernel
example : parseF64 "1.7976931348623158e308".toList = some (.fin false (2 ^ 53 - 1) 971) := by
  rw [String.toList_ofList]; decide +kernel
example : parseF64 "1.797693134862315807e308".toList = some (.fin false (2 ^ 53 - 1) 971) := by
  rw [String.toList_ofList]; decide +kernel
example : parseF64 "1.797693134862315808e308".toList = some (.inf false) := by
  rw [String.toList_ofList]; decide +kernel
example : parseF64 "1e99999999999".toList = some (.inf false) := by
  rw [String.toList_ofList]; decide +kernel
example : parseF64 "1e-99999999999".toList = some (.fin false 0 (-1074)) := by
  rw [String.toList_ofList]; decide +kernel
example : parseF64 "0e99999999999".toList = some (.fin false 0 (-1074)) := by
  rw [String.toList_ofList]; decide +kernel
example : (F64.fin false (2 ^ 53 - 1) 971).bits = some 0x7fefffffffffffff := by decide +kernel
-- the commands
example : lessThan ["1e5".toList, "2".toList] = .bool false := by
  rw [String.toList_ofList, String.toList_ofList]; decide +kernel
example : lessThan ["-inf".toList, "-1.7976931348623157e308".toList] = .bool true := by
  rw [String.toList_ofList, String.toList_ofList]; decide +kernel
example : lessThan ["-inf".toList, "-1e400".toList] = .bool false := by
  rw [String.toList_ofList, String.toList_ofList]; decide +kernel   -- both −infinity
example : lessThan ["1e400".toList, "inf".toList] = .bool false := by
  rw [String.toList_ofList, String.toList_ofList]; decide +kernel
example : lessThan ["-0".toList, "0e5".toList] = .bool false := by
  rw [String.toList_ofList, String.toList_ofList]; decide +kernel
example : greaterThan ["nan".toList, "1".toList] = .bool false := by
  rw [String.toList_ofList, String.toList_ofList]; decide +kernel
example : lessThan ["0.1".toList, "0.1000000000000000055511151231257827".toList] = .bool false := by
  rw [String.toList_ofList, String.toList_ofList]; decide +kernel
example : lessThan ["0.3".toList, "0.30000000000000004".toList] = .bool true := by
  rw [String.toList_ofList, String.toList_ofList]; decide +kernel
example : lessThan ["abc".toList, "2".toList] = .err := by
  rw [String.toList_ofList, String.toList_ofList]; decide +kernel
-- hypotheses of the theorems are satisfiable: a representable non-integer, the sound direction
example : (Lit.dec false 375 (-3)).Representable := ⟨3, 1071, by decide, by decide +kernel, by decide +kernel⟩
example : (Lit.dec false 1 (-1)).exactLt (.dec false 10000000000000001 (-17)) := by decide
example : parseLit "0.10".toList = some (.dec false 10 (-2)) ∧ (Lit.dec false 10 (-2)).Decimal15 ∧
    parseLit "-999999999999.999".toList = some (.dec true 999999999999999 (-3)) ∧
    (Lit.dec true 999999999999999 (-3)).Decimal15 := by
  refine ⟨by decide +kernel, ⟨by decide, by decide, by decide⟩, by decide +kernel, ⟨by decide, by decide, by decide⟩⟩
-- beyond 15 digits strictness fails: two 17-digit decimals, one double
example : lessThan ["0.10000000000000000".toList, "0.10000000000000001".toList] = .bool false := by
  rw [String.toList_ofList, String.toList_ofList]; decide +kernel

end Duck
