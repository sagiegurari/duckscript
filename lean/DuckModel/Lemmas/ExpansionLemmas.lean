/-
  The expansion model (Expansion.lean) on written templates (Spec/Template.lean): the scanner over
  a literal, a `${name}`, a `\${name}` and a whole template; `expand` of a template and of a
  spread; `reparse_arguments` on plain text is word splitting; `bind` of templates and spreads.
-/
import DuckModel.Expansion
import DuckModel.Spec.Template
import DuckModel.Lemmas.PvLemmas

namespace Duck
open Duck.Spec

/-! ### the scanner on the parts of a template -/

theorem xStep_plain (vars : Vars) (o : Str) (c : Char) (h1 : c ≠ '$') (h2 : c ≠ '%')
    (h3 : c ≠ '\\') : xStep vars { out := o } c = { out := o ++ [c] } := by
  simp [xStep, h1, h2, h3]

theorem xFold_lit (vars : Vars) (t o : Str) (h : LitOK t) :
    t.foldl (xStep vars) { out := o } = { out := o ++ t } := by
  induction t generalizing o with
  | nil => simp
  | cons c t ih =>
    obtain ⟨h1, h2, h3⟩ := h c (by simp)
    rw [List.foldl_cons, xStep_plain vars o c h1 h2 h3, ih _ (fun x hx => h x (by simp [hx]))]
    simp

theorem shouldBreakKey_false {c : Char} (h2 : c ≠ ' ') (h3 : c ≠ '=') (h4 : c ≠ '\t')
    (h5 : c ≠ '\r') (h6 : c ≠ '\n') : shouldBreakKey c = false := by
  simp [shouldBreakKey, h2, h3, h4, h5, h6]

theorem xFold_key (vars : Vars) (n o k : Str) (s : Bool) (h : KeyOK n) :
    n.foldl (xStep vars) { out := o, foundPrefix := true, key := k, singleType := s } =
      { out := o, foundPrefix := true, key := k ++ n, singleType := s } := by
  induction n generalizing k with
  | nil => simp
  | cons c t ih =>
    obtain ⟨h1, h2, h3, h4, h5, h6⟩ := h c (by simp)
    have hb := shouldBreakKey_false h2 h3 h4 h5 h6
    rw [List.foldl_cons]
    have : xStep vars { out := o, foundPrefix := true, key := k, singleType := s } c =
        { out := o, foundPrefix := true, key := k ++ [c], singleType := s } := by
      simp [xStep, h1, hb]
    rw [this, ih _ (fun x hx => h x (by simp [hx]))]
    simp

/-- a reference `${n}` (`single`) or `%{n}`: the value of `n` goes to the output; the spread form
    clears the single-type flag -/
theorem xFold_ref (vars : Vars) (single : Bool) (n o : Str) (h : KeyOK n) :
    ((if single then '$' else '%') :: '{' :: (n ++ ['}'])).foldl (xStep vars) { out := o } =
      { out := o ++ (vars.get n).getD [], singleType := single } := by
  rw [List.foldl_cons, List.foldl_cons, List.foldl_append]
  have h1 : xStep vars (xStep vars { out := o } (if single then '$' else '%')) '{' =
      { out := o, foundPrefix := true, key := [], singleType := single } := by
    cases single <;> simp [xStep]
  rw [h1, xFold_key vars n o [] single h]
  simp [xStep]

theorem xFold_escVar (vars : Vars) (n o : Str) (h : LitOK n) :
    ('\\' :: '$' :: '{' :: (n ++ ['}'])).foldl (xStep vars) { out := o } =
      { out := o ++ '$' :: '{' :: (n ++ ['}']) } := by
  rw [List.foldl_cons, List.foldl_cons, List.foldl_cons, List.foldl_append]
  have h1 : xStep vars (xStep vars (xStep vars { out := o } '\\') '$') '{' =
      { out := o ++ ['$', '{'] } := by
    simp [xStep]
  rw [h1, xFold_lit vars n _ h]
  simp [xStep]

theorem xFold_seg (vars : Vars) (s : Seg) (o : Str) (h : s.OK) :
    s.render.foldl (xStep vars) { out := o } = { out := o ++ s.value vars } := by
  cases s with
  | lit t => exact xFold_lit vars t o h
  | var n => exact xFold_ref vars true n o h
  | escVar n => exact xFold_escVar vars n o h.2

theorem xFold_template (vars : Vars) (t : List Seg) (o : Str) (h : ∀ s ∈ t, s.OK) :
    (renderTemplate t).foldl (xStep vars) { out := o } = { out := o ++ tmplValue vars t } := by
  induction t generalizing o with
  | nil => simp [renderTemplate, tmplValue]
  | cons s t ih =>
    have ih' := ih (o ++ s.value vars) (fun x hx => h x (by simp [hx]))
    simp only [renderTemplate, tmplValue, List.flatMap_cons, List.foldl_append] at ih' ⊢
    rw [xFold_seg vars s o (h s (by simp)), ih']
    simp

theorem xFinish_plain (o : Str) (s : Bool) :
    xFinish { out := o, singleType := s } = (o, s) := by
  simp [xFinish]

theorem expand_template (vars : Vars) (t : List Seg) (h : ∀ s ∈ t, s.OK) :
    expand vars (renderTemplate t) =
      (if tmplValue vars t = [] then Expanded.none else Expanded.single (tmplValue vars t)) := by
  have := xFold_template vars t [] h
  simp only [List.nil_append] at this
  unfold expand
  rw [this, xFinish_plain]
  cases tmplValue vars t <;> simp

theorem expand_spread (vars : Vars) (n : Str) (hn : KeyOK n) :
    expand vars (renderSpread n) =
      (match vars.get n with
       | none => Expanded.multi []
       | some v =>
         if v = [] then Expanded.multi []
         else match reparseArguments v with
           | .ok (some vs) => Expanded.multi vs
           | .ok none => Expanded.multi []
           | .error _ => Expanded.none) := by
  unfold expand
  have e : (renderSpread n).foldl (xStep vars) {} =
      { out := (vars.get n).getD [], singleType := false } := by
    simpa [renderSpread] using xFold_ref vars false n [] hn
  rw [e, xFinish_plain]
  cases hv : vars.get n with
  | none => simp
  | some v =>
    cases v with
    | nil => simp
    | cons c t =>
      simp
      cases reparseArguments (c :: t) with
      | error e => rfl
      | ok r => cases r <;> rfl


/-! ### `reparse_arguments` on plain text is word splitting -/

/-- the characters of the word at the start of `l` -/
def takeWord (l : Str) : Str := l.takeWhile (fun c => c != ' ')
/-- what follows the word at the start of `l` (starts with a space or is empty) -/
def dropWord (l : Str) : Str := l.dropWhile (fun c => c != ' ')

theorem takeWord_nil : takeWord [] = [] := rfl
theorem dropWord_nil : dropWord [] = [] := rfl
theorem takeWord_space (t : Str) : takeWord (' ' :: t) = [] := by simp [takeWord]
theorem dropWord_space (t : Str) : dropWord (' ' :: t) = ' ' :: t := by simp [dropWord]
theorem takeWord_cons {c : Char} (t : Str) (h : c ≠ ' ') : takeWord (c :: t) = c :: takeWord t := by
  simp [takeWord, h]
theorem dropWord_cons {c : Char} (t : Str) (h : c ≠ ' ') : dropWord (c :: t) = dropWord t := by
  simp [dropWord, h]

theorem dropWord_length_le (l : Str) : (dropWord l).length ≤ l.length := by
  induction l with
  | nil => simp [dropWord]
  | cons c t ih =>
    by_cases h : c = ' '
    · subst h; simp [dropWord_space]
    · rw [dropWord_cons t h]; simp; omega

theorem plain_tail {c : Char} {t : Str} (h : SpreadPlain (c :: t)) : SpreadPlain t :=
  fun x hx => h x (by simp [hx])

theorem plain_dropWord {l : Str} (h : SpreadPlain l) : SpreadPlain (dropWord l) :=
  fun x hx => h x ((List.dropWhile_sublist _).mem hx)

/-- the loop-then-finish part of `parseNextValue` -/
def pvRun (fl : PVFlags) (st : PVSt) (l : Str) : Except PErr (Str × Option Str) :=
  match pvLoop fl st l with
  | .error e => .error e
  | .ok (st, rest, fe) => pvFinish st rest fe

theorem parseNextValue_eq_pvRun (fl : PVFlags) (l : Str) : parseNextValue fl l = pvRun fl {} l :=
  parseNextValue_eq fl l

/-- one plain character that is not a space goes into the argument, whether one is open or not -/
theorem pvLoop_word_char (cur : Str) (b : Bool) (c : Char) (t : Str) (hs : c ≠ ' ')
    (hq : c ≠ '"') (hh : c ≠ '#') :
    pvLoop (argFlags true) { arg := cur, inArg := b } (c :: t) =
      pvLoop (argFlags true) { arg := cur ++ [c], inArg := true } t := by
  rw [pvLoop]
  by_cases hb : c = '\\'
  · subst hb; cases b <;> simp [pvStep, argFlags]
  · cases b <;> simp [pvStep, argFlags, hb, hs, hh, hq]

/-- inside an unquoted word of plain text -/
theorem pvRun_word (l cur : Str) (h : SpreadPlain l) (hc : cur ≠ []) :
    pvRun (argFlags true) { arg := cur, inArg := true } l =
      .ok (dropWord l, some (cur ++ takeWord l)) := by
  induction l generalizing cur with
  | nil =>
    cases cur with
    | nil => exact absurd rfl hc
    | cons a b => simp [pvRun, pvLoop, pvFinish, takeWord, dropWord]
  | cons c t ih =>
    obtain ⟨hq, hh⟩ := h c (by simp)
    by_cases hs : c = ' '
    · subst hs
      cases cur with
      | nil => exact absurd rfl hc
      | cons a b => simp [pvRun, pvLoop, pvStep, pvFinish, argFlags, takeWord_space, dropWord_space]
    · have hstep := pvLoop_word_char cur true c t hs hq hh
      have := ih (cur ++ [c]) (plain_tail h) (by simp)
      unfold pvRun at this ⊢
      rw [hstep, this, takeWord_cons t hs, dropWord_cons t hs]
      simp

/-- `parseNextValue` on plain text: skip spaces, take a word -/
theorem parseNextValue_plain (l : Str) (h : SpreadPlain l) :
    parseNextValue (argFlags true) l =
      (match l.dropWhile (fun c => c == ' ') with
       | [] => .ok ([], none)
       | c :: t => .ok (dropWord t, some (c :: takeWord t))) := by
  rw [parseNextValue_eq_pvRun]
  induction l with
  | nil => simp [pvRun, pvLoop, pvFinish]
  | cons c t ih =>
    obtain ⟨hq, hh⟩ := h c (by simp)
    by_cases hs : c = ' '
    · subst hs
      have : pvRun (argFlags true) {} (' ' :: t) = pvRun (argFlags true) {} t := by
        simp [pvRun, pvLoop, pvStep]
      rw [this, ih (plain_tail h)]
      simp
    · have hstep : pvLoop (argFlags true) {} (c :: t) =
          pvLoop (argFlags true) { arg := [c], inArg := true } t :=
        pvLoop_word_char [] false c t hs hq hh
      have := pvRun_word t [c] (plain_tail h) (by simp)
      unfold pvRun at this ⊢
      rw [hstep, this]
      simp [hs]

/-! `Spec.words` in the same shape -/

theorem words_go_word (l cur : Str) (hc : cur ≠ []) :
    words.go l cur = (cur ++ takeWord l) :: words.go (dropWord l) [] := by
  induction l generalizing cur with
  | nil =>
    cases cur with
    | nil => exact absurd rfl hc
    | cons a b => simp [words.go, takeWord, dropWord]
  | cons c t ih =>
    by_cases hs : c = ' '
    · subst hs
      cases cur with
      | nil => exact absurd rfl hc
      | cons a b => simp [words.go, takeWord_space, dropWord_space]
    · rw [words.go, if_neg hs, ih (cur ++ [c]) (by simp), takeWord_cons t hs, dropWord_cons t hs]
      simp

theorem words_go_nil (l : Str) :
    words.go l [] =
      (match l.dropWhile (fun c => c == ' ') with
       | [] => []
       | c :: t => (c :: takeWord t) :: words.go (dropWord t) []) := by
  induction l with
  | nil => simp [words.go]
  | cons c t ih =>
    by_cases hs : c = ' '
    · subst hs
      rw [words.go]
      simp [ih]
    · rw [words.go, if_neg hs, words_go_word t _ (by simp)]
      simp [hs]

theorem parseArgsLoop_plain (l : Str) (h : SpreadPlain l) :
    parseArgsLoop true l = .ok (words l) := by
  unfold words
  generalize hk : l.length = k
  induction k using Nat.strongRecOn generalizing l with
  | _ k ih =>
    rw [parseArgsLoop, parseNextValue_plain l h, words_go_nil]
    have hlen := (List.dropWhile_sublist (fun c => c == ' ') (l := l)).length_le
    have hsub : ∀ x ∈ l.dropWhile (fun c => c == ' '), x ∈ l :=
      fun x hx => (List.dropWhile_sublist _).mem hx
    cases hd : l.dropWhile (fun c => c == ' ') with
    | nil => simp
    | cons c t =>
      rw [hd] at hlen hsub
      have hpt : SpreadPlain t := fun x hx => h x (hsub x (by simp [hx]))
      have hl2 : (dropWord t).length < l.length := by
        have := dropWord_length_le t
        simp at hlen
        omega
      have := ih _ (hk ▸ hl2) (dropWord t) (plain_dropWord hpt) rfl
      simp [hl2, this]

theorem reparseArguments_plain (v : Str) (h : SpreadPlain v) :
    reparseArguments v = .ok (if words v = [] then none else some (words v)) := by
  unfold reparseArguments parseArgumentsWith
  rw [parseArgsLoop_plain v h]
  cases words v <;> simp

/-! ### `bind` -/

theorem bind_templates (vars : Vars) (args : List (List Seg)) (h : ∀ t ∈ args, ∀ s ∈ t, s.OK) :
    bind vars (some (args.map renderTemplate)) = args.map (tmplValue vars) := by
  induction args with
  | nil => simp [bind]
  | cons t ts ih =>
    have ih' := ih (fun x hx => h x (by simp [hx]))
    simp only [bind, Option.getD_some, List.map_cons, List.flatMap_cons] at ih' ⊢
    rw [ih', expand_template vars t (h t (by simp))]
    by_cases hv : tmplValue vars t = [] <;> simp [hv]

theorem words_nil : words [] = [] := rfl

theorem bind_spread (vars : Vars) (n : Str) (hn : KeyOK n)
    (h : ∀ v, vars.get n = some v → SpreadPlain v) :
    bind vars (some [renderSpread n]) = words ((vars.get n).getD []) := by
  simp only [bind, Option.getD_some, List.flatMap_cons, List.flatMap_nil, List.append_nil]
  rw [expand_spread vars n hn]
  cases hv : vars.get n with
  | none => simp [words_nil]
  | some v =>
    by_cases he : v = []
    · subst he; simp [words_nil]
    · simp only [if_neg he, Option.getD_some]
      rw [reparseArguments_plain v (h v hv)]
      by_cases hw : words v = [] <;> simp [hw]

/-- values are opaque: the template value under transformed variables -/
theorem tmplValue_map (vars vars' : Vars) (t : List Seg) (f : Str → Str)
    (hv : ∀ n, vars'.get n = (vars.get n).map f) :
    tmplValue vars' t = t.flatMap (fun s =>
      match s with
      | .var n => ((vars.get n).map f).getD []
      | s => s.value vars) := by
  unfold tmplValue
  congr 1
  funext s
  cases s <;> simp [Seg.value, hv]

end Duck
