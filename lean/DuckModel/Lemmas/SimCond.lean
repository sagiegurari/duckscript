/-
  The tree run is followed by the goto-machine — conditions of the simple2 fragment:
  the re-serialisation round trip of safe bound values (C09), the nested mini-runner on the
  appended condition instruction, the pure condition commands and `not`, and what a condition
  evaluates to for EVERY fuel of the nested evaluator (`CondEvalsTo`, `cond_eval`), provided its
  leading words are not names of user functions.
-/
import DuckModel.Lemmas.SimInv
import DuckModel.Lemmas.ReserializeLemmas
import DuckModel.Spec.TreeCmdCond
namespace Duck
open Duck.Spec Duck.Generated Duck.Reser

/-- the instruction a safe condition line is re-parsed to -/
def condInstr (cmd : Str) (vals : List Str) : Instruction :=
  ⟨meta1, .script { label := none, output := none, command := some cmd,
                    args := if vals = [] then none else some vals }⟩

theorem evalParse_safe (cmd : Str) (vals : List Str) (hc : cmdOK cmd = true)
    (hs : ∀ v ∈ vals, Safe v = true) (hp : positionOK vals = true) :
    evalParse (cmd :: vals) = some (condInstr cmd vals) :=
  evalParse_of_parseLine cmd vals _ (parseLine_serialized cmd vals hc hs hp)
    (by intro c x he; cases he)

theorem bind_safe (vars : Vars) (vals : List Str) (hs : ∀ v ∈ vals, Safe v = true) :
    bind vars (if vals = [] then none else some vals) = vals :=
  bind_plain vars vals (fun v hv => ((safe_iff v).mp (hs v hv)).1.1)


theorem evalInstrsF_succ (f : Nat) (is : List Instruction) (line : Nat) (vars : Vars) (s : Sdk) :
    evalInstrsF (f + 1) is line vars s =
      evalInstrsF.go f (evalInstrsF f) (f + 1) is line vars s none := rfl

theorem go_zero (fuel : Nat) (nested : EvalFn) (is : List Instruction) (line : Nat) (vars : Vars)
    (s : Sdk) (o : Option Str) :
    evalInstrsF.go fuel nested 0 is line vars s o = (some (.crash "fuel".toList), none, vars, s) := rfl

theorem go_past (fuel : Nat) (nested : EvalFn) (n : Nat) (is : List Instruction) (x : Instruction)
    (vars : Vars) (s : Sdk) (o : Option Str) :
    evalInstrsF.go fuel nested (n + 1) (is ++ [x]) (is.length + 1) vars s o = (none, o, vars, s) := by
  simp only [evalInstrsF.go, List.getElem?_eq_none (show (is ++ [x]).length ≤ is.length + 1 by simp)]

/-- one pass of the mini-runner over the appended condition instruction whose command `c` is run
    with the (re-bound) values -/
theorem go_last (fuel : Nat) (nested : EvalFn) (n : Nat) (is : List Instruction) (cmd : Str)
    (vals : List Str) (vars : Vars) (s : Sdk) (o : Option Str) (c : Cmd)
    (hs : ∀ x ∈ vals, Safe x = true) (hres : resolveCmd s cmd = some c) :
    evalInstrsF.go fuel nested (n + 1) (is ++ [condInstr cmd vals]) is.length vars s o =
      match runCmdF nested (is ++ [condInstr cmd vals]) 3 c vals none is.length vars s with
      | (.exit v, vars', s') => (some (.exit v), o, vars', s')
      | (.error e, vars', s') => (some (.error e), o, vars', s')
      | (.crash e, vars', s') => (some (.crash e), o, vars', s')
      | (.goTo v (.label _), vars', s') => (some (.error []), v, vars', s')
      | (.goTo v (.line l), vars', s') =>
        evalInstrsF.go fuel nested n (is ++ [condInstr cmd vals]) l vars' s' v
      | (.continue v, vars', s') =>
        evalInstrsF.go fuel nested n (is ++ [condInstr cmd vals]) (is.length + 1) vars' s' v := by
  simp only [evalInstrsF.go, List.getElem?_concat_length]
  simp only [condInstr, runInstruction, sdkSem, hres, bind_safe vars vals hs]
  generalize runCmdF nested _ 3 c vals none is.length vars s = R
  obtain ⟨r, v1, s1⟩ := R
  cases r with
  | «continue» v => rfl
  | goTo v g => cases g <;> rfl
  | error e => rfl
  | crash e => rfl
  | «exit» v => rfl

/-! ### `evalCondition` on the command path -/

/-- how `eval_condition` reads the outcome of the nested mini-runner -/
def condOfNested (R : Option CmdResult × Option Str × Vars × Sdk) : Except Unit Bool × Vars × Sdk :=
  match R with
  | (some (.continue v), _, vars', s') => (.ok (isTrue v), vars', s')
  | (some _, _, vars', s') => (.error (), vars', s')
  | (none, out, vars', s') => (.ok (isTrue out), vars', s')

theorem evalCondition_cmd (f : Nat) (is : List Instruction) (cmd : Str) (vals : List Str) (vars : Vars)
    (s : Sdk) (c : Cmd) (hc : cmdOK cmd = true) (hs : ∀ x ∈ vals, Safe x = true)
    (hp : positionOK vals = true) (hres : resolveCmd s cmd = some c) :
    evalCondition (evalInstrsF f) is (cmd :: vals) vars s =
      condOfNested (evalInstrsF f (is ++ [condInstr cmd vals]) is.length vars s) := by
  unfold evalCondition
  simp only [hres, Option.isSome_some, if_true, evalParse_safe cmd vals hc hs hp, List.length_append,
    List.length_singleton, Nat.add_sub_cancel]
  generalize evalInstrsF f (is ++ [condInstr cmd vals]) is.length vars s = R
  obtain ⟨r, o, v1, s1⟩ := R
  cases r with
  | none => rfl
  | some r => cases r <;> rfl

/-- fuel 0 or 1: the verdict is an error -/
theorem evalCondition_cmd_low (f : Nat) (hf : f ≤ 1) (is : List Instruction) (cmd : Str) (vals : List Str)
    (vars : Vars) (s : Sdk) (c : Cmd) (hc : cmdOK cmd = true) (hs : ∀ x ∈ vals, Safe x = true)
    (hp : positionOK vals = true) (hres : resolveCmd s cmd = some c) :
    (evalCondition (evalInstrsF f) is (cmd :: vals) vars s).1 = .error () := by
  rw [evalCondition_cmd f is cmd vals vars s c hc hs hp hres]
  cases f with
  | zero => rfl
  | succ f =>
    have : f = 0 := by omega
    subst this
    rw [evalInstrsF_succ, go_last 0 _ 0 is cmd vals vars s none c hs hres]
    generalize runCmdF (evalInstrsF 0) _ 3 c vals none is.length vars s = R
    obtain ⟨r, v1, s1⟩ := R
    cases r with
    | «continue» v => rfl
    | goTo v g => cases g <;> rfl
    | error e => rfl
    | crash e => rfl
    | «exit» v => rfl

theorem evalCondition_cmd_continue (f : Nat) (is : List Instruction) (cmd : Str) (vals : List Str)
    (vars : Vars) (s : Sdk) (c : Cmd) (v : Option Str) (vars' : Vars) (s' : Sdk)
    (hc : cmdOK cmd = true) (hs : ∀ x ∈ vals, Safe x = true)
    (hp : positionOK vals = true) (hres : resolveCmd s cmd = some c)
    (hrun : runCmdF (evalInstrsF (f + 1)) (is ++ [condInstr cmd vals]) 3 c vals none is.length vars s =
      (.continue v, vars', s')) :
    evalCondition (evalInstrsF (f + 2)) is (cmd :: vals) vars s = (.ok (isTrue v), vars', s') := by
  rw [evalCondition_cmd (f + 2) is cmd vals vars s c hc hs hp hres, evalInstrsF_succ,
    go_last (f + 1) _ (f + 1) is cmd vals vars s none c hs hres, hrun]
  simp only [go_past]
  rfl

theorem evalCondition_cmd_error (f : Nat) (is : List Instruction) (cmd : Str) (vals : List Str)
    (vars : Vars) (s : Sdk) (c : Cmd) (e : Str) (vars' : Vars) (s' : Sdk)
    (hc : cmdOK cmd = true) (hs : ∀ x ∈ vals, Safe x = true)
    (hp : positionOK vals = true) (hres : resolveCmd s cmd = some c)
    (hrun : runCmdF (evalInstrsF f) (is ++ [condInstr cmd vals]) 3 c vals none is.length vars s =
      (.error e, vars', s')) :
    evalCondition (evalInstrsF (f + 1)) is (cmd :: vals) vars s = (.error (), vars', s') := by
  rw [evalCondition_cmd (f + 1) is cmd vals vars s c hc hs hp hres, evalInstrsF_succ,
    go_last f _ f is cmd vals vars s none c hs hres, hrun]
  rfl

/-! ### the names of the condition commands can be written and survive the round trip -/

theorem pureCondCmd_inv {w : Str} (h : isPureCondCmd w = true) :
    ∃ c, resolveCmd {} w = some c ∧ (c = .equals ∨ c = .lt ∨ c = .emit) := by
  unfold isPureCondCmd at h
  split at h <;> first
    | (rename_i hc; exact ⟨_, hc, by simp⟩)
    | simp at h

theorem notCmd_inv {w : Str} (h : isNotCmd w = true) : resolveCmd {} w = some .notC := by
  unfold isNotCmd at h
  split at h
  · assumption
  · simp at h

def condNames : List Str :=
  ["equals".toList, "eq".toList, "std::string::Equals".toList, "lt".toList, "emit".toList,
   "not".toList, "std::Not".toList]

/-- `condNames` lists every spelling of the condition commands; each can be written as a command
    word and survives the round trip -/
theorem condNames_ok :
    (∀ c ∈ [Cmd.equals, .lt, .emit, .notC], ∀ w ∈ c.names, w ∈ condNames) ∧
    (∀ w ∈ condNames, cmdOK w = true ∧ Safe w = true) := by
  decide +kernel

theorem condCmd_ok {w : Str} {c : Cmd} (h : resolveCmd {} w = some c)
    (hc : c = .equals ∨ c = .lt ∨ c = .emit ∨ c = .notC) : cmdOK w = true := by
  have hw := resolveCmd_iff.mp h
  rcases hc with rfl | rfl | rfl | rfl <;>
    exact (condNames_ok.2 w (condNames_ok.1 _ (by decide) w hw)).1

/-! ### the pure commands and `not` -/

/-- `equals`, `lt`, `emit` only ever append to `emitted`; they end in `continue` or `error` -/
theorem pure_cmd (c : Cmd) (hc : c = .equals ∨ c = .lt ∨ c = .emit) (args : List Str)
    (E : List (List Str)) :
    ∃ (r : CmdResult) (em : List (List Str)),
      (∀ (nested : EvalFn) (is : List Instruction) (out : Option Str) (line : Nat) (vars : Vars)
          (s : Sdk), s.emitted = E →
        runCmdF nested is 3 c args out line vars s = (r, vars, { s with emitted := em })) ∧
      ((∃ v, r = .continue v) ∨ (∃ e, r = .error e)) := by
  rcases hc with rfl | rfl | rfl
  · rcases args with _ | ⟨a, _ | ⟨b, rest⟩⟩
    · exact ⟨errR, E, fun _ _ _ _ _ s h3 => by subst h3; rfl, .inr ⟨_, rfl⟩⟩
    · exact ⟨errR, E, fun _ _ _ _ _ s h3 => by subst h3; rfl, .inr ⟨_, rfl⟩⟩
    · exact ⟨.continue (some (if a = b then "true".toList else "false".toList)), E,
        fun _ _ _ _ _ s h3 => by subst h3; rfl, .inl ⟨_, rfl⟩⟩
  · rcases args with _ | ⟨a, _ | ⟨b, _ | ⟨c, rest⟩⟩⟩
    · exact ⟨errR, E, fun _ _ _ _ _ s h3 => by subst h3; rfl, .inr ⟨_, rfl⟩⟩
    · exact ⟨errR, E, fun _ _ _ _ _ s h3 => by subst h3; rfl, .inr ⟨_, rfl⟩⟩
    · cases hx : decDigits? a with
      | none =>
        exact ⟨.continue (some "false".toList), E,
          fun _ _ _ _ _ s h3 => by subst h3; simp only [runCmdF, runCmd, hx], .inl ⟨_, rfl⟩⟩
      | some x =>
        cases hy : decDigits? b with
        | none =>
          exact ⟨.continue (some "false".toList), E,
            fun _ _ _ _ _ s h3 => by subst h3; simp only [runCmdF, runCmd, hx, hy], .inl ⟨_, rfl⟩⟩
        | some y =>
          exact ⟨.continue (some (if x < y then "true".toList else "false".toList)), E,
            fun _ _ _ _ _ s h3 => by subst h3; simp only [runCmdF, runCmd, hx, hy], .inl ⟨_, rfl⟩⟩
    · exact ⟨errR, E, fun _ _ _ _ _ s h3 => by subst h3; rfl, .inr ⟨_, rfl⟩⟩
  · exact ⟨.continue none, E ++ [args], fun _ _ _ _ _ s h3 => by subst h3; rfl, .inl ⟨_, rfl⟩⟩

/-- what `not` makes of the verdict of its condition -/
def notOut (R : Except Unit Bool × Vars × Sdk) : CmdResult × Vars × Sdk :=
  match R with
  | (.error _, vars, s) => (errR, vars, s)
  | (.ok passed, vars, s) =>
    (.continue (some (if passed then "false".toList else "true".toList)), vars, s)

def negRes : Except Unit Bool → Except Unit Bool
  | .ok p => .ok (!p)
  | .error _ => .error ()

theorem runCmdF_not (nested : EvalFn) (is : List Instruction) (args : List Str) (out : Option Str)
    (line : Nat) (vars : Vars) (s : Sdk) (hne : args.isEmpty = false) :
    runCmdF nested is 3 .notC args out line vars s = notOut (evalCondition nested is args vars s) := by
  simp only [runCmdF, runCmd, hne, Bool.false_eq_true, if_false]
  generalize evalCondition nested is args vars s = R
  obtain ⟨r, v, s1⟩ := R
  cases r <;> rfl

theorem isTrue_not (p : Bool) :
    isTrue (some (if p then "false".toList else "true".toList)) = !p := by
  cases p <;> decide

/-! ### what a condition of the fragment evaluates to, for every fuel of the nested evaluator -/

/-- in a state whose functions are not named by the first `n` words: with nested fuel `f ≥ thr`
    the condition evaluates to `res` and leaves `em` in `emitted`; with less fuel it either does the
    same or ends in an error -/
def CondEvalsTo (args : List Str) (E : List (List Str)) (n thr : Nat) (res : Except Unit Bool)
    (em : List (List Str)) : Prop :=
  ∀ (f : Nat) (is : List Instruction) (vars : Vars) (s : Sdk),
    (∀ w ∈ args.take n, s.fns.get w = none) → s.emitted = E →
    ((evalCondition (evalInstrsF f) is args vars s).1 = .error () ∨
      evalCondition (evalInstrsF f) is args vars s = (res, vars, { s with emitted := em })) ∧
    (thr ≤ f → evalCondition (evalInstrsF f) is args vars s = (res, vars, { s with emitted := em }))

theorem CondEvalsTo.mono {args : List Str} {E : List (List Str)} {n n' thr thr' : Nat}
    {res : Except Unit Bool} {em : List (List Str)} (h : CondEvalsTo args E n thr res em)
    (hle : thr ≤ thr') (hn : n ≤ n') : CondEvalsTo args E n' thr' res em :=
  fun f is vars s h1 h2 =>
    have h1' : ∀ w ∈ args.take n, s.fns.get w = none := fun w hw =>
      h1 w ((List.take_sublist_take_left hn).subset hw)
    ⟨(h f is vars s h1' h2).1, fun hf => (h f is vars s h1' h2).2 (by omega)⟩

theorem condEvals_value (h : Str) (rest : List Str) (E : List (List Str))
    (hn : (resolveCmd {} h).isNone = true) :
    CondEvalsTo (h :: rest) E 1 0 (condVal (h :: rest)) E := by
  intro f is vars s hf hE
  have := evalCondition_slice (evalInstrsF f) is h rest vars s
    (resolveCmd_none_env hn (hf h (by simp)))
  have hs : ({ s with emitted := E } : Sdk) = s := by subst hE; rfl
  rw [hs]
  exact ⟨.inr this, fun _ => this⟩

theorem condEvals_pure (cmd : Str) (vals : List Str) (E : List (List Str))
    (hp : isPureCondCmd cmd = true) (hs : ∀ x ∈ vals, Safe x = true)
    (hpos : positionOK vals = true) :
    ∃ res em, CondEvalsTo (cmd :: vals) E 0 2 res em := by
  obtain ⟨c, hres, hc⟩ := pureCondCmd_inv hp
  have hcm : cmdOK cmd = true := condCmd_ok hres (by rcases hc with h | h | h <;> simp [h])
  obtain ⟨r, em, hrun, hr⟩ := pure_cmd c hc vals E
  rcases hr with ⟨v, rfl⟩ | ⟨e, rfl⟩
  · refine ⟨.ok (isTrue v), em, fun f is vars s hf hE => ?_⟩
    have hres' := resolveCmd_of_empty s hres
    have hhi : ∀ f', evalCondition (evalInstrsF (f' + 2)) is (cmd :: vals) vars s =
        (.ok (isTrue v), vars, { s with emitted := em }) := fun f' =>
      evalCondition_cmd_continue f' is cmd vals vars s c v vars _ hcm hs hpos hres'
        (hrun _ _ none _ vars s hE)
    by_cases hlow : f ≤ 1
    · exact ⟨.inl (evalCondition_cmd_low f hlow is cmd vals vars s c hcm hs hpos hres'),
        fun h2 => by omega⟩
    · obtain ⟨f', rfl⟩ : ∃ f', f = f' + 2 := ⟨f - 2, by omega⟩
      exact ⟨.inr (hhi f'), fun _ => hhi f'⟩
  · refine ⟨.error (), em, fun f is vars s hf hE => ?_⟩
    have hres' := resolveCmd_of_empty s hres
    have hhi : ∀ f', evalCondition (evalInstrsF (f' + 1)) is (cmd :: vals) vars s =
        (.error (), vars, { s with emitted := em }) := fun f' =>
      evalCondition_cmd_error f' is cmd vals vars s c e vars _ hcm hs hpos hres'
        (hrun _ _ none _ vars s hE)
    cases f with
    | zero =>
      exact ⟨.inl (evalCondition_cmd_low 0 (by omega) is cmd vals vars s c hcm hs hpos hres'),
        fun h2 => by omega⟩
    | succ f' => exact ⟨.inr (hhi f'), fun _ => hhi f'⟩

theorem condEvals_not (n : Str) (vals : List Str) (E : List (List Str)) (thr : Nat)
    (res' : Except Unit Bool) (em' : List (List Str))
    (hn : isNotCmd n = true) (hs : ∀ x ∈ vals, Safe x = true) (hpos : positionOK vals = true)
    (hne : vals.isEmpty = false) (hthr : thr ≤ 2) (m : Nat) (hin : CondEvalsTo vals E m thr res' em') :
    ∃ res em, CondEvalsTo (n :: vals) E (m + 1) 3 res em := by
  have hres := notCmd_inv hn
  have hcm : cmdOK n = true := condCmd_ok hres (by simp)
  refine ⟨negRes res', em', fun f is vars s hf hE => ?_⟩
  have hres' := resolveCmd_of_empty s hres
  by_cases hlow : f ≤ 1
  · exact ⟨.inl (evalCondition_cmd_low f hlow is n vals vars s .notC hcm hs hpos hres'),
      fun h2 => by omega⟩
  -- fuel `f' + 2` for the condition leaves `f' + 1` for the inner one
  obtain ⟨f', rfl⟩ : ∃ f', f = f' + 2 := ⟨f - 2, by omega⟩
  have hinner := hin (f' + 1) (is ++ [condInstr n vals]) vars s
    (fun w hw => hf w (by simp [List.take_succ_cons, hw])) hE
  have hexp : evalCondition (evalInstrsF (f' + 1)) (is ++ [condInstr n vals]) vals vars s =
        (res', vars, { s with emitted := em' }) →
      evalCondition (evalInstrsF (f' + 2)) is (n :: vals) vars s =
        (negRes res', vars, { s with emitted := em' }) := by
    intro he
    cases res' with
    | ok p =>
      have hrun : runCmdF (evalInstrsF (f' + 1)) (is ++ [condInstr n vals]) 3 .notC vals none
          is.length vars s =
          (.continue (some (if p then "false".toList else "true".toList)), vars,
            { s with emitted := em' }) := by
        rw [runCmdF_not _ _ _ _ _ _ _ hne, he]; rfl
      rw [evalCondition_cmd_continue f' is n vals vars s .notC _ vars _ hcm hs hpos hres' hrun,
        isTrue_not]
      rfl
    | error u =>
      have hrun : runCmdF (evalInstrsF (f' + 1)) (is ++ [condInstr n vals]) 3 .notC vals none
          is.length vars s = (errR, vars, { s with emitted := em' }) := by
        rw [runCmdF_not _ _ _ _ _ _ _ hne, he]; rfl
      exact evalCondition_cmd_error (f' + 1) is n vals vars s .notC _ vars _ hcm hs hpos hres' hrun
  refine ⟨?_, fun h3 => hexp (hinner.2 (by omega))⟩
  rcases hinner.1 with herr | he
  · left
    generalize hR : evalCondition (evalInstrsF (f' + 1)) (is ++ [condInstr n vals]) vals vars s = R
      at herr
    obtain ⟨r0, v0, s0⟩ := R
    simp only at herr
    subst herr
    have hrun : runCmdF (evalInstrsF (f' + 1)) (is ++ [condInstr n vals]) 3 .notC vals none
        is.length vars s = (errR, v0, s0) := by
      rw [runCmdF_not _ _ _ _ _ _ _ hne, hR]; rfl
    rw [evalCondition_cmd_error (f' + 1) is n vals vars s .notC _ v0 s0 hcm hs hpos hres' hrun]
  · exact .inr (hexp he)

/-! ### every condition of the simple2 fragment with safe bound arguments -/

theorem cond_eval (cond : List Str) (vars : Vars) (E : List (List Str))
    (h2 : condSimple2 cond = true) (hsafe : condArgsSafe (bind vars (some cond)) = true) :
    (bind vars (some cond)).isEmpty = false ∧ (bind vars (some cond)).head? = cond.head? ∧
      ∃ n res em, CondEvalsTo (bind vars (some cond)) E n 3 res em ∧
        ∀ w ∈ (bind vars (some cond)).take n, w ∈ cond.take 2 := by
  simp only [condSimple2, Bool.or_eq_true] at h2
  rcases h2 with (h2 | h2) | h2
  · cases cond with
    | nil => simp [condSimple] at h2
    | cons h restW =>
      simp only [condSimple, Bool.and_eq_true] at h2
      rw [bind_cons_literal vars h restW h2.1.1]
      exact ⟨rfl, rfl, 1, _, _, (condEvals_value h _ E h2.2).mono (by omega) (by omega),
        fun w hw => by simp at hw; subst hw; simp⟩
  · cases cond with
    | nil => simp [cmdCond] at h2
    | cons h restW =>
      simp only [cmdCond, Bool.and_eq_true] at h2
      rw [bind_cons_literal vars h restW h2.1] at hsafe ⊢
      simp only [condArgsSafe, h2.2, if_true, Bool.and_eq_true, List.all_eq_true] at hsafe
      obtain ⟨res, em, hce⟩ := condEvals_pure h (bind vars (some restW)) E h2.2 hsafe.1 hsafe.2
      exact ⟨rfl, rfl, 0, res, em, hce.mono (by omega) (by omega), fun w hw => by simp at hw⟩
  · cases cond with
    | nil => simp [notCond] at h2
    | cons n restW =>
      simp only [notCond, Bool.and_eq_true, Bool.or_eq_true] at h2
      obtain ⟨⟨hlit, hnot⟩, hinner⟩ := h2
      have hnp : isPureCondCmd n = false := by
        simp [isPureCondCmd, notCmd_inv hnot]
      rw [bind_cons_literal vars n restW hlit] at hsafe ⊢
      simp only [condArgsSafe, hnp, Bool.false_eq_true, if_false, hnot, if_true, Bool.and_eq_true,
        List.all_eq_true] at hsafe
      obtain ⟨⟨hs, hpos⟩, hin⟩ := hsafe
      refine ⟨rfl, rfl, ?_⟩
      rcases hinner with hv | hc
      · cases restW with
        | nil => simp [condSimple] at hv
        | cons h restW' =>
          simp only [condSimple, Bool.and_eq_true] at hv
          rw [bind_cons_literal vars h restW' hv.1.1] at hs hpos ⊢
          obtain ⟨res, em, hce⟩ := condEvals_not n (h :: bind vars (some restW')) E 0 _ _ hnot hs hpos
            rfl (by omega) 1 (condEvals_value h _ E hv.2)
          exact ⟨2, res, em, hce, fun w hw => by
            simp at hw
            rcases hw with rfl | rfl <;> simp⟩
      · cases restW with
        | nil => simp [cmdCond] at hc
        | cons c restW' =>
          simp only [cmdCond, Bool.and_eq_true] at hc
          rw [bind_cons_literal vars c restW' hc.1] at hs hpos hin ⊢
          simp only [hc.2, if_true] at hin
          obtain ⟨res', em', hce'⟩ := condEvals_pure c (bind vars (some restW')) E hc.2
            (fun x hx => hs x (by simp [hx])) hin
          obtain ⟨res, em, hce⟩ := condEvals_not n (c :: bind vars (some restW')) E 2 _ _ hnot hs hpos
            rfl (by omega) 0 hce'
          exact ⟨1, res, em, hce, fun w hw => by simp at hw; subst hw; simp⟩

/-- tree side: the verdict and the new tree state -/
theorem evalCond_of_evals (is : List Instruction) (fuel : Nat) (cond : List Str) (t t1 : TState) (b : Bool)
    (n : Nat) (res : Except Unit Bool) (em : List (List Str))
    (hne : (bind t.vars (some cond)).isEmpty = false)
    (hf : ∀ w, (bind t.vars (some cond)).head? = some w → lookupFn t.fns w = none)
    (hsf : ∀ w ∈ (bind t.vars (some cond)).take n, t.sdk.fns.get w = none)
    (hce : CondEvalsTo (bind t.vars (some cond)) t.sdk.emitted n 3 res em)
    (hex : evalCond is (fuel + 1) cond t = some (b, t1)) :
    res = .ok b ∧ t1 = { t with sdk := { t.sdk with emitted := em } } := by
  have h := (hce fuel is t.vars t.sdk hsf rfl).1
  unfold evalCond at hex
  simp only [bind_mkArgs] at hex
  cases hb : bind t.vars (some cond) with
  | nil => rw [hb] at hne; simp at hne
  | cons first rest =>
    rw [hb] at hex h
    have hl : lookupFn t.fns first = none := hf first (by rw [hb]; rfl)
    simp only [hl] at hex
    rcases h with h | h
    · generalize evalCondition (evalInstrsF fuel) is (first :: rest) t.vars t.sdk = R at h hex
      obtain ⟨r0, v0, s0⟩ := R
      simp only at h
      subst h
      simp at hex
    · rw [h] at hex
      cases res with
      | error u => simp at hex
      | ok b' =>
        simp only [Option.some.injEq, Prod.mk.injEq] at hex
        exact ⟨by rw [hex.1], hex.2.symm⟩

/-- the nested evaluator's fuel does not matter from 3 on, for the conditions of the fragment
    (in general a fuel crash deep inside is MASKED as an ordinary error by `eval_condition`, so the
    unrestricted statement is false: `not not true` errs with fuel 2 and is `true` with fuel 3) -/
theorem cond_fuel_mono (cond : List Str) (vars : Vars) (is : List Instruction) (s : Sdk)
    (h2 : condSimple2 cond = true) (hsafe : condArgsSafe (bind vars (some cond)) = true)
    (hf : s.fns = []) (f1 f2 : Nat) (h1 : 3 ≤ f1) (h2' : 3 ≤ f2) :
    evalCondition (evalInstrsF f1) is (bind vars (some cond)) vars s =
      evalCondition (evalInstrsF f2) is (bind vars (some cond)) vars s := by
  obtain ⟨_, _, n, res, em, hce, _⟩ := cond_eval cond vars s.emitted h2 hsafe
  have hno : ∀ w ∈ (bind vars (some cond)).take n, s.fns.get w = none := fun _ _ => by rw [hf]; rfl
  rw [(hce f1 is vars s hno rfl).2 h1, (hce f2 is vars s hno rfl).2 h2']

theorem condSimple2_bind_ne {cond : List Str} (vars : Vars) (h : condSimple2 cond = true) :
    (bind vars (some cond)).isEmpty = false := by
  simp only [condSimple2, Bool.or_eq_true] at h
  rcases h with (h | h) | h
  · exact condSimple_bind_ne vars h
  · cases cond with
    | nil => simp [cmdCond] at h
    | cons w rest =>
      simp only [cmdCond, Bool.and_eq_true] at h
      rw [bind_cons_literal vars w rest h.1]; rfl
  · cases cond with
    | nil => simp [notCond] at h
    | cons w rest =>
      simp only [notCond, Bool.and_eq_true] at h
      rw [bind_cons_literal vars w rest h.1.1]; rfl

/-- the tree state after a condition was evaluated: only `emitted` may have grown -/
def withEm (t : TState) (em : List (List Str)) : TState :=
  { t with sdk := { t.sdk with emitted := em } }

theorem evalCond_zero (is : List Instruction) (cond : List Str) (t : TState) :
    evalCond is 0 cond t = none := rfl

end Duck
