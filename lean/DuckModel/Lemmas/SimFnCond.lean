/-
  Simulation with functions — conditions.  `evalCondition` asks `resolveCmd` about the first bound
  word (and `not` about the first word of its condition): in the fragment these are not names of
  the environment's functions (`condNoFn`).
-/
import DuckModel.Lemmas.SimFnDefs

namespace Duck
open Duck.Spec Duck.Generated Duck.Reser

theorem condNoFn_take {names : List Str} {cond : List Str} (h : condNoFn names cond = true) :
    ∀ w ∈ cond.take 2, names.contains w = false := by
  intro w hw
  rcases cond with _ | ⟨a, _ | ⟨b, rest⟩⟩
  · simp at hw
  · simp at hw
    subst hw
    simpa [condNoFn] using h
  · simp only [condNoFn, Bool.and_eq_true, Bool.not_eq_true'] at h
    simp at hw
    rcases hw with rfl | rfl
    · exact h.1
    · exact h.2

theorem EnvOK.not_name {is : List Instruction} {E : Nat → Prop} {F : FEnv} (h : EnvOK is E F)
    {w : Str} (hw : F.names.contains w = false) :
    lookupFn F.tf w = none ∧ F.sf.get w = none ∧ F.tsf.get w = none := by
  have hl : lookupFn F.tf w = none := by
    cases hl : lookupFn F.tf w with
    | none => rfl
    | some fd =>
      have := (h.names w).2 (by rw [hl]; simp)
      rw [hw] at this
      cases this
  exact ⟨hl, h.undef w hl⟩

/-- a condition of the fragment, evaluated by the tree interpreter with verdict `b`: the new tree
    state, and what the machine says on the line (`CondSays`) in a state `s` related to `t` -/
theorem cond_simF (is : List Instruction) (E : Nat → Prop) (F : FEnv) (henv : EnvOK is E F)
    (fuel : Nat) (cond : List Str) (t t1 : TState) (b : Bool) {s : Sdk}
    (h2 : condSimple2 cond = true) (hnf : condNoFn F.names cond = true)
    (hsafe : condArgsSafe (bind t.vars (some cond)) = true) (hrel : RelF F s t)
    (hex : evalCond is (fuel + 1) cond t = some (b, t1)) :
    ∃ em, t1 = withEm t em ∧ CondSays is (bind t.vars (some cond)) t.vars s.emitted b em s.fns := by
  obtain ⟨hne, hhead, n, res, em, hce, hwords⟩ := cond_eval cond t.vars t.sdk.emitted h2 hsafe
  have hnot : ∀ w ∈ (bind t.vars (some cond)).take n,
      lookupFn F.tf w = none ∧ F.sf.get w = none ∧ F.tsf.get w = none :=
    fun w hw => henv.not_name (condNoFn_take hnf w (hwords w hw))
  have hfirst : ∀ w, (bind t.vars (some cond)).head? = some w → lookupFn t.fns w = none := by
    intro w hw
    rw [hhead] at hw
    rw [hrel.tfns]
    refine (henv.not_name (condNoFn_take hnf w ?_)).1
    cases cond with
    | nil => simp at hw
    | cons a rest => simp at hw; subst hw; simp
  obtain ⟨hres, ht1⟩ := evalCond_of_evals is fuel cond t t1 b n res em hne hfirst
    (fun w hw => by rw [hrel.tsfns]; exact (hnot w hw).2.2) hce hex
  subst hres
  exact ⟨em, ht1, hne, fun f hf3 s' h1 h2 =>
    (hce f is t.vars s' (fun w hw => by rw [h1, hrel.sfns]; exact (hnot w hw).2.1)
      (h2.trans hrel.emitted)).2 hf3⟩

end Duck
