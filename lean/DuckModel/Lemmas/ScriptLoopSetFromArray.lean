/-
  `set_from_array` (std/collections/set_from_array/script.ds) run from source, for every input:
  validation (`if not is_array …` through the condition evaluator), `set_new`, the loop invariant
  of `for next_value in ${argument::1}` / `set_put`, the closed form of the body.
  Exports `sfa_runF` (the call in closed form, end states `sfaOkFinal` / `sfaErrFinal`), `sfaTbl_inv`,
  `headIsArray`.  Conventions: Lemmas/ScriptLoopShared.lean.
-/
import DuckModel.Lemmas.ScriptLoopShared

namespace Duck.ScriptRun
open Duck Duck.Alias Duck.Coll Duck.Spec Duck.Generated Duck.Reser

def sScope : Str := "scope::set_from_array".toList
def sArg1 : Str := "scope::set_from_array::argument::1".toList
def sSet : Str := "scope::set_from_array::set".toList
def sNext : Str := "scope::set_from_array::next_value".toList

def sfaIs : List Instruction :=
  [emptyI 1,
   mkI 2 none "if" (some [[.lit "not".toList], [.lit "is_array".toList], [.var sArg1]]),
   mkI 3 none "trigger_error" (some [[.lit sMsg]]),
   mkI 4 none "end" none,
   emptyI 5,
   mkI 6 (some sSet) "set_new" none,
   mkI 7 none "for" (some [[.lit sNext], [.lit "in".toList], [.var sArg1]]),
   mkI 8 none "set_put" (some [[.var sSet], [.var sNext]]),
   mkI 9 none "end" none,
   emptyI 10,
   mkI 11 none "set" (some [[.var sSet]])]

theorem sfa_closed :
    (parsesTo cmd_collections_set_from_array.script sfaIs = true ∧ findsTo forTables sfaIs (6 + 1) [] 8 = true ∧
      findsTo ifTables sfaIs (1 + 1) [] 3 = true) ∧
    (underPrefix sScope sSet = true ∧ underPrefix sScope sNext = true ∧
      sArg1 ≠ sSet ∧ sSet ≠ sNext ∧ sArg1 ≠ sNext ∧ sArg1 = argKey sScope 1 ∧
      sScope ++ "::".toList ++ natToStr 1 = "scope::set_from_array::1".toList ∧
      sScope ++ "::".toList ++ natToStr 6 = "scope::set_from_array::6".toList) ∧
    (ArgsOK [[.lit "not".toList], [.lit "is_array".toList], [.var sArg1]] ∧ ArgsOK [[.lit sMsg]] ∧
      (LitOK sNext ∧ KeyOK sArg1) ∧ ArgsOK [[.var sSet], [.var sNext]] ∧
      ArgsOK [[.var sSet]]) := by
  decide +kernel

theorem sfa_parses : parseText cmd_collections_set_from_array.script = .ok sfaIs := parsesTo_eq sfa_closed.1.1
theorem sfa_findFor : findCommands forTables sfaIs (6 + 1) = .ok ⟨[], 8⟩ := findsTo_eq sfa_closed.1.2.1
theorem sfa_findIf : findCommands ifTables sfaIs (1 + 1) = .ok ⟨[], 3⟩ := findsTo_eq sfa_closed.1.2.2
theorem sSet_under : underPrefix sScope sSet = true := sfa_closed.2.1.1
theorem sNext_under : underPrefix sScope sNext = true := sfa_closed.2.1.2.1
theorem sArg1_ne_sSet : sArg1 ≠ sSet := sfa_closed.2.1.2.2.1
theorem sSet_ne_sNext : sSet ≠ sNext := sfa_closed.2.1.2.2.2.1
theorem sArg1_ne_sNext : sArg1 ≠ sNext := sfa_closed.2.1.2.2.2.2.1
theorem sArg1_eq : sArg1 = argKey sScope 1 := sfa_closed.2.1.2.2.2.2.2.1
theorem sfa_keys : lineKey sScope 1 = "scope::set_from_array::1".toList ∧ lineKey sScope 6 = "scope::set_from_array::6".toList :=
  sfa_closed.2.1.2.2.2.2.2.2

/-- the body's state with the table `T` and the for-in call stack `stack` -/
def sfaSt (s : ScriptSt) (T : Table) (stack : List ForCall) : ScriptSt :=
  { s with coll := { tbl := T, next := s.coll.next }, forStack := stack }

/-- the table during the loop: the new set holds `acc`, every other lookup as at loop entry -/
structure SInvT (T0 : Table) (hS : Str) (T : Table) (acc : List Str) : Prop where
  set : tget T hS = some (.set acc)
  other : ∀ k, k ≠ hS → tget T k = tget T0 k

/-- the variables of the body during the loop: the handle of the new set, the argument -/
structure SInvV (vars0 vars : Vars) (X hS : Str) : Prop where
  set : vars.get sSet = some hS
  arg : vars.get sArg1 = some X
  clr : clear sScope vars = clear sScope vars0

/-- the table after `set_put hS x` for each `x` in turn (the set holds `acc` before) -/
def setPutAll (hS : Str) : Table → List Str → List Str → Table
  | T, _, [] => T
  | T, acc, x :: xs => setPutAll hS (tinsert (tremove T hS) hS (.set (sinsert acc x))) (sinsert acc x) xs

theorem SInvT.put {T0 : Table} {hS : Str} {T : Table} {acc : List Str} (hT : SInvT T0 hS T acc) (x : Str) :
    SInvT T0 hS (tinsert (tremove T hS) hS (.set (sinsert acc x))) (sinsert acc x) :=
  ⟨by rw [tget_tinsert, if_pos rfl],
   fun k hk => by rw [tget_tinsert, if_neg hk, tget_tremove, if_neg hk, hT.other k hk]⟩

theorem SInvV.setNext {vars0 vars : Vars} {X hS : Str} (hV : SInvV vars0 vars X hS) (y : Str) :
    SInvV vars0 (vars.set sNext y) X hS :=
  ⟨by rw [get_set, if_neg sSet_ne_sNext]; exact hV.set,
   by rw [get_set, if_neg sArg1_ne_sNext]; exact hV.arg,
   by rw [clear_set_under _ _ _ _ sNext_under]; exact hV.clr⟩

theorem sfa_block : ForBlock sfaIs 6 8 sNext sArg1 :=
  ⟨⟨_, rfl⟩, ⟨_, rfl⟩, sfa_closed.2.2.2.2.1, sArg1_ne_sNext, sfa_findFor⟩

/-- the script's invariant at the start of iteration `j`: putting the cells that are left into the
    set gives the table `Tf` holding `accf`; but for its table and its for-in stack the state is `sB` -/
structure SIter (vars0 : Vars) (X hS : Str) (T0 : Table) (sB : ScriptSt) (Tf : Table) (accf : List Str) (L : List Item)
    (j : Nat) (vars : Vars) (s : ScriptSt) : Prop where
  v : SInvV vars0 vars X hS
  t : ∃ acc, SInvT T0 hS s.coll.tbl acc ∧ setPutAll hS s.coll.tbl acc ((L.drop j).map Item.render) = Tf ∧
    ((L.drop j).map Item.render).foldl sinsert acc = accf
  st : ∀ T st', ({ s with coll := { tbl := T, next := s.coll.next }, forStack := st' } : ScriptSt) = sfaSt sB T st'

/-- one iteration: `set_put ${set} ${next_value}` -/
theorem sfa_iter {d : Nat} {vars0 : Vars} {X hS : Str} {T0 : Table} {sB : ScriptSt} {Tf : Table} {accf : List Str}
    {L : List Item} (hL : tget T0 X = some (.list L)) (hXS : X ≠ hS) (fs : List ForCall)
    (i : Nat) (x : Item) (vars : Vars) (s : ScriptSt) (fo : Option Str) (hx : L[i]? = some x)
    (hS' : LoopSt sScope 8 sArg1 X L vars s) (_ : s.forStack = ⟨i + 1, 6, 8, sScope⟩ :: fs)
    (hvN : vars.get sNext = some x.render) (hJ : SIter vars0 X hS T0 sB Tf accf L i vars s) :
    ∃ fo' vars' s', (∀ G, Steps (G + 0) (d + 1) sfaIs 1 ⟨6 + 1, fo, vars, s⟩ ⟨8, fo', vars', s'⟩) ∧
      LoopSt sScope 8 sArg1 X L vars' s' ∧ s'.forStack = s.forStack ∧ SIter vars0 X hS T0 sB Tf accf L (i + 1) vars' s' := by
  obtain ⟨acc, hT, hTf, hacc⟩ := hJ.t
  rw [drop_of_getElem? hx] at hTf hacc
  have hT' := hT.put x.render
  refine ⟨some sTrue, vars,
    { s with coll := { tbl := tinsert (tremove s.coll.tbl hS) hS (.set (sinsert acc x.render)), next := s.coll.next } },
    fun G => ?_, ⟨hS'.ctx, hS'.endT, hS'.handle, (hT'.other X hXS).trans hL⟩, rfl,
    hJ.v, ⟨_, hT', hTf, hacc⟩, fun T st' => hJ.st T st'⟩
  refine Steps.step (Steps.native (vals := [hS, x.render]) rfl rs_set_put (bind_eq sfa_closed.2.2.2.2.2.1
    (by simp only [List.map, tmplValue_var, hJ.v.set, hvN, Option.getD_some]))
    (run_setPut hS x.render acc vars s hT.set)) ?_
  exact Steps.refl _

/-- from the loop body (line 7) with the current cell in `next_value` and the entry at the next
    iteration to the line after `end` (line 9), entry popped: 3 instructions per cell left -/
theorem sfa_loop (F d : Nat) (s : ScriptSt) (X hS : Str) (L : List Item) (T0 : Table)
    (hctx : s.ctx = sScope) (hend : s.endTable.get (flowKey s 8) = some fullNameEndForIn)
    (hL : tget T0 X = some (.list L)) (hXS : X ≠ hS) (vars0 : Vars) :
    ∀ (rem pre : List Item) (x : Item) (acc : List Str) (T : Table) (vars : Vars) (poll : Nat) (fo : Option Str)
      (fuel : Nat),
      L = pre ++ x :: rem → SInvT T0 hS T acc → SInvV vars0 vars X hS → vars.get sNext = some x.render →
      ∃ vars' poll' fo',
        evalInstructions (bodySem F (d + 1) sfaIs) (fun _ => false) sfaIs (fuel + 3 * rem.length + 3) 7 poll fo vars
          (sfaSt s T (⟨pre.length + 1, 6, 8, sScope⟩ :: s.forStack)) =
        evalInstructions (bodySem F (d + 1) sfaIs) (fun _ => false) sfaIs fuel 9 poll' fo' vars'
          (sfaSt s (setPutAll hS T acc (x.render :: rem.map Item.render)) s.forStack) ∧
        SInvT T0 hS (setPutAll hS T acc (x.render :: rem.map Item.render))
          ((rem.map Item.render).foldl sinsert (sinsert acc x.render)) ∧ SInvV vars0 vars' X hS := by
  intro rem pre x acc T vars poll fo fuel hLe hT hV hx
  have hi : L[pre.length]? = some x := by rw [hLe]; simp
  have hdrop : L.drop pre.length = x :: rem := by rw [hLe]; simp
  obtain ⟨vars', s', hsteps, _, hfs', hJ'⟩ := sfa_block.loop_steps (d := d) (fs := s.forStack)
    (SIter vars0 X hS T0 s (setPutAll hS T acc (x.render :: rem.map Item.render))
      ((rem.map Item.render).foldl sinsert (sinsert acc x.render)) L) 0 (fun _ => 1)
    (fun i vars s y h => ⟨h.v.setNext y, h.t, h.st⟩) (fun i vars s st h => ⟨h.v, h.t, h.st⟩)
    (sfa_iter hL hXS s.forStack) rem.length pre.length x vars
    (sfaSt s T (⟨pre.length + 1, 6, 8, sScope⟩ :: s.forStack)) fo (by rw [hLe]; simp; omega) hi
    ⟨hctx, by rw [← flowKey_lineKey hctx]; exact hend, by rw [hV.arg]; rfl, (hT.other X hXS).trans hL⟩ rfl hx
    ⟨hV, ⟨acc, hT, by rw [hdrop]; rfl, by rw [hdrop]; rfl⟩, fun _ _ => rfl⟩
  obtain ⟨acc', hT', hTf, hacc⟩ := hJ'.t
  rw [List.drop_length] at hTf hacc
  have hTf' : s'.coll.tbl = setPutAll hS T acc (x.render :: rem.map Item.render) := hTf
  have hst : s' = sfaSt s s'.coll.tbl s'.forStack := hJ'.st s'.coll.tbl s'.forStack
  rw [hfs', hTf'] at hst
  refine ⟨vars', 0, none, ?_, hTf' ▸ (show acc' = _ from hacc) ▸ hT', hJ'.v⟩
  rw [eval_eq_run, eval_eq_run, ← hst]
  have h := hsteps F fuel
  rw [hdrop, loopCost_const] at h
  rw [show fuel + 3 * rem.length + 3 = fuel + (1 + 2) * (x :: rem).length by simp; omega]
  exact h

/-! ### the body -/

/-- the state after `set_new` -/
def sfaMid (s : ScriptSt) : ScriptSt :=
  { ifSt s 1 3 with coll := { tbl := tinsert s.coll.tbl (Coll.handleName s.coll.next) (.set []),
                              next := s.coll.next + 1 } }

/-- the state a successful body leaves, with the table `T` -/
def sfaAfter (s : ScriptSt) (T : Table) : ScriptSt :=
  { s with coll := { tbl := T, next := s.coll.next + 1 },
           ifMeta := ifMetaAfter s.ifMeta (flowKey s 1) 3,
           forMeta := forMetaAfter s.forMeta (flowKey s 6) 8,
           endTable := (s.endTable.put (flowKey s 3) fullNameEndIf).put (flowKey s 8) fullNameEndForIn }

/-- the table a successful body leaves: the new empty set, then one `set_put` per cell -/
def sfaTbl (s : ScriptSt) (L : List Item) : Table :=
  setPutAll (Coll.handleName s.coll.next) (tinsert s.coll.tbl (Coll.handleName s.coll.next) (.set [])) []
    (L.map Item.render)

/-- the argument names no array: `trigger_error` inside the `if` block; the block's if-call
    entry stays on the stack -/
theorem sfa_body_err (F d : Nat) (s : ScriptSt) (vars : Vars) (X : Str) (hX : ArgOK X = true)
    (hv : vars.get sArg1 = some X) (hcI : IfCacheOK s.ifMeta (flowKey s 1) 3)
    (hnl : ∀ l, tget s.coll.tbl X ≠ some (.list l)) (fuel : Nat) :
    scriptBody (bodySem (F + 2) (d + 2) sfaIs) (fun _ => false) (fuel + 3) sfaIs vars s =
      (.error sMsg, vars, { ifSt s 1 3 with ifStack := ifEntry 1 3 s.ctx :: s.ifStack }) := by
  refine Ends.body (n := 3) ?_ fuel
  refine Ends.step (Steps.skip rfl) ?_
  refine Ends.step (Steps.if_not_is_array_other (is := sfaIs) (line := 1) (scope := s.ctx) rfl (bind_eq sfa_closed.2.2.1
    (by simp only [List.map, tmplValue_lit, tmplValue_var, hv, Option.getD_some])) hX sfa_findIf rfl hcI hnl) ?_
  exact Ends.native_error (vals := [sMsg]) rfl rs_trigger (bind_eq sfa_closed.2.2.2.1
    (by simp only [List.map, tmplValue_lit])) rfl

/-- the argument names an array of `n` cells: `3·n + 8` instructions; the new set (the next
    allocator name) holds the cells, every other lookup is unchanged -/
theorem sfa_body_ok (F d : Nat) (s : ScriptSt) (vars : Vars) (X : Str) (L : List Item) (hX : ArgOK X = true)
    (hctx : s.ctx = sScope) (hv : vars.get sArg1 = some X)
    (hcI : IfCacheOK s.ifMeta (flowKey s 1) 3) (hcF : CacheOK s.forMeta (flowKey s 6) 8)
    (hstale : NoStaleFor sScope s.forStack)
    (hL : tget s.coll.tbl X = some (.list L))
    (hfree : tget s.coll.tbl (Coll.handleName s.coll.next) = none) (fuel : Nat) :
    ∃ vars',
      scriptBody (bodySem (F + 2) (d + 2) sfaIs) (fun _ => false) (fuel + 3 * L.length + 8) sfaIs vars s =
        (.finished (some (Coll.handleName s.coll.next)), vars', sfaAfter s (sfaTbl s L)) ∧
      SInvT (tinsert s.coll.tbl (Coll.handleName s.coll.next) (.set [])) (Coll.handleName s.coll.next) (sfaTbl s L)
        ((L.map Item.render).foldl sinsert []) ∧
      clear sScope vars' = clear sScope vars := by
  have hXS : X ≠ Coll.handleName s.coll.next := by
    intro e; rw [e, hfree] at hL; cases hL
  have hpre : Steps (F + 2) (d + 2) sfaIs 4 ⟨0, none, vars, s⟩
      ⟨6, some (Coll.handleName s.coll.next), vars.set sSet (Coll.handleName s.coll.next), sfaMid s⟩ := by
    refine Steps.step (Steps.skip rfl) ?_
    refine Steps.step (Steps.if_not_is_array_list (is := sfaIs) (line := 1) (scope := s.ctx) rfl (bind_eq sfa_closed.2.2.1
      (by simp only [List.map, tmplValue_lit, tmplValue_var, hv, Option.getD_some])) hX sfa_findIf rfl hcI hL) ?_
    refine Steps.step (Steps.skip rfl) ?_
    refine Steps.step (Steps.native (vals := []) rfl rs_set_new rfl (run_setNew vars (ifStP s 1 3 false))) ?_
    exact Steps.refl _
  have hargs : (vars.set sSet (Coll.handleName s.coll.next)).get sArg1 = some X := by
    rw [get_set, if_neg sArg1_ne_sSet]; exact hv
  have hT0 : SInvT (tinsert s.coll.tbl (Coll.handleName s.coll.next) (.set [])) (Coll.handleName s.coll.next)
      (tinsert s.coll.tbl (Coll.handleName s.coll.next) (.set [])) [] :=
    ⟨by rw [tget_tinsert, if_pos rfl], fun _ _ => rfl⟩
  have hLT : tget (tinsert s.coll.tbl (Coll.handleName s.coll.next) (.set [])) X = some (.list L) := by
    rw [tget_tinsert, if_neg hXS, hL]
  obtain ⟨vars', s', hrun, _, hfs', hJ'⟩ := sfa_block.run (d := d + 1) (s := sfaMid s)
    (vars := vars.set sSet (Coll.handleName s.coll.next)) (fo := some (Coll.handleName s.coll.next))
    (SIter vars X (Coll.handleName s.coll.next) (tinsert s.coll.tbl (Coll.handleName s.coll.next) (.set []))
      (forSt (sfaMid s) 6 8) (sfaTbl s L) ((L.map Item.render).foldl sinsert []) L) 0 (fun _ => 1)
    (fun i vars s y h => ⟨h.v.setNext y, h.t, h.st⟩) (fun i vars s st h => ⟨h.v, h.t, h.st⟩)
    (sfa_iter hLT hXS _) hctx (popFor_noStale 6 sScope _ hstale)
    (by rw [← flowKey_lineKey (s := sfaMid s) hctx]; exact hcF) (by rw [hargs]; rfl) hLT
    ⟨⟨by rw [get_set, if_pos rfl], hargs, clear_set_under _ _ _ _ sSet_under⟩, ⟨[], hT0, rfl, rfl⟩, fun _ _ => rfl⟩
  obtain ⟨acc', hT', hTf, hacc⟩ := hJ'.t
  rw [List.drop_length] at hTf hacc
  have hTf' : s'.coll.tbl = sfaTbl s L := hTf
  have hst : s' = sfaSt (forSt (sfaMid s) 6 8) s'.coll.tbl s'.forStack := hJ'.st s'.coll.tbl s'.forStack
  rw [hfs', hTf'] at hst
  refine ⟨vars', ?_, hTf' ▸ (show acc' = _ from hacc) ▸ hT', hJ'.v.clr⟩
  refine Ends.body (n := 3 * L.length + 8) ?_ fuel
  refine ((hpre.trans (hrun (F + 2))).ends (b := 3) ?_).mono (by rw [loopCost_const]; omega)
  refine Ends.step (Steps.skip rfl) ?_
  refine Ends.step (Steps.native (vals := [Coll.handleName s.coll.next]) rfl rs_set (bind_eq sfa_closed.2.2.2.2.2.2
    (by simp only [List.map, tmplValue_var, hJ'.v.set, Option.getD_some])) rfl) ?_
  rw [hst]
  exact Ends.last rfl

/-! ### the whole call -/

theorem sfa_findScript : findScript "set_from_array".toList = some cmd_collections_set_from_array := findScript_of_resolve rs_set_from_array

/-- the state a call ends in whose argument names no array -/
def sfaErrFinal (args : List Str) (st : ScriptSt) : ScriptSt :=
  { ifSt (pubSt sScope args st) 1 3 with
    ifStack := ifEntry 1 3 sScope :: st.ifStack,
    coll := { tbl := tremove (pubSt sScope args st).coll.tbl (Coll.handleName st.coll.next),
              next := st.coll.next + 1 },
    ctx := st.ctx }

/-- the state a call ends in whose argument names the array `L` -/
def sfaOkFinal (args : List Str) (st : ScriptSt) (L : List Item) : ScriptSt :=
  { sfaAfter (pubSt sScope args st) (sfaTbl (pubSt sScope args st) L) with
    coll := { tbl := tremove (sfaTbl (pubSt sScope args st) L) (Coll.handleName st.coll.next),
              next := st.coll.next + 2 },
    ctx := st.ctx }

theorem sfa_alias (F depth fuel : Nat) (a : Str) (rest : List Str) (vars : Vars) (st : ScriptSt)
    (hfree : tget st.coll.tbl (Coll.handleName st.coll.next) = none)
    (hfree1 : tget st.coll.tbl (Coll.handleName (st.coll.next + 1)) = none)
    (hne : a ≠ Coll.handleName st.coll.next) (hok : ArgOK a = true)
    (hstale : NoStaleFor sScope st.forStack)
    (hcI : IfCacheOK st.ifMeta "scope::set_from_array::1".toList 3)
    (hcF : CacheOK st.forMeta "scope::set_from_array::6".toList 8) :
    aliasRun handleOps 1 (scriptBody (bodySem (F + 2) (depth + 2) sfaIs) (fun _ => false)
      (fuel + 3 * arrLen st.coll.tbl a + 8) sfaIs) sScope (a :: rest) vars st =
      match tget st.coll.tbl a with
      | some (.list L) => (.continue (some (Coll.handleName (st.coll.next + 1))), clear sScope vars,
          sfaOkFinal (a :: rest) st L)
      | _ => (.error sMsg, clear sScope vars, sfaErrFinal (a :: rest) st) := by
  have ha : Vars.get (pubVars sScope (a :: rest) vars st) sArg1 = some a := sArg1_eq ▸ get_pubVars_arg1 ..
  have hcI' : IfCacheOK (pubSt sScope (a :: rest) st).ifMeta (flowKey (pubSt sScope (a :: rest) st) 1) 3 := by
    rw [flowKey_lineKey (scope := sScope) rfl, sfa_keys.1]
    exact hcI
  have hcF' : CacheOK (pubSt sScope (a :: rest) st).forMeta (flowKey (pubSt sScope (a :: rest) st) 6) 8 := by
    rw [flowKey_lineKey (scope := sScope) rfl, sfa_keys.2]
    exact hcF
  have hpub : tget (pubSt sScope (a :: rest) st).coll.tbl a = tget st.coll.tbl a := tget_pubSt_ne sScope st _ hne
  have hnl : (∀ l, tget st.coll.tbl a ≠ some (.list l)) →
      aliasRun handleOps 1 (scriptBody (bodySem (F + 2) (depth + 2) sfaIs) (fun _ => false)
        (fuel + 3 * arrLen st.coll.tbl a + 8) sfaIs) sScope (a :: rest) vars st =
      (.error sMsg, clear sScope vars, sfaErrFinal (a :: rest) st) := by
    intro hnl
    have hbody := sfa_body_err F depth (pubSt sScope (a :: rest) st) (pubVars sScope (a :: rest) vars st) a hok ha
      hcI' (by rw [hpub]; exact hnl) (fuel + 5)
    rw [arrLen_of_not_list hnl, aliasRun_handleOps 1 _ sScope (a :: rest) vars st (by simp) (by simp) _ _ _ hbody rfl]
    rfl
  rcases list_or_not st.coll.tbl a with ⟨L, hv⟩ | hn
  · rw [hv]
    have hlen : arrLen st.coll.tbl a = L.length := by simp [arrLen, hv]
    obtain ⟨vars', hbody, _, hclr⟩ := sfa_body_ok F depth (pubSt sScope (a :: rest) st)
      (pubVars sScope (a :: rest) vars st) a L hok rfl ha hcI' hcF' hstale (by rw [hpub]; exact hv)
      (tget_pubSt_next sScope st _ hfree1) fuel
    rw [hlen, aliasRun_handleOps 1 _ sScope (a :: rest) vars st (by simp) (by simp) _ _ _ hbody hclr]
    rfl
  · exact (hnl hn).trans (match_list_of_not hn _ _).symm

/-- the closed form of `set_from_array` run from source -/
theorem sfa_runF (depth fuel : Nat) (a : Str) (rest : List Str) (vars : Vars) (st : ScriptSt)
    (hfree : tget st.coll.tbl (Coll.handleName st.coll.next) = none)
    (hfree1 : tget st.coll.tbl (Coll.handleName (st.coll.next + 1)) = none)
    (hne : a ≠ Coll.handleName st.coll.next) (hok : ArgOK a = true)
    (hstale : NoStaleFor sScope st.forStack)
    (hcI : IfCacheOK st.ifMeta "scope::set_from_array::1".toList 3)
    (hcF : CacheOK st.forMeta "scope::set_from_array::6".toList 8) :
    runScriptCmdF (depth + 2) (fuel + 3 * arrLen st.coll.tbl a + 8) "set_from_array".toList (a :: rest) vars st =
      match tget st.coll.tbl a with
      | some (.list L) => (.continue (some (Coll.handleName (st.coll.next + 1))), clear sScope vars,
          sfaOkFinal (a :: rest) st L)
      | _ => (.error sMsg, clear sScope vars, sfaErrFinal (a :: rest) st) := by
  rw [runScriptCmdF_entry (depth + 2) _ "set_from_array".toList cmd_collections_set_from_array _ sfa_findScript sfa_parses]
  exact sfa_alias (fuel + 3 * arrLen st.coll.tbl a + 6) depth fuel a rest vars st hfree hfree1 hne hok hstale hcI hcF

theorem setPutAll_inv (T0 : Table) (hS : Str) : ∀ (xs : List Str) (T : Table) (acc : List Str),
    SInvT T0 hS T acc → SInvT T0 hS (setPutAll hS T acc xs) (xs.foldl sinsert acc)
  | [], _, _, h => h
  | x :: xs, T, acc, h => by
    exact setPutAll_inv T0 hS xs _ _ (h.put x)

theorem sfaTbl_inv (s : ScriptSt) (L : List Item) :
    SInvT (tinsert s.coll.tbl (Coll.handleName s.coll.next) (.set [])) (Coll.handleName s.coll.next) (sfaTbl s L)
      ((L.map Item.render).foldl sinsert []) :=
  setPutAll_inv _ _ _ _ _ ⟨by rw [tget_tinsert, if_pos rfl], fun _ _ => rfl⟩

/-- is the first argument a live array -/
def headIsArray (t : Table) (args : List Str) : Bool :=
  match args with
  | a :: _ => (match tget t a with | some (.list _) => true | _ => false)
  | [] => false

end Duck.ScriptRun
