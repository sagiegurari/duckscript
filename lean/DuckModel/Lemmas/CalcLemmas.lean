/-
  The fraction type `Frac` of Sdk/Calc.lean against Lean core's `Rat`.  Defined here, for the
  statements of the `C16_calc_…` theorems (Props/C16Calc.lean): `Frac.val` (the rational number a
  fraction stands for), `Frac.WF` (positive denominator, lowest terms) and `Frac.ofRat` (the way
  back).  Every operation of `Frac` is `ofRat` of ℚ's operation on the values (`add_eq` …
  `pow_eq`), so `evalQ e = ofRat e.denote`; `binop` of the typed evaluation, case by case.
-/
import DuckModel.Sdk.Calc

namespace Duck.Calc
open Duck Duck.Spec

/-- the rational number a fraction stands for -/
def Frac.val (f : Frac) : Rat := mkRat f.num f.den

/-- positive denominator, lowest terms -/
def Frac.WF (f : Frac) : Prop := f.den ≠ 0 ∧ f.num.natAbs.gcd f.den = 1

/-- numerator and denominator of a rational number -/
def Frac.ofRat (r : Rat) : Frac := ⟨r.num, r.den⟩

namespace Frac

theorem ofRat_val (r : Rat) : (ofRat r).val = r := Rat.mkRat_self r

theorem ofRat_WF (r : Rat) : (ofRat r).WF := ⟨r.den_nz, r.reduced⟩

theorem ofRat_spec (r : Rat) : (ofRat r).val = r ∧ (ofRat r).WF := ⟨ofRat_val r, ofRat_WF r⟩

theorem norm_eq_ofRat (n : Int) (d : Nat) (hd : d ≠ 0) : norm n d = ofRat (mkRat n d) := by
  simp [norm, ofRat, Rat.num_mkRat, Rat.den_mkRat, hd]

theorem WF.eq_ofRat {f : Frac} (h : f.WF) : f = ofRat f.val := by
  cases f with
  | mk n d =>
    -- `mkRat n d` divides both by `d.gcd n.natAbs`, which is 1
    have hg : d.gcd n.natAbs = 1 := Nat.gcd_comm .. ▸ h.2
    simp [ofRat, val, Rat.num_mkRat, Rat.den_mkRat, h.1, hg]

theorem norm_one (v : Int) : norm v 1 = ofInt v := by
  simp [norm, ofInt, Nat.gcd_one_left]

theorem ofInt_eq_ofRat (v : Int) : ofInt v = ofRat (v : Rat) := rfl

theorem ofInt_add (i j : Int) : ofInt (i + j) = (ofInt i).add (ofInt j) := by
  simp [add, ofInt, norm_one]
theorem ofInt_sub (i j : Int) : ofInt (i - j) = (ofInt i).sub (ofInt j) := by
  simp [sub, ofInt, norm_one]
theorem ofInt_mul (i j : Int) : ofInt (i * j) = (ofInt i).mul (ofInt j) := by
  simp [mul, ofInt, norm_one]

theorem add_eq (a b : Frac) (ha : a.den ≠ 0) (hb : b.den ≠ 0) :
    a.add b = ofRat (a.val + b.val) := by
  unfold add val
  rw [norm_eq_ofRat _ _ (Nat.mul_ne_zero ha hb), Rat.mkRat_add_mkRat _ _ ha hb]

theorem neg_eq (a : Frac) (ha : a.WF) : a.neg = ofRat (- a.val) := by
  have h1 : a.neg.WF := ⟨ha.1, by simpa [neg] using ha.2⟩
  rw [h1.eq_ofRat]
  simp [val, neg, Rat.neg_mkRat]

theorem sub_eq (a b : Frac) (ha : a.den ≠ 0) (hb : b.den ≠ 0) :
    a.sub b = ofRat (a.val - b.val) := by
  unfold sub val
  rw [norm_eq_ofRat _ _ (Nat.mul_ne_zero ha hb), Rat.sub_eq_add_neg, Rat.neg_mkRat,
    Rat.mkRat_add_mkRat _ _ ha hb]
  congr 2
  rw [Int.neg_mul, Int.sub_eq_add_neg]

theorem mul_eq (a b : Frac) (ha : a.den ≠ 0) (hb : b.den ≠ 0) :
    a.mul b = ofRat (a.val * b.val) := by
  unfold mul val
  rw [norm_eq_ofRat _ _ (Nat.mul_ne_zero ha hb), Rat.mkRat_mul_mkRat]

theorem mkRat_pow (n : Int) (d : Nat) (k : Nat) : mkRat (n ^ k) (d ^ k) = (mkRat n d) ^ k := by
  induction k with
  | zero => simp [Rat.pow_zero]; rfl
  | succ k ih => rw [Rat.pow_succ, ← ih, Rat.mkRat_mul_mkRat, Int.pow_succ, Nat.pow_succ]

theorem pow_eq (a : Frac) (k : Nat) (ha : a.den ≠ 0) : a.pow k = ofRat (a.val ^ k) := by
  unfold pow val
  rw [norm_eq_ofRat _ _ (Nat.pos_iff_ne_zero.mp (Nat.pow_pos (Nat.pos_of_ne_zero ha))), mkRat_pow]

end Frac

/-- ordinary arithmetic on fractions computes the numerator and the denominator of the value
    in ℚ -/
theorem evalQ_eq (e : Expr) : evalQ e = Frac.ofRat e.denote := by
  induction e with
  | int n => rfl
  | dec m k =>
    simp only [evalQ, Expr.denote]
    exact Frac.norm_eq_ofRat _ _ (Nat.pos_iff_ne_zero.mp (Nat.pow_pos (by decide)))
  | add a b iha ihb =>
    simp only [evalQ, Expr.denote, iha, ihb]
    rw [Frac.add_eq _ _ (Rat.den_nz _) (Rat.den_nz _), Frac.ofRat_val, Frac.ofRat_val]
  | sub a b iha ihb =>
    simp only [evalQ, Expr.denote, iha, ihb]
    rw [Frac.sub_eq _ _ (Rat.den_nz _) (Rat.den_nz _), Frac.ofRat_val, Frac.ofRat_val]
  | mul a b iha ihb =>
    simp only [evalQ, Expr.denote, iha, ihb]
    rw [Frac.mul_eq _ _ (Rat.den_nz _) (Rat.den_nz _), Frac.ofRat_val, Frac.ofRat_val]
  | neg a iha =>
    simp only [evalQ, Expr.denote, iha]
    rw [Frac.neg_eq _ (Frac.ofRat_WF _), Frac.ofRat_val]
  | pow a n iha =>
    simp only [evalQ, Expr.denote, iha]
    rw [Frac.pow_eq _ _ (Rat.den_nz _), Frac.ofRat_val]

theorem evalQ_WF (e : Expr) : (evalQ e).WF := by rw [evalQ_eq]; exact Frac.ofRat_WF _

/-- a value reached by a binary operation stands for the operation on what the operands stand for,
    provided the `Int` operation is the fraction operation on integers -/
theorem binop_frac {fi : Int → Int → Int} {ff : Frac → Frac → Frac}
    (hi : ∀ i j, Frac.ofInt (fi i j) = ff (Frac.ofInt i) (Frac.ofInt j))
    {x y : Option Val} {v : Val} (h : binop fi ff x y = some v) :
    ∃ a b, x = some a ∧ y = some b ∧ v.frac = ff a.frac b.frac := by
  match x, y with
  | some (.int i), some (.int j) =>
    simp only [binop] at h
    split at h <;> cases h
    exact ⟨_, _, rfl, rfl, hi i j⟩
  | some (.int _), some (.flt _ _) | some (.flt _ _), some _ =>
    cases h; exact ⟨_, _, rfl, rfl, rfl⟩
  | none, _ | some (.int _), none | some (.flt _ _), none => simp [binop] at h

theorem binop_int (fi : Int → Int → Int) (ff : Frac → Frac → Frac) (i j : Int) :
    binop fi ff (some (.int i)) (some (.int j)) =
      if inI64 (fi i j) then some (.int (fi i j)) else none := rfl

end Duck.Calc
