/-
  The variable commands and the scope stack (Sdk/VarScope.lean) against the map / stack-of-maps
  reference (Spec/MapStack.lean): lookups after each map operation; `set` against `chain`; the
  simulation (`Rel`, `Sim`, `sim_run`) with the vocabulary of the C11 statements (`specOp`, `OpOK`,
  `OutsEq`); the stack discipline (`balanced`); unique keys as representation invariant (`NK`).
-/
import DuckModel.Sdk.VarScope
import DuckModel.Lemmas.VarsLemmas
import DuckModel.Spec.MapStack
import DuckModel.Lemmas.ConditionLemmas

namespace Duck.VarScope
open Duck Duck.Spec.MapStack

/-! ### `Vars` lookups -/

theorem get_dropPrefix (m : Vars) (p x : Str) :
    Vars.get (dropPrefix m p) x = if p.isPrefixOf x = true then none else Vars.get m x := by
  have := get_filter m (fun a => !(p.isPrefixOf a)) x
  simp only [dropPrefix]
  rw [this]
  by_cases h : p.isPrefixOf x = true <;> simp [h]

theorem get_eraseAll (m : Vars) (ks : List Str) (x : Str) :
    Vars.get (eraseAll m ks) x = if x ∈ ks then none else Vars.get m x := by
  induction ks generalizing m with
  | nil => simp [eraseAll]
  | cons k ks ih =>
    simp only [eraseAll, ih, get_erase, List.mem_cons]
    by_cases h1 : x ∈ ks <;> by_cases h2 : x = k <;> simp [h1, h2]

theorem get_insertAll (base l : Vars) (x : Str) :
    Vars.get (insertAll base l) x =
      match Vars.get l x with
      | some v => some v
      | none => Vars.get base x := by
  induction l with
  | nil => simp [insertAll, Vars.get]
  | cons p rest ih =>
    obtain ⟨k, v⟩ := p
    simp only [insertAll, get_set, Vars.get]
    by_cases h : k = x
    · subst h; simp
    · have h' : ¬ x = k := fun e => h e.symm
      simp [h, h', ih]

theorem get_insertAll_nil (l : Vars) (x : Str) : Vars.get (insertAll [] l) x = Vars.get l x := by
  rw [get_insertAll]
  cases Vars.get l x <;> simp [Vars.get]

/-- pop's rebuild: saved map first, then the copied names on top -/
theorem get_popMap (old new : Vars) (x : Str) :
    Vars.get (insertAll (insertAll [] old) new) x =
      match Vars.get new x with
      | some v => some v
      | none => Vars.get old x := by
  rw [get_insertAll, get_insertAll_nil]

/-- the copy loop: with `new` disjoint from `vars`, the names of the list that are defined
    move to `new` with their values -/
theorem get_copyLoop (vars new : Vars) (ks : List Str) (x : Str)
    (hd : ∀ y, (Vars.get new y).isSome → Vars.get vars y = none) :
    Vars.get (copyLoop vars new ks).2 x =
      match Vars.get new x with
      | some v => some v
      | none => if x ∈ ks then Vars.get vars x else none := by
  induction ks generalizing vars new with
  | nil => simp only [copyLoop, List.not_mem_nil, if_false]; cases Vars.get new x <;> rfl
  | cons k ks ih =>
    simp only [copyLoop]
    cases hk : Vars.get vars k with
    | none =>
      simp only
      rw [ih vars new hd]
      cases hn : Vars.get new x with
      | some w => rfl
      | none =>
        simp only [List.mem_cons]
        by_cases hx : x = k
        · subst hx; simp [hk]
        · simp [hx]
    | some v =>
      simp only
      have hd' : ∀ y, (Vars.get (new.set k v) y).isSome → Vars.get (vars.erase k) y = none := by
        intro y hy
        rw [get_erase]
        by_cases hyk : y = k
        · simp [hyk]
        · rw [get_set] at hy
          simp only [hyk, if_false] at hy ⊢
          exact hd y hy
      rw [ih (vars.erase k) (new.set k v) hd', get_set, get_erase]
      by_cases hx : x = k
      · subst hx
        have : Vars.get new x = none := by
          cases hn : Vars.get new x with
          | none => rfl
          | some w =>
            have := hd x (by simp [hn])
            rw [hk] at this; cases this
        simp [this, hk]
      · simp only [hx, if_false, List.mem_cons, false_or]

theorem get_copyLoop_nil (vars : Vars) (ks : List Str) (x : Str) :
    Vars.get (copyLoop vars [] ks).2 x = if x ∈ ks then Vars.get vars x else none := by
  rw [get_copyLoop vars [] ks x (by intro y hy; simp [Vars.get] at hy)]
  simp [Vars.get]

theorem mem_keys (m : Vars) (x : Str) : x ∈ keys m ↔ (Vars.get m x).isSome = true := by
  induction m with
  | nil => simp [keys, Vars.get]
  | cons p rest ih =>
    obtain ⟨k, v⟩ := p
    simp only [keys, List.map_cons, List.mem_cons, Vars.get] at ih ⊢
    by_cases h : k = x
    · subst h; simp
    · have h' : ¬ x = k := fun e => h e.symm
      simp [h, h', ih]

theorem get_updateOutput (m : Vars) (out : Option Str) (v : Option Str) (x : Str) :
    Vars.get (m.updateOutput out v) x = Map.assign (Vars.get m) out v x := by
  cases out with
  | none => rfl
  | some o =>
    cases v with
    | some w => simp [Vars.updateOutput, Map.assign, Map.put, get_set]
    | none => simp [Vars.updateOutput, Map.assign, Map.del, get_erase]

/-! ### `set` -/

/-- the result of the `set` loop as a command result (its error carries no message) -/
def resOf (e : Except Unit (Option Str)) : CmdResult :=
  match e with
  | .ok r => .continue r
  | .error _ => .error []

theorem setLoop_chain (v : Str) (rest : List Str) (last : Option Str) :
    resOf (setLoop true last (v :: rest)) = chain v rest := by
  fun_induction chain v rest generalizing last with
  | case1 v =>  -- the last value
    simp only [setLoop, if_true]
    by_cases h : isTrue (some v) = true <;> simp [h, resOf]
  | case2 v o h =>  -- a value and one more word: the value is true
    simp only [setLoop, if_true, isTrue_eq_truthy, h, resOf]
  | case3 v o h =>  -- … it is false: an error, whatever the word
    simp only [setLoop, if_true, isTrue_eq_truthy, h, resOf]
    by_cases ho : o = kwOr <;> simp [ho, err]
  | case4 v o v' rest h =>  -- a true value with more behind it ends the chain
    simp only [setLoop, if_true, isTrue_eq_truthy, h, resOf]
  | case5 v v' rest h ih =>  -- a false value before `or`: go on with the next
    have := ih (some v)
    simpa [setLoop, isTrue_eq_truthy, h, kwOr] using this
  | case6 v o v' rest h ho =>  -- a false value before another word
    have ho' : ¬ o = kwOr := ho
    simp [setLoop, isTrue_eq_truthy, h, ho', resOf, err]

theorem cmdSet_eq (args : List Str) : cmdSet args = setValue args := by
  match args with
  | [] => rfl
  | [a] => rfl
  | v :: o :: rest =>
    have h := setLoop_chain v (o :: rest) none
    simp only [cmdSet, setValue]
    rw [← h]
    cases setLoop true none (v :: o :: rest) <;> rfl

/-! ### the simulation relation between the model and the map/stack reference -/

/-- the model and the reference each have their own enumeration of the nine commands (the
    reference is written from the property statement alone); this is the identity between them -/
def specCmd : VsCmd → Cmd
  | .set => .set | .unset => .unset | .setByName => .setByName | .getByName => .getByName
  | .isDefined => .isDefined | .unsetAllVars => .unsetAllVars | .clearScope => .clearScope
  | .pushStack => .pushStack | .popStack => .popStack

/-- the same script line, read by the reference -/
def specOp : VsOp → Op
  | .cmd out c args => .cmd out (specCmd c) args
  | .names out h => .names out h

/-- names reserved for the temporaries of the `unset` alias script -/
def reserved (k : Str) : Bool := (unsetScope ++ "::".toList).isPrefixOf k

/-- the variable names an operation can create -/
def writes : VsOp → List Str
  | .cmd out c args =>
    out.toList ++ (match c, args with
      | .setByName, k :: _ :: _ => [k]
      | _, _ => [])
  | .names out _ => out.toList

/-- the operation does not create a variable in the namespace of `unset`'s temporaries -/
def OpOK (op : VsOp) : Prop := ∀ k ∈ writes op, reserved k = false

instance (op : VsOp) : Decidable (OpOK op) := by unfold OpOK; infer_instance

/-- lookup-equality (plus: no reserved name is defined) -/
def Rel (mv : Vars) (sv : Map) : Prop :=
  (∀ k, Vars.get mv k = sv k) ∧ (∀ k, reserved k = true → sv k = none)

/-- the saved maps are related position by position (in particular: same depth) -/
def StackRel : List Vars → List Map → Prop
  | [], [] => True
  | mv :: ms, sv :: ss => Rel mv sv ∧ StackRel ms ss
  | _, _ => False

def Sim (m : VsSt) (s : S) : Prop := Rel m.vars s.map ∧ StackRel m.stack s.stack

/-- outputs agree: equal results; for get_all_var_names the reported list has exactly the
    defined names -/
def OutEq : VsOut → Out → Prop
  | .res r, .res r' => r = r'
  | .names l, .names p => ∀ k, k ∈ l ↔ p k = true
  | _, _ => False

def OutsEq : List VsOut → List Out → Prop
  | [], [] => True
  | a :: as, b :: bs => OutEq a b ∧ OutsEq as bs
  | _, _ => False

theorem rel_empty : Rel [] Map.empty := ⟨fun _ => rfl, fun _ _ => rfl⟩

theorem rel_erase {mv sv} (h : Rel mv sv) (k : Str) : Rel (mv.erase k) (sv.del k) := by
  refine ⟨fun x => ?_, fun x hx => ?_⟩
  · simp only [get_erase, Map.del, h.1]
  · simp only [Map.del]; split <;> simp [h.2 x hx]

theorem rel_set {mv sv} (h : Rel mv sv) (k v : Str) (hk : reserved k = false) :
    Rel (mv.set k v) (sv.put k v) := by
  refine ⟨fun x => ?_, fun x hx => ?_⟩
  · simp only [get_set, Map.put, h.1]
  · simp only [Map.put]
    have : ¬ x = k := fun e => by subst e; rw [hk] at hx; cases hx
    simp [this, h.2 x hx]

theorem rel_assign {mv sv} (h : Rel mv sv) (out : Option Str) (v : Option Str)
    (hk : ∀ k ∈ out.toList, reserved k = false) :
    Rel (mv.updateOutput out v) (sv.assign out v) := by
  cases out with
  | none => exact h
  | some o =>
    have ho := hk o (by simp)
    cases v with
    | some w => exact rel_set h o w ho
    | none => exact rel_erase h o

theorem rel_dropPrefix {mv sv} (h : Rel mv sv) (p : Str) :
    Rel (dropPrefix mv p) (sv.delPrefix p) := by
  refine ⟨fun x => ?_, fun x hx => ?_⟩
  · simp only [get_dropPrefix, Map.delPrefix, h.1]
  · simp only [Map.delPrefix]; split <;> simp [h.2 x hx]

theorem rel_unset {mv sv} (h : Rel mv sv) (ks : List Str) :
    Rel (clearScope (eraseAll mv ks) unsetScope) (sv.delAll ks) := by
  refine ⟨fun x => ?_, fun x hx => ?_⟩
  · simp only [clearScope, get_dropPrefix, get_eraseAll, Map.delAll, h.1]
    by_cases hr : reserved x = true
    · have hr' : (unsetScope ++ "::".toList).isPrefixOf x = true := hr
      rw [if_pos hr', h.2 x hr]; split <;> rfl
    · have hr' : ¬ (unsetScope ++ "::".toList).isPrefixOf x = true := hr
      rw [if_neg hr']
  · simp only [Map.delAll]; split <;> simp [h.2 x hx]

theorem rel_push {mv sv} (h : Rel mv sv) (copy : List Str) :
    Rel (insertAll [] (copyLoop mv [] copy).2) (sv.restrict copy) := by
  refine ⟨fun x => ?_, fun x hx => ?_⟩
  · simp only [get_insertAll_nil, get_copyLoop_nil, Map.restrict, h.1]
  · simp only [Map.restrict]; split <;> simp [h.2 x hx]

theorem rel_pop {mv sv old saved} (h : Rel mv sv) (ho : Rel old saved) (copy : List Str) :
    Rel (insertAll (insertAll [] old) (copyLoop mv [] copy).2) (Map.overlay saved sv copy) := by
  refine ⟨fun x => ?_, fun x hx => ?_⟩
  · simp only [get_popMap, get_copyLoop_nil, Map.overlay, h.1, ho.1]
    by_cases hc : x ∈ copy
    · simp only [hc, if_true]
      cases sv x <;> cases saved x <;> simp
    · cases saved x <;> simp [hc]
  · simp only [Map.overlay, h.2 x hx, ho.2 x hx]; split <;> rfl

theorem copyArgs_eq (args : List Str) : copyArgs args = copyOf args := by
  cases args <;> rfl

theorem boolStr_eq (b : Bool) : boolStr b = tf b := rfl

/-- one command body: states stay related, results are equal -/
theorem sim_runCmd {m : VsSt} {s : S} (h : Sim m s) (c : VsCmd) (args : List Str)
    (hk : ∀ k v rest, c = .setByName → args = k :: v :: rest → reserved k = false) :
    Sim (runCmd m c args).1 (exec s (specCmd c) args).1 ∧
      (runCmd m c args).2 = (exec s (specCmd c) args).2 := by
  obtain ⟨hv, hs⟩ := h
  cases c with
  | set => exact ⟨⟨hv, hs⟩, cmdSet_eq args⟩
  | unset => exact ⟨⟨rel_unset hv args, hs⟩, rfl⟩
  | setByName =>
    match args with
    | [] => exact ⟨⟨hv, hs⟩, rfl⟩
    | [k] => exact ⟨⟨rel_erase hv k, hs⟩, rfl⟩
    | k :: v :: rest => exact ⟨⟨rel_set hv k v (hk k v rest rfl rfl), hs⟩, rfl⟩
  | getByName =>
    match args with
    | [] => exact ⟨⟨hv, hs⟩, rfl⟩
    | k :: rest =>
      refine ⟨⟨hv, hs⟩, ?_⟩
      simp [runCmd, cmdGetByName, specCmd, exec, hv.1]
  | isDefined =>
    match args with
    | [] => exact ⟨⟨hv, hs⟩, rfl⟩
    | k :: rest =>
      refine ⟨⟨hv, hs⟩, ?_⟩
      simp [runCmd, cmdIsDefined, specCmd, exec, Vars.contains, hv.1, boolStr_eq]
  | unsetAllVars =>
    match args with
    | [] => exact ⟨⟨rel_empty, hs⟩, rfl⟩
    | [a] => exact ⟨⟨rel_empty, hs⟩, rfl⟩
    | a :: p :: rest =>
      by_cases ha : a = kwPrefix
      · subst ha
        exact ⟨⟨rel_dropPrefix hv p, hs⟩, rfl⟩
      · have ha' : ¬ a = "--prefix".toList := ha
        simp only [runCmd, cmdUnsetAllVars, specCmd, exec, ha, ha', if_false]
        exact ⟨⟨rel_empty, hs⟩, trivial⟩
  | clearScope =>
    match args with
    | [] => exact ⟨⟨hv, hs⟩, rfl⟩
    | n :: rest => exact ⟨⟨rel_dropPrefix hv _, hs⟩, rfl⟩
  | pushStack =>
    refine ⟨⟨?_, ?_⟩, rfl⟩
    · simp only [runCmd, scopePush, specCmd, exec, copyArgs_eq]
      exact rel_push hv _
    · simp only [runCmd, scopePush, specCmd, exec]
      exact ⟨hv, hs⟩
  | popStack =>
    obtain ⟨mv, mstack⟩ := m
    obtain ⟨sv, sstack⟩ := s
    match mstack, sstack, hs with
    | [], [], _ => exact ⟨⟨hv, trivial⟩, rfl⟩
    | old :: ms, saved :: ss, ⟨ho, hrest⟩ =>
      simp only [runCmd, scopePop, specCmd, exec, copyArgs_eq]
      exact ⟨⟨rel_pop hv ho _, hrest⟩, rfl⟩

theorem stackRel_length {ms : List Vars} {ss : List Map} (h : StackRel ms ss) :
    ms.length = ss.length := by
  induction ms generalizing ss with
  | nil => cases ss with
    | nil => rfl
    | cons _ _ => exact h.elim
  | cons a ms ih => cases ss with
    | nil => exact h.elim
    | cons b ss => simp [ih h.2]

/-- one operation (command body + the runner's write to the output variable) -/
theorem sim_apply {m : VsSt} {s : S} (h : Sim m s) (op : VsOp) (hok : OpOK op) :
    Sim (apply m op).1 (step s (specOp op)).1 ∧ OutEq (apply m op).2 (step s (specOp op)).2 := by
  cases op with
  | cmd out c args =>
    have hout : ∀ k ∈ out.toList, reserved k = false :=
      fun k hk => hok k (List.mem_append_left _ hk)
    have hkey : ∀ k v rest, c = .setByName → args = k :: v :: rest → reserved k = false := by
      intro k v rest hc ha
      subst hc; subst ha
      exact hok k (List.mem_append_right _ (by simp))
    obtain ⟨hsim, hres⟩ := sim_runCmd h c args hkey
    simp only [apply, step, specOp]
    rw [← hres]
    generalize (runCmd m c args).2 = r
    obtain ⟨hv, hs⟩ := hsim
    cases r with
    | «continue» v => exact ⟨⟨rel_assign hv out v hout, hs⟩, rfl⟩
    | goTo v g => exact ⟨⟨rel_assign hv out v hout, hs⟩, rfl⟩
    | error e =>
      refine ⟨⟨?_, hs⟩, ?_⟩
      · exact rel_assign hv out (some "false".toList) hout
      · simp only [stored]; rfl
    | crash e => exact ⟨⟨hv, hs⟩, rfl⟩
    | exit v => exact ⟨⟨rel_assign hv out v hout, hs⟩, rfl⟩
  | names out t =>
    have hout : ∀ k ∈ out.toList, reserved k = false := fun k hk => hok k hk
    obtain ⟨hv, hs⟩ := h
    refine ⟨⟨rel_assign hv out (some t) hout, hs⟩, ?_⟩
    intro k
    simp only [mem_keys, hv.1]

theorem sim_run {m : VsSt} {s : S} (h : Sim m s) (ops : List VsOp) (hok : ∀ op ∈ ops, OpOK op) :
    Sim (run m ops).1 (Spec.MapStack.run s (ops.map specOp)).1 ∧
      OutsEq (run m ops).2 (Spec.MapStack.run s (ops.map specOp)).2 := by
  induction ops generalizing m s with
  | nil => exact ⟨h, trivial⟩
  | cons op ops ih =>
    obtain ⟨h1, o1⟩ := sim_apply h op (hok op (by simp))
    obtain ⟨h2, o2⟩ := ih h1 (fun o ho => hok o (by simp [ho]))
    exact ⟨h2, o1, o2⟩

/-! ### the stack discipline -/

/-- how a command body changes the stack: push conses the current map, pop removes the top -/
theorem stack_runCmd (st : VsSt) (c : VsCmd) (args : List Str) :
    (runCmd st c args).1.stack =
      match c with
      | .pushStack => st.vars :: st.stack
      | .popStack => st.stack.tail
      | _ => st.stack := by
  cases c <;> try rfl
  · cases hst : st.stack with
    | nil => simp [runCmd, scopePop, hst]
    | cons a b => simp [runCmd, scopePop, hst]

theorem stack_apply (st : VsSt) (op : VsOp) :
    (apply st op).1.stack =
      match op with
      | .cmd _ .pushStack _ => st.vars :: st.stack
      | .cmd _ .popStack _ => st.stack.tail
      | _ => st.stack := by
  cases op with
  | cmd out c args =>
    have hw : ∀ (st : VsSt) (r : CmdResult), (writeOutput st out r).stack = st.stack :=
      fun st r => by cases r <;> rfl
    simp only [apply, hw, stack_runCmd]
    cases c <;> rfl
  | names out t => rfl

/-- `balanced d ops`: starting `d` levels above a base, `ops` never pops the base level and
    ends exactly at the base -/
def balanced : Nat → List VsOp → Bool
  | d, [] => d == 0
  | d, .cmd _ .pushStack _ :: ops => balanced (d + 1) ops
  | 0, .cmd _ .popStack _ :: _ => false
  | d + 1, .cmd _ .popStack _ :: ops => balanced d ops
  | d, _ :: ops => balanced d ops

theorem stack_balanced (st : VsSt) (pre base : List Vars) (ops : List VsOp)
    (hst : st.stack = pre ++ base) (hb : balanced pre.length ops = true) :
    (run st ops).1.stack = base := by
  induction ops generalizing st pre with
  | nil =>
    have : pre = [] := by
      cases pre with
      | nil => rfl
      | cons a b => simp [balanced] at hb
    simpa [run, this] using hst
  | cons op ops ih =>
    simp only [run]
    have hs := stack_apply st op
    cases op with
    | names out t =>
      exact ih (apply st (.names out t)).1 pre (by rw [hs]; exact hst) (by simpa [balanced] using hb)
    | cmd out c args =>
      cases c with
      | pushStack =>
        exact ih _ (st.vars :: pre) (by rw [hs]; simp [hst]) (by simpa [balanced] using hb)
      | popStack =>
        cases pre with
        | nil => simp [balanced] at hb
        | cons a pre' =>
          exact ih _ pre' (by rw [hs]; simp [hst]) (by simpa [balanced] using hb)
      | _ => exact ih _ pre (by rw [hs]; exact hst) (by simpa [balanced] using hb)

/-! ### the representation invariant: keys are unique -/

def NK (m : Vars) : Prop := (keys m).Nodup

theorem nk_nil : NK [] := List.nodup_nil

theorem nk_filter {m : Vars} (h : NK m) (f : Str × Str → Bool) : NK (m.filter f) :=
  List.Nodup.sublist ((List.filter_sublist (l := m)).map Prod.fst) h

theorem nk_erase {m : Vars} (h : NK m) (k : Str) : NK (m.erase k) := nk_filter h _

theorem nk_set {m : Vars} (h : NK m) (k v : Str) : NK (m.set k v) := by
  have h1 : NK (m.erase k) := nk_erase h k
  have h2 : k ∉ keys (m.erase k) := by
    rw [mem_keys, get_erase]; simp
  exact List.nodup_cons.mpr ⟨h2, h1⟩

theorem nk_updateOutput {m : Vars} (h : NK m) (out : Option Str) (v : Option Str) :
    NK (m.updateOutput out v) := by
  cases out with
  | none => exact h
  | some o => cases v with
    | some w => exact nk_set h o w
    | none => exact nk_erase h o

theorem nk_eraseAll {m : Vars} (h : NK m) (ks : List Str) : NK (eraseAll m ks) := by
  induction ks generalizing m with
  | nil => exact h
  | cons k ks ih => exact ih (nk_erase h k)

theorem nk_insertAll {base : Vars} (h : NK base) (l : Vars) : NK (insertAll base l) := by
  induction l with
  | nil => exact h
  | cons p rest ih => obtain ⟨k, v⟩ := p; exact nk_set ih k v

def Inv (st : VsSt) : Prop := NK st.vars ∧ ∀ s ∈ st.stack, NK s

theorem inv_runCmd {st : VsSt} (h : Inv st) (c : VsCmd) (args : List Str) : Inv (runCmd st c args).1 := by
  obtain ⟨hv, hs⟩ := h
  cases c with
  | set => exact ⟨hv, hs⟩
  | unset => exact ⟨nk_filter (nk_eraseAll hv args) _, hs⟩
  | setByName =>
    match args with
    | [] => exact ⟨hv, hs⟩
    | [k] => exact ⟨nk_erase hv k, hs⟩
    | k :: v :: rest => exact ⟨nk_set hv k v, hs⟩
  | getByName => exact ⟨hv, hs⟩
  | isDefined => exact ⟨hv, hs⟩
  | unsetAllVars =>
    refine ⟨?_, hs⟩
    simp only [runCmd, cmdUnsetAllVars]
    split
    · split
      · exact nk_filter hv _
      · exact nk_nil
    · exact nk_nil
  | clearScope =>
    match args with
    | [] => exact ⟨hv, hs⟩
    | n :: rest => exact ⟨nk_filter hv _, hs⟩
  | pushStack =>
    refine ⟨nk_insertAll nk_nil _, ?_⟩
    intro s hmem
    simp only [runCmd, scopePush, List.mem_cons] at hmem
    rcases hmem with rfl | hmem
    · exact hv
    · exact hs s hmem
  | popStack =>
    obtain ⟨vars, stack⟩ := st
    cases stack with
    | nil => exact ⟨hv, hs⟩
    | cons old rest =>
      refine ⟨nk_insertAll (nk_insertAll nk_nil _) _, ?_⟩
      intro s hmem
      exact hs s (List.mem_cons_of_mem _ hmem)

theorem inv_writeOutput {st : VsSt} (h : Inv st) (out : Option Str) (r : CmdResult) :
    Inv (writeOutput st out r) := by
  cases r with
  | «continue» v => exact ⟨nk_updateOutput h.1 out v, h.2⟩
  | goTo v g => exact ⟨nk_updateOutput h.1 out v, h.2⟩
  | error e => exact ⟨nk_updateOutput h.1 out (some "false".toList), h.2⟩
  | crash e => exact h
  | exit v => exact ⟨nk_updateOutput h.1 out v, h.2⟩

theorem inv_apply {st : VsSt} (h : Inv st) (op : VsOp) : Inv (apply st op).1 := by
  cases op with
  | cmd out c args => exact inv_writeOutput (inv_runCmd h c args) out _
  | names out t => exact ⟨nk_updateOutput h.1 out (some t), h.2⟩

def NamesNodup : VsOut → Prop
  | .names l => l.Nodup
  | .res _ => True

theorem names_nodup_run {st : VsSt} (h : Inv st) (ops : List VsOp) :
    Inv (run st ops).1 ∧ ∀ o ∈ (run st ops).2, NamesNodup o := by
  induction ops generalizing st with
  | nil => exact ⟨h, fun o ho => by simp [run] at ho⟩
  | cons op ops ih =>
    obtain ⟨h2, h3⟩ := ih (inv_apply h op)
    refine ⟨h2, ?_⟩
    intro o ho
    simp only [run, List.mem_cons] at ho
    rcases ho with rfl | ho
    · cases op with
      | cmd out c args => exact trivial
      | names out t => exact h.1
    · exact h3 o ho

end Duck.VarScope
