/- The helper lemmas about the suffix-form parser model, under one import. -/
import DuckModel.Parser
import DuckModel.Spec.Render
import DuckModel.Lemmas.CharsLemmas
import DuckModel.Lemmas.PvLemmas
import DuckModel.Lemmas.ArgLemmas
import DuckModel.Lemmas.LineLemmas
import DuckModel.Lemmas.RenderLemmas
import DuckModel.Lemmas.ScriptLemmas
import DuckModel.Lemmas.ErrLemmas
import DuckModel.Lemmas.DomainLemmas
