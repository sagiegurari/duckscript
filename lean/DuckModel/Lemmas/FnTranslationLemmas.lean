/-
  Helper lemmas for Props/C08TranslatedFns.lean: the functions of Generated/ParserFns.lean
  (translated from duckscript/src/parser.rs by bin/rust2lean.py) against the hand-written
  index-faithful twin (ParserIndexed.lean).

  The translated loops keep their mutable locals in a TUPLE (ordered by type, then declaration),
  the hand-written ones in a structure: `iFor_map` carries a loop over one state type to a loop
  over the other along a map of states.
-/
import DuckModel.ParserIndexed
import DuckModel.Generated.ParserFns

namespace Duck
open Duck.Generated

def IStep.map {σ τ : Type} (f : σ → τ) : IStep σ → IStep τ
  | .next s => .next (f s)
  | .brk s => .brk (f s)
  | .err e => .err e
  | .panic => .panic

def IOut.map {α β : Type} (f : α → β) : IOut α → IOut β
  | .ok a => .ok (f a)
  | .err e => .err e
  | .panic => .panic

theorem iFor_map {σ τ : Type} (f : σ → τ) (b : σ → IStep σ) (b' : τ → IStep τ)
    (h : ∀ s, b' (f s) = (b s).map f) : ∀ n s, iFor b' n (f s) = (iFor b n s).map f := by
  intro n
  induction n with
  | zero => intro s; rfl
  | succ n ih =>
    intro s
    simp only [iFor, h]
    cases b s with
    | next s' => simpa [IStep.map] using ih s'
    | brk s' => rfl
    | err e => rfl
    | panic => rfl

/-! ### `parse_arguments_with_options` -/

theorem parseNextArgumentGen_eq (line : Str) (start : Nat) (cac : Bool) :
    parseNextArgumentGen line start cac = iParseNextValue (argFlags cac) line start := rfl

theorem argsLoopGen_eq (cac : Bool) (line : Str) : ∀ (fuel i : Nat) (acc : List Str),
    (iLoop (parseArgumentsWithOptionsBodyGen line cac) fuel (i, acc)).map Prod.snd =
      iArgsLoop cac line fuel i acc := by
  intro fuel
  induction fuel with
  | zero => intro i acc; rfl
  | succ n ih =>
    intro i acc
    simp only [iLoop, iArgsLoop, parseArgumentsWithOptionsBodyGen, parseNextArgumentGen_eq]
    cases iParseNextValue (argFlags cac) line i with
    | panic => rfl
    | err e => rfl
    | ok x =>
      obtain ⟨j, v⟩ := x
      cases v with
      | none => rfl
      | some a => exact ih j (acc ++ [a])

/-! ### `find_label` -/

def iflTuple (s : IFL) : Nat × Option Str := (s.index, s.label)

theorem findLabelBodyGen_eq (line : Str) (s : IFL) :
    findLabelBodyGen line (iflTuple s) = (iflBody line s).map iflTuple := by
  fun_cases iflBody line s
  -- the translated body has no decrement (`index += 1; index -= 1` came out folded); the twin's
  -- `decr` only ever meets `s.index + 1`
  all_goals simp_all +zetaDelta [findLabelBodyGen, iflTuple, IStep.map, nameFlags, decr]

/-! ### `find_output_and_command` -/

def iocTuple (s : IOC) : Nat × Option Str := (s.index, s.output)

theorem findOutputAndCommandBodyGen_eq (line v : Str) (s : IOC) :
    findOutputAndCommandBodyGen line v (iocTuple s) = (iocBody line v s).map iocTuple := by
  fun_cases iocBody line v s
  all_goals simp_all +zetaDelta [findOutputAndCommandBodyGen, iocTuple, IStep.map]

/-- what `find_output_and_command` leaves in the instruction it was handed: the output and,
    when a command was found, the command -/
def fillInstr (ins : ScriptInstr) (o c : Option Str) : ScriptInstr :=
  { ins with output := o, command := match c with | some x => some x | none => ins.command }

/-! ### `parse_pre_process_line` -/

def ippTuple (s : IPP) : Nat × Str := (s.index, s.command)

theorem parsePreProcessLineBodyGen_eq (line : Str) (s : IPP) :
    parsePreProcessLineBodyGen line (ippTuple s) = (ippBody line s).map ippTuple := by
  fun_cases ippBody line s
  all_goals simp_all +zetaDelta [parsePreProcessLineBodyGen, ippTuple, IStep.map]

end Duck
