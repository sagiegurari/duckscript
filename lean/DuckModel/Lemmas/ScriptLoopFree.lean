/-
  The four script commands without a loop - `array_is_empty`, `map_is_empty`, `set_is_empty` (one
  body over three size commands: `SizeScript`) and `map_contains_key` (`MckScript`) - run from their
  source: the body followed line by line, the run in closed form, and from it agreement with the
  specified function, termination and error propagation.  The closed facts about the four table
  entries (parse of the text, class of the variable names) are evaluated in `loopFree_closed`.
-/
import DuckModel.Lemmas.ScriptFlowSteps

namespace Duck.ScriptRun
open Duck Duck.Alias Duck.Coll Duck.Spec

/-! ### the three `*_is_empty` scripts -/

/-- `${scope::<cmd>::length}`, the variable the body keeps the size in -/
def lenKey (scope : Str) : Str := scope ++ "::length".toList

/-- the instruction list of the three `*_is_empty` scripts -/
def sizeI1 (scope sizeName : Str) : Instruction :=
  ⟨{ line := some 2, source := none },
     .script { output := some (lenKey scope), command := some sizeName,
               args := some ([[Seg.var (argKey scope 1)]].map renderTemplate) }⟩

def sizeI2 (scope : Str) : Instruction :=
  ⟨{ line := some 3, source := none },
     .script { output := none, command := some "equals".toList,
               args := some ([[Seg.lit "0".toList], [Seg.var (lenKey scope)]].map renderTemplate) }⟩

def sizeIs (scope sizeName : Str) : List Instruction :=
  [⟨{ line := some 1, source := none }, .empty⟩, sizeI1 scope sizeName, sizeI2 scope]

theorem sizeIs_eq (scope : Str) (cmd : String) :
    sizeIs scope cmd.toList =
      [emptyI 1, mkI 2 (some (lenKey scope)) cmd (some [[.var (argKey scope 1)]]),
       mkI 3 none "equals" (some [[.lit "0".toList], [.var (lenKey scope)]])] :=
  rfl

/-- the table entry `name` is a `*_is_empty` script: its body is `sizeIs` over the native size
    command `cmd`, which answers the length `len` of the one kind of value it reads -/
structure SizeScript (name : Str) (cmd : String) (sc : Generated.ScriptCmd) (c : CollCmd) (len : Value → Option Nat) :
    Prop where
  find : findScript name = some sc
  parses : parseText sc.script = .ok (sizeIs sc.scopeName cmd.toList)
  amount : sc.argumentsAmount = 1
  key1 : KeyOK (argKey sc.scopeName 1)
  key2 : KeyOK (lenKey sc.scopeName)
  callee : resolve cmd.toList = some (.native (.coll c))
  exec : ∀ (s : Coll.St) key rest, Coll.exec s c (key :: rest) =
    match (tget s.tbl key).bind len with
    | some n => (s, .val (some (natStr n)))
    | none => (s, .err)

theorem sizeScript_body {name : Str} {cmd : String} {sc : Generated.ScriptCmd} {c : CollCmd} {len : Value → Option Nat}
    (h : SizeScript name cmd sc c len) (F d : Nat) (vars : Vars) (st : ScriptSt) (a : Str)
    (ha : vars.get (argKey sc.scopeName 1) = some a) :
    Ends F d (sizeIs sc.scopeName cmd.toList) 4 ⟨0, none, vars, st⟩
      (match (tget st.coll.tbl a).bind len with
       | some n => (.finished (some (boolStr (n = 0))), vars.set (lenKey sc.scopeName) (natStr n), st)
       | none => (.error (collErrMsg c st.coll.tbl [a]), vars, st)) := by
  rw [sizeIs_eq]
  refine Ends.step (Steps.skip rfl) ?_
  have hb1 : bind vars ((some [[Seg.var (argKey sc.scopeName 1)]]).map fun a => a.map renderTemplate) = [a] :=
    bind_eq (by simpa [ArgsOK, Seg.OK] using h.key1) (by simp [tmplValue_var, ha])
  cases hl : (tget st.coll.tbl a).bind len with
  | none =>
    exact (Ends.native_error rfl h.callee hb1 (by simp [runNative, runColl, h.exec, hl])).mono (by omega)
  | some n =>
    refine Ends.step (Steps.native (v := some (natStr n)) (vars' := vars) (s' := st) rfl h.callee hb1
      (by simp [runNative, runColl, h.exec, hl])) ?_
    have hz : (['0'] = natStr n) ↔ n = 0 := natStr_eq_zero_iff n
    refine Ends.step (Steps.native (vals := ["0".toList, natStr n]) (v := some (boolStr (n = 0)))
      (vars' := vars.updateOutput (some (lenKey sc.scopeName)) (some (natStr n))) (s' := st)
      rfl rs_equals
      (bind_eq (by simpa [ArgsOK, Seg.OK] using ⟨by decide, h.key2⟩)
        (by simp [tmplValue_var, tmplValue_lit, Vars.updateOutput, get_set]))
      (by simp [runNative, runEquals, hz])) ?_
    exact Ends.last rfl

/-- the three `*_is_empty` scripts, run from source: the result in closed form (no fuel in it) -/
theorem sizeScript_runF {name : Str} {cmd : String} {sc : Generated.ScriptCmd} {c : CollCmd} {len : Value → Option Nat}
    (h : SizeScript name cmd sc c len)
    (depth fuel : Nat) (args : List Str) (vars : Vars) (st : ScriptSt) :
    runScriptCmdF depth (fuel + 4) name args vars st =
      match args with
      | [] => (.error invalidArgsMsg, vars, st)
      | a :: _ =>
        let p := pubSt sc.scopeName args st
        (match (tget p.coll.tbl a).bind len with
          | some n => .continue (some (boolStr (n = 0)))
          | none => .error (collErrMsg c p.coll.tbl [a]),
         clear sc.scopeName vars, afterSt st p.coll.tbl p.coll.next) := by
  rw [runScriptCmdF_entry depth (fuel + 4) name sc _ h.find h.parses, h.amount]
  cases args with
  | nil => rw [aliasRun_few]; simp
  | cons a rest =>
    have hbody := (sizeScript_body h (fuel + 4) depth _ (pubSt sc.scopeName (a :: rest) st) a
      (get_pubVars_arg1 _ a rest vars st)).body fuel
    have hu : underPrefix sc.scopeName (lenKey sc.scopeName) = true := by
      unfold lenKey; rw [underPrefix_append]; decide
    cases hl : (tget (pubSt sc.scopeName (a :: rest) st).coll.tbl a).bind len with
    | none =>
      rw [hl] at hbody
      rw [aliasRun_handleOps 1 _ sc.scopeName (a :: rest) vars st (by simp) (by simp) _ _ _ hbody rfl]
      simp only [hl, resultOf]
      rfl
    | some n =>
      rw [hl] at hbody
      rw [aliasRun_handleOps 1 _ sc.scopeName (a :: rest) vars st (by simp) (by simp) _ _ _ hbody
        (clear_set_under _ _ _ _ hu)]
      simp only [hl, resultOf]
      rfl

/-- … as the runner calls them -/
theorem sizeScript_run {name : Str} {cmd : String} {sc : Generated.ScriptCmd} {c : CollCmd} {len : Value → Option Nat}
    (h : SizeScript name cmd sc c len) (args : List Str) (vars : Vars) (st : ScriptSt) :
    runScriptCmd name args vars st =
      match args with
      | [] => (.error invalidArgsMsg, vars, st)
      | a :: _ =>
        let p := pubSt sc.scopeName args st
        (match (tget p.coll.tbl a).bind len with
          | some n => .continue (some (boolStr (n = 0)))
          | none => .error (collErrMsg c p.coll.tbl [a]),
         clear sc.scopeName vars, afterSt st p.coll.tbl p.coll.next) :=
  sizeScript_runF h scriptDepth (scriptFuel - 4) args vars st

/-- the lookup the size command makes in the table that holds the temporary array is the
    caller's lookup, unless the argument is the temporary array's own (fresh) name and the
    command reads arrays -/
theorem bind_len_pub (scope : Str) (a : Str) (rest : List Str) (st : ScriptSt) (len : Value → Option Nat)
    (hfree : tget st.coll.tbl (Coll.handleName st.coll.next) = none)
    (hN : a ≠ Coll.handleName st.coll.next ∨ ∀ l, len (.list l) = none) :
    (tget (pubSt scope (a :: rest) st).coll.tbl a).bind len = (tget st.coll.tbl a).bind len := by
  simp only [pubSt, tget_tinsert]
  by_cases e : a = Coll.handleName st.coll.next
  · rcases hN with h | h
    · exact absurd e h
    · simp [e, hfree, h]
  · simp [e]

theorem sizeScript_correct {name : Str} {cmd : String} {sc : Generated.ScriptCmd} {c : CollCmd} {len : Value → Option Nat}
    (h : SizeScript name cmd sc c len) (cE : CollCmd)
    (hcE : ∀ (s : Coll.St) key rest, (Coll.exec s cE (key :: rest)).2 =
      match (tget s.tbl key).bind len with
      | some n => .val (some (boolStr (n = 0)))
      | none => .err)
    (hcE0 : ∀ (s : Coll.St), (Coll.exec s cE []).2 = .err)
    (args : List Str) (vars : Vars) (st : ScriptSt)
    (hfree : tget st.coll.tbl (Coll.handleName st.coll.next) = none)
    (hN : args.head? ≠ some (Coll.handleName st.coll.next) ∨ ∀ l, len (.list l) = none) :
    CorrectRun sc.scopeName (decide (args.length < 1)) vars st (Coll.exec st.coll cE args).2
      (runScriptCmd name args vars st) := by
  rw [sizeScript_run h args vars st]
  cases args with
  | nil => simp [CorrectRun, hcE0, Agrees, LookupEq]
  | cons a rest =>
    have hN' : a ≠ Coll.handleName st.coll.next ∨ ∀ l, len (.list l) = none := by
      rcases hN with h | h
      · left; intro e; apply h; simp [e]
      · right; exact h
    simp only [CorrectRun, hcE]
    rw [bind_len_pub sc.scopeName a rest st len hfree hN']
    refine ⟨?_, by simp, ?_, by simp [afterSt, pubSt], by simp [afterSt], rfl⟩
    · cases (tget st.coll.tbl a).bind len <;> simp [Agrees]
    · exact lookupEq_afterSt st _ _ _ hfree fun _ => rfl

theorem sizeScript_terminates {name : Str} {cmd : String} {sc : Generated.ScriptCmd} {c : CollCmd} {len : Value → Option Nat}
    (h : SizeScript name cmd sc c len)
    (depth fuel : Nat) (hfuel : 4 ≤ fuel) (args : List Str) (vars : Vars) (st : ScriptSt) :
    runScriptCmdF depth fuel name args vars st = runScriptCmdF depth 4 name args vars st ∧
    IsAnswer (runScriptCmdF depth fuel name args vars st).1 := by
  refine run_of_bound (run := fun n => runScriptCmdF depth n name args vars st) (P := fun r => IsAnswer r.1)
    ⟨_, fun k => sizeScript_runF h depth k args vars st, ?_⟩ hfuel
  cases args with
  | nil => simp [IsAnswer]
  | cons a rest =>
    simp only
    cases (tget (pubSt sc.scopeName (a :: rest) st).coll.tbl a).bind len <;> simp [IsAnswer]

/-- the error of the size command is the error of the script command -/
theorem sizeScript_error {name : Str} {cmd : String} {sc : Generated.ScriptCmd} {c : CollCmd} {len : Value → Option Nat}
    (h : SizeScript name cmd sc c len)
    (depth fuel : Nat) (a : Str) (rest : List Str) (vars : Vars) (st : ScriptSt) (m : Str)
    (herr : (runNative (.coll c) [a] (pubVars sc.scopeName (a :: rest) vars st)
              (pubSt sc.scopeName (a :: rest) st)).1 = .error m) :
    (runScriptCmdF depth (fuel + 4) name (a :: rest) vars st).1 = .error m := by
  rw [sizeScript_runF h depth fuel (a :: rest) vars st]
  simp only [runNative, runColl, h.exec] at herr
  simp only
  cases hl : (tget (pubSt sc.scopeName (a :: rest) st).coll.tbl a).bind len with
  | none => rw [hl] at herr; simpa using herr
  | some n => rw [hl] at herr; simp at herr

/-! ### map_contains_key -/

/-- `${scope::map_contains_key::value}`, the variable the body keeps the value in -/
def valKey (scope : Str) : Str := scope ++ "::value".toList

def mckIs (scope : Str) : List Instruction :=
  [emptyI 1, mkI 2 (some (valKey scope)) "map_get" (some [[.var (argKey scope 1)], [.var (argKey scope 2)]]),
   mkI 3 none "is_defined" (some [[.lit (valKey scope)]])]

theorem contains_updateOutput (vars : Vars) (k : Str) (o : Option Str) :
    (Vars.updateOutput vars (some k) o).contains k = o.isSome := by
  cases o with
  | none => simp [Vars.updateOutput, Vars.contains, get_erase]
  | some v => simp [Vars.updateOutput, Vars.contains, get_set]

/-- the table entry `name` has the body of `map_contains_key` -/
structure MckScript (name : Str) (sc : Generated.ScriptCmd) : Prop where
  find : findScript name = some sc
  parses : parseText sc.script = .ok (mckIs sc.scopeName)
  amount : sc.argumentsAmount = 2
  key1 : KeyOK (argKey sc.scopeName 1)
  key2 : KeyOK (argKey sc.scopeName 2)
  lit : LitOK (valKey sc.scopeName)

theorem mck_body {name : Str} {sc : Generated.ScriptCmd} (h : MckScript name sc) (F d : Nat) (vars : Vars) (st : ScriptSt)
    (a b : Str) (ha : vars.get (argKey sc.scopeName 1) = some a) (hb : vars.get (argKey sc.scopeName 2) = some b) :
    Ends F d (mckIs sc.scopeName) 4 ⟨0, none, vars, st⟩
      (match (Coll.exec st.coll .mapGet [a, b]).2 with
       | .val o => (.finished (some (boolStr o.isSome)), Vars.updateOutput vars (some (valKey sc.scopeName)) o,
                    { st with coll := (Coll.exec st.coll .mapGet [a, b]).1 })
       | .err => (.error (collErrMsg .mapGet st.coll.tbl [a, b]), vars,
                    { st with coll := (Coll.exec st.coll .mapGet [a, b]).1 })) := by
  refine Ends.step (Steps.skip rfl) ?_
  have hb1 : bind vars ((some [[Seg.var (argKey sc.scopeName 1)], [Seg.var (argKey sc.scopeName 2)]]).map
      fun a => a.map renderTemplate) = [a, b] :=
    bind_eq (by simpa [ArgsOK, Seg.OK] using ⟨h.key1, h.key2⟩) (by simp [tmplValue_var, ha, hb])
  cases hr : (Coll.exec st.coll .mapGet [a, b]).2 with
  | err =>
    exact (Ends.native_error rfl rs_map_get hb1 (by simp [runNative, runColl, hr])).mono (by omega)
  | val o =>
    refine Ends.step (Steps.native (v := o) (vars' := vars) (s' := { st with coll := (Coll.exec st.coll .mapGet [a, b]).1 })
      rfl rs_map_get hb1 (by simp [runNative, runColl, hr])) ?_
    refine Ends.step (Steps.native (vals := [valKey sc.scopeName]) (v := some (boolStr o.isSome))
      (vars' := vars.updateOutput (some (valKey sc.scopeName)) o)
      (s' := { st with coll := (Coll.exec st.coll .mapGet [a, b]).1 }) rfl rs_is_defined
      (bind_eq (by simpa [ArgsOK, Seg.OK] using h.lit) (by simp [tmplValue_lit]))
      (by simp [runNative, runIsDefined, contains_updateOutput])) ?_
    exact Ends.last rfl

/-- `map_contains_key`, run from source: the result in closed form (no fuel in it) -/
theorem mck_runF {name : Str} {sc : Generated.ScriptCmd} (h : MckScript name sc)
    (depth fuel : Nat) (args : List Str) (vars : Vars) (st : ScriptSt) :
    runScriptCmdF depth (fuel + 4) name args vars st =
      match args with
      | a :: b :: _ =>
        let p := pubSt sc.scopeName args st
        let r := Coll.exec p.coll .mapGet [a, b]
        (match r.2 with
          | .val o => .continue (some (boolStr o.isSome))
          | .err => .error (collErrMsg .mapGet p.coll.tbl [a, b]),
         clear sc.scopeName vars, afterSt st r.1.tbl r.1.next)
      | _ => (.error invalidArgsMsg, vars, st) := by
  rw [runScriptCmdF_entry depth (fuel + 4) name sc _ h.find h.parses, h.amount]
  match args with
  | [] => rw [aliasRun_few]; simp
  | [_] => rw [aliasRun_few]; simp
  | a :: b :: rest =>
    have hbody := (mck_body h (fuel + 4) depth _ (pubSt sc.scopeName (a :: b :: rest) st) a b
      (get_pubVars_arg1 _ a (b :: rest) vars st) (get_pubVars_arg2 _ a b rest vars st)).body fuel
    have hu : underPrefix sc.scopeName (valKey sc.scopeName) = true := by
      unfold valKey; rw [underPrefix_append]; decide
    cases hr : (Coll.exec (pubSt sc.scopeName (a :: b :: rest) st).coll .mapGet [a, b]).2 with
    | err =>
      rw [hr] at hbody
      rw [aliasRun_handleOps 2 _ sc.scopeName (a :: b :: rest) vars st (by simp) (by simp) _ _ _ hbody rfl]
      simp only [hr, resultOf]
      rfl
    | val o =>
      rw [hr] at hbody
      rw [aliasRun_handleOps 2 _ sc.scopeName (a :: b :: rest) vars st (by simp) (by simp) _ _ _ hbody
        (clear_updateOutput_under _ _ _ _ (by intro k hk; cases hk; exact hu))]
      simp only [hr, resultOf]
      rfl

theorem mck_run {name : Str} {sc : Generated.ScriptCmd} (h : MckScript name sc) (args : List Str) (vars : Vars)
    (st : ScriptSt) :
    runScriptCmd name args vars st =
      match args with
      | a :: b :: _ =>
        let p := pubSt sc.scopeName args st
        let r := Coll.exec p.coll .mapGet [a, b]
        (match r.2 with
          | .val o => .continue (some (boolStr o.isSome))
          | .err => .error (collErrMsg .mapGet p.coll.tbl [a, b]),
         clear sc.scopeName vars, afterSt st r.1.tbl r.1.next)
      | _ => (.error invalidArgsMsg, vars, st) :=
  mck_runF h scriptDepth (scriptFuel - 4) args vars st

/-- `map_get` characterised: answer and table -/
theorem cmdMapGet_char (s : Coll.St) (a b : Str) :
    (Coll.exec s .mapGet [a, b]).2 =
      (match tget s.tbl a with
       | some (.map m) => .val ((mget m b).map Item.render)
       | _ => .err) ∧
    LookupEq (Coll.exec s .mapGet [a, b]).1.tbl s.tbl ∧ (Coll.exec s .mapGet [a, b]).1.next = s.next := by
  simp only [Coll.exec, cmdMapGet]
  -- anything but a map: `mutateMap` answers `err` and leaves the lookups alone
  have hwrong := fun h => mutateMap_wrong s.tbl a (fun m => (m, Res.val ((mget m b).map Item.render))) h
  cases hv : tget s.tbl a with
  | none => exact ⟨(hwrong (by simp [hv])).1, (hwrong (by simp [hv])).2, trivial⟩
  | some v =>
    cases v with
    | map m =>
      rw [mutateMap_map s.tbl a _ m hv]
      exact ⟨rfl, lookupEq_reinsert s.tbl a _ hv, trivial⟩
    | _ =>
      have := hwrong (by intro v hv'; rw [hv] at hv'; cases hv'; rfl)
      exact ⟨this.1, this.2, trivial⟩

theorem cmdMapContainsKey_char (s : Coll.St) (a b : Str) (rest : List Str) :
    (Coll.exec s .mapContainsKey (a :: b :: rest)).2 =
      (match tget s.tbl a with
       | some (.map m) => .val (some (boolStr (mget m b).isSome))
       | _ => .err) := by
  simp only [Coll.exec, cmdMapContainsKey]
  cases hv : tget s.tbl a with
  | none => rfl
  | some v => cases v <;> rfl

theorem mck_correct {name : Str} {sc : Generated.ScriptCmd} (h : MckScript name sc)
    (args : List Str) (vars : Vars) (st : ScriptSt)
    (hfree : tget st.coll.tbl (Coll.handleName st.coll.next) = none) :
    CorrectRun sc.scopeName (decide (args.length < 2)) vars st (Coll.exec st.coll .mapContainsKey args).2
      (runScriptCmd name args vars st) := by
  rw [mck_run h args vars st]
  match args with
  | [] => simp [CorrectRun, Coll.exec, cmdMapContainsKey, Agrees, LookupEq]
  | [_] => simp [CorrectRun, Coll.exec, cmdMapContainsKey, Agrees, LookupEq]
  | a :: b :: rest =>
    obtain ⟨h1, h2, h3⟩ := cmdMapGet_char (pubSt sc.scopeName (a :: b :: rest) st).coll a b
    have hlen : ¬ ((a :: b :: rest).length < 2) := by simp
    simp only [CorrectRun, hlen, decide_false, Bool.false_eq_true, if_false]
    refine ⟨?_, trivial, ?_, by rw [show (afterSt st _ _).coll.next = _ from rfl, h3]; simp [pubSt, afterSt],
      by simp [afterSt], rfl⟩
    · rw [h1, cmdMapContainsKey_char]
      simp only [pubSt, tget_tinsert]
      by_cases e : a = Coll.handleName st.coll.next
      · simp [e, hfree, Agrees]
      · simp only [e, if_false]
        cases hv : tget st.coll.tbl a with
        | none => simp [Agrees]
        | some v => cases v <;> simp [Agrees]
    · exact lookupEq_afterSt st _ _ _ hfree h2

theorem mck_terminates {name : Str} {sc : Generated.ScriptCmd} (h : MckScript name sc)
    (depth fuel : Nat) (hfuel : 4 ≤ fuel) (args : List Str) (vars : Vars) (st : ScriptSt) :
    runScriptCmdF depth fuel name args vars st = runScriptCmdF depth 4 name args vars st ∧
    IsAnswer (runScriptCmdF depth fuel name args vars st).1 := by
  refine run_of_bound (run := fun n => runScriptCmdF depth n name args vars st) (P := fun r => IsAnswer r.1)
    ⟨_, fun k => mck_runF h depth k args vars st, ?_⟩ hfuel
  match args with
  | [] => simp [IsAnswer]
  | [_] => simp [IsAnswer]
  | a :: b :: rest =>
    simp only
    cases (Coll.exec (pubSt sc.scopeName (a :: b :: rest) st).coll .mapGet [a, b]).2 <;> simp [IsAnswer]

/-! ### the four loop-free table entries -/

def aieLen : Value → Option Nat := fun v => match v with | .list l => some l.length | _ => none
def mieLen : Value → Option Nat := fun v => match v with | .map m => some m.length | _ => none
def sieLen : Value → Option Nat := fun v => match v with | .set x => some x.length | _ => none

/-- the closed facts of a `*_is_empty` entry: its text parses to `sizeIs`, its two variable names
    are in the class the expansion lemmas cover -/
abbrev SizeClosed (sc : Generated.ScriptCmd) (sizeName : Str) : Prop :=
  parsesTo sc.script (sizeIs sc.scopeName sizeName) = true ∧ KeyOK (argKey sc.scopeName 1) ∧ KeyOK (lenKey sc.scopeName)

theorem loopFree_closed :
    SizeClosed Generated.cmd_collections_array_is_empty "array_length".toList ∧
    SizeClosed Generated.cmd_collections_map_is_empty "map_size".toList ∧
    SizeClosed Generated.cmd_collections_set_is_empty "set_size".toList ∧
    parsesTo Generated.cmd_collections_map_contains_key.script
      (mckIs Generated.cmd_collections_map_contains_key.scopeName) = true ∧
    KeyOK (argKey Generated.cmd_collections_map_contains_key.scopeName 1) ∧
    KeyOK (argKey Generated.cmd_collections_map_contains_key.scopeName 2) ∧
    LitOK (valKey Generated.cmd_collections_map_contains_key.scopeName) := by
  decide +kernel

theorem arrayIsEmpty_sizeScript :
    SizeScript "array_is_empty".toList "array_length" Generated.cmd_collections_array_is_empty .arrayLength aieLen where
  find := findScript_of_resolve rs_array_is_empty
  parses := parsesTo_eq loopFree_closed.1.1
  amount := rfl
  key1 := loopFree_closed.1.2.1
  key2 := loopFree_closed.1.2.2
  callee := rs_array_length
  exec := by
    intro s key rest
    simp only [Coll.exec, cmdArrayLength]
    cases hv : tget s.tbl key with
    | none => rfl
    | some v => cases v <;> rfl

theorem mapIsEmpty_sizeScript :
    SizeScript "map_is_empty".toList "map_size" Generated.cmd_collections_map_is_empty .mapSize mieLen where
  find := findScript_of_resolve rs_map_is_empty
  parses := parsesTo_eq loopFree_closed.2.1.1
  amount := rfl
  key1 := loopFree_closed.2.1.2.1
  key2 := loopFree_closed.2.1.2.2
  callee := rs_map_size
  exec := by
    intro s key rest
    simp only [Coll.exec, cmdMapSize]
    cases hv : tget s.tbl key with
    | none => rfl
    | some v => cases v <;> rfl

theorem setIsEmpty_sizeScript :
    SizeScript "set_is_empty".toList "set_size" Generated.cmd_collections_set_is_empty .setSize sieLen where
  find := findScript_of_resolve rs_set_is_empty
  parses := parsesTo_eq loopFree_closed.2.2.1.1
  amount := rfl
  key1 := loopFree_closed.2.2.1.2.1
  key2 := loopFree_closed.2.2.1.2.2
  callee := rs_set_size
  exec := by
    intro s key rest
    simp only [Coll.exec, cmdSetSize]
    cases hv : tget s.tbl key with
    | none => rfl
    | some v => cases v <;> rfl

theorem mapContainsKey_mckScript : MckScript "map_contains_key".toList Generated.cmd_collections_map_contains_key where
  find := findScript_of_resolve rs_map_contains_key
  parses := parsesTo_eq loopFree_closed.2.2.2.1
  amount := rfl
  key1 := loopFree_closed.2.2.2.2.1
  key2 := loopFree_closed.2.2.2.2.2.1
  lit := loopFree_closed.2.2.2.2.2.2

end Duck.ScriptRun
