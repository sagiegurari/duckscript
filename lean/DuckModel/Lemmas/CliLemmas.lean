/-
  The linter of the command-line tool (Cli.lean): what `lintInstruction`, `lintInstructions` and
  `lintParsed` accept and which instruction they name; the lint does not look at arguments.
-/
import DuckModel.Cli
import DuckModel.Lemmas.CharCodeLemmas

namespace Duck.Cli
open Duck Duck.Generated

theorem map_fixed_iff {α : Type} (f : α → α) (l : List α) :
    l.map f = l ↔ ∀ x ∈ l, f x = x := by
  induction l with
  | nil => simp
  | cons a t ih => simp [ih]

theorem asciiLower_fixed_iff (t : Str) :
    asciiLower t = t ↔ ∀ c ∈ t, ¬ (65 ≤ c.toNat ∧ c.toNat ≤ 90) := by
  unfold asciiLower
  rw [map_fixed_iff]
  constructor
  · intro h c hc; exact (asciiLowerChar_fixed_iff c).1 (h c hc)
  · intro h c hc; exact (asciiLowerChar_fixed_iff c).2 (h c hc)

/-! ### the linter -/

theorem isLowerCase_iff (o : Option Str) :
    isLowerCase o = true ↔ ∀ t, o = some t → isLowerText t = true := by
  cases o with
  | none => simp [isLowerCase]
  | some t => simp [isLowerCase]

theorem lintInstruction_ok_iff (s : ScriptInstr) :
    lintInstruction s = .ok () ↔
      isLowerCase s.label = true ∧ isLowerCase s.command = true ∧ isLowerCase s.output = true := by
  unfold lintInstruction
  cases isLowerCase s.label <;> cases isLowerCase s.command <;> cases isLowerCase s.output <;> simp

theorem lintInstruction_error_iff (s : ScriptInstr) (m : LintMsg) :
    lintInstruction s = .error m ↔
      (m = .label ∧ isLowerCase s.label = false) ∨
      (m = .command ∧ isLowerCase s.label = true ∧ isLowerCase s.command = false) ∨
      (m = .output ∧ isLowerCase s.label = true ∧ isLowerCase s.command = true ∧
        isLowerCase s.output = false) := by
  unfold lintInstruction
  cases isLowerCase s.label <;> cases isLowerCase s.command <;> cases isLowerCase s.output <;>
    cases m <;> simp

theorem lintOne_cases (i : Instruction) : lintOne i = .ok () ∨ ∃ m, lintOne i = .error m := by
  cases h : lintOne i with
  | ok u => left; rfl
  | error m => right; exact ⟨m, rfl⟩

theorem lintInstructions_ok_iff (is : List Instruction) :
    lintInstructions is = .ok () ↔ ∀ i ∈ is, lintOne i = .ok () := by
  induction is with
  | nil => simp [lintInstructions]
  | cons i rest ih =>
    rcases lintOne_cases i with h | ⟨m, h⟩
    · simp [lintInstructions, h, ih]
    · simp [lintInstructions, h]

theorem lintInstructions_append (pre rest : List Instruction) (h : ∀ j ∈ pre, lintOne j = .ok ()) :
    lintInstructions (pre ++ rest) = lintInstructions rest := by
  induction pre with
  | nil => rfl
  | cons a pre ih =>
    simp only [List.cons_append, lintInstructions, h a (by simp)]
    exact ih (fun j hj => h j (by simp [hj]))

theorem lintInstructions_error_iff (is : List Instruction) (mi : Meta) (m : LintMsg) :
    lintInstructions is = .error (mi, m) ↔
      ∃ pre i post, is = pre ++ i :: post ∧ (∀ j ∈ pre, lintOne j = .ok ()) ∧
        lintOne i = .error m ∧ i.mi = mi := by
  constructor
  · intro h
    induction is with
    | nil => cases h
    | cons a rest ih =>
      rcases lintOne_cases a with ha | ⟨m', ha⟩
      · simp only [lintInstructions, ha] at h
        obtain ⟨pre, i, post, e, hp, hi, hm⟩ := ih h
        exact ⟨a :: pre, i, post, by rw [e]; rfl, by simpa [ha] using hp, hi, hm⟩
      · simp only [lintInstructions, ha, Except.error.injEq, Prod.mk.injEq] at h
        exact ⟨[], a, rest, rfl, by simp, by rw [ha, h.2], h.1⟩
  · rintro ⟨pre, i, post, rfl, hp, hi, rfl⟩
    rw [lintInstructions_append _ _ hp]
    simp only [lintInstructions, hi]

/-- an instruction with its arguments forgotten -/
def eraseArgs (i : Instruction) : Instruction :=
  match i.ty with
  | .script s => { i with ty := .script { s with args := none } }
  | .preProcess c _ => { i with ty := .preProcess c none }
  | .empty => i

theorem lintOne_eraseArgs (i : Instruction) : lintOne (eraseArgs i) = lintOne i := by
  rcases i with ⟨mi, ty⟩
  cases ty <;> rfl

theorem eraseArgs_mi (i : Instruction) : (eraseArgs i).mi = i.mi := by
  rcases i with ⟨mi, ty⟩
  cases ty <;> rfl

theorem lintInstructions_eraseArgs (is : List Instruction) :
    lintInstructions (is.map eraseArgs) = lintInstructions is := by
  induction is with
  | nil => rfl
  | cons i rest ih =>
    simp only [List.map_cons, lintInstructions, lintOne_eraseArgs, eraseArgs_mi, ih]

theorem lintParsed_ok_iff (parsed : Except ParseFail (List Instruction)) :
    lintParsed parsed = .ok ↔ ∃ is, parsed = .ok is ∧ lintInstructions is = .ok () := by
  cases parsed with
  | error e => simp [lintParsed]
  | ok is =>
    simp only [lintParsed, Except.ok.injEq, exists_eq_left']
    cases h : lintInstructions is with
    | ok u => simp
    | error p => rcases p with ⟨mi, m⟩; simp

theorem lintParsed_parseError_iff (parsed : Except ParseFail (List Instruction)) (e : ParseFail) :
    lintParsed parsed = .parseError e ↔ parsed = .error e := by
  cases parsed with
  | error e' => simp [lintParsed]
  | ok is =>
    simp only [lintParsed]
    cases h : lintInstructions is with
    | ok u => simp
    | error p => rcases p with ⟨a, b⟩; simp

theorem lintParsed_fail_iff (parsed : Except ParseFail (List Instruction)) (mi : Meta) (m : LintMsg) :
    lintParsed parsed = .fail mi m ↔
      ∃ is, parsed = .ok is ∧ lintInstructions is = .error (mi, m) := by
  cases parsed with
  | error e => simp [lintParsed]
  | ok is =>
    simp only [lintParsed, Except.ok.injEq, exists_eq_left']
    cases h : lintInstructions is with
    | ok u => simp
    | error p => rcases p with ⟨a, b⟩; simp

end Duck.Cli
