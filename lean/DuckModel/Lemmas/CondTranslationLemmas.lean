/-
  Helper lemmas for Props/C06Translated.lean: the index-faithful translation of
  `eval_condition_for_slice` (Generated/ScannerCond.lean) refines the hand-written model
  (Sdk/Condition.lean).
-/
import DuckModel.Sdk.Condition
import DuckModel.Generated.ScannerCond

namespace Duck
open Duck.Generated

/-- the model's answer as an answer of the translated function (which can also panic) -/
def Generated.CondOut.ofExcept : Except CondErr Bool → CondOut
  | .ok b => .ok b
  | .error e => .err e

/-- extending the slice `[s, i)` by the token at `i` -/
theorem slice_snoc {α : Type} (args : List α) (s i : Nat) (a : α) (rest : List α) (hs : s ≤ i)
    (h : args.drop i = a :: rest) :
    (args.drop s).take (i + 1 - s) = (args.drop s).take (i - s) ++ [a] := by
  have e1 : i + 1 - s = (i - s) + 1 := by omega
  have e2 : (args.drop s)[i - s]? = some a := by
    rw [List.getElem?_drop]
    have e3 : s + (i - s) = i := by omega
    rw [e3]
    have e4 := congrArg (fun l => l[0]?) h
    simpa [List.getElem?_drop] using e4
  rw [e1, List.take_add_one, e2]; rfl

theorem drop_cons_lt {α : Type} {args : List α} {i : Nat} {a : α} {rest : List α}
    (h : args.drop i = a :: rest) : i < args.length := by
  by_cases hlt : i < args.length
  · exact hlt
  · rw [List.drop_of_length_le (by omega)] at h; cases h

theorem drop_succ_of_drop_cons {α : Type} {args : List α} {i : Nat} {a : α} {rest : List α}
    (h : args.drop i = a :: rest) : args.drop (i + 1) = rest := by
  have : args.drop (i + 1) = (args.drop i).drop 1 := by rw [List.drop_drop]
  rw [this, h]; rfl

/-- the refinement relation: same booleans / accumulators / token state, the same counter, and
    while a group is open the model's `block` is the slice `[start_block, index)` -/
structure CondRel (args : List Str) (g : CondSt) (m : CSt) : Prop where
  searching : g.searchingBlockEnd = m.searching
  counter : g.counter = (m.counter : Int)
  total : g.totalEvaluated = m.total
  part : g.partialEvaluated = m.part
  found : g.foundToken = m.found
  closed : m.searching = false → m.counter = 0
  block : 0 < m.counter →
    g.startBlock ≤ g.index ∧ m.block = (args.drop g.startBlock).take (g.index - g.startBlock)

/-- related step results; a continuing step has consumed one token -/
def CondStepRel (args : List Str) (i : Nat) : CondStep → CStep → Prop
  | .cont g, .cont m => CondRel args g m ∧ g.index = i + 1
  | .ret b, .ret b' => b = b'
  | .err e, .err e' => e = e'
  | _, _ => False

theorem tokOpen_lit : "(".toList = tokOpen := rfl
theorem tokClose_lit : ")".toList = tokClose := rfl
theorem tokAnd_lit : "and".toList = tokAnd := rfl
theorem tokOr_lit : "or".toList = tokOr := rfl

section step
variable (ev' : List Str → CondOut) (ev : List Str → Except CondErr Bool)
  (args : List Str) (g : CondSt) (m : CSt) (a : Str) (rest : List Str)

/-- `(` -/
theorem condStep_refines_open (hr : CondRel args g m) (hd : args.drop g.index = a :: rest)
    (ha : a = tokOpen) :
    CondStepRel args g.index (condStepGen ev' args g a) (cStep ev m a) := by
  obtain ⟨gs, gsb, gc, gi, gt, gp, gf⟩ := g
  obtain ⟨ms, mc, mb, mt, mp, mf⟩ := m
  obtain ⟨h1, h2, h3, h4, h5, h7, h6⟩ := hr
  simp only at h1 h2 h3 h4 h5 h6 h7 hd
  subst h1 h2 h3 h4 h5 ha
  simp only [condStepGen, cStep, tokOpen_lit, if_true]
  by_cases hc : mc = 0
  · subst hc
    simp [CondStepRel]
    constructor <;> simp
  · have hpos : 0 < mc := by omega
    obtain ⟨hle, hb⟩ := h6 hpos
    simp [hc, CondStepRel]
    constructor <;> simp
    refine ⟨by omega, ?_⟩
    rw [hb, slice_snoc args gsb gi tokOpen rest hle hd]

/-- `)` -/
theorem condStep_refines_close (hev : ∀ l, ev' l = CondOut.ofExcept (ev l))
    (hr : CondRel args g m) (hd : args.drop g.index = a :: rest) (ha : a = tokClose) :
    CondStepRel args g.index (condStepGen ev' args g a) (cStep ev m a) := by
  obtain ⟨gs, gsb, gc, gi, gt, gp, gf⟩ := g
  obtain ⟨ms, mc, mb, mt, mp, mf⟩ := m
  obtain ⟨h1, h2, h3, h4, h5, h7, h6⟩ := hr
  simp only at h1 h2 h3 h4 h5 h6 h7 hd
  subst h1 h2 h3 h4 h5 ha
  have hlt := drop_cons_lt hd
  have hne : tokClose ≠ tokOpen := by decide
  simp only [condStepGen, cStep, tokOpen_lit, tokClose_lit, hne, if_true, if_false]
  by_cases hc0 : mc = 0
  · subst hc0
    simp only [if_true]
    split
    · exfalso; omega
    · split
      · simp only [CondStepRel]
      · exfalso; omega
  · by_cases hc1 : mc = 1
    · subst hc1
      obtain ⟨hle, hb⟩ := h6 (by omega)
      have hlen : gi ≤ args.length := by omega
      have e3 : ((1 : Nat) = 0) = False := by simp
      simp only [e3, if_false, if_true]
      split
      · simp only [hle, hlen, and_self, if_true, hev, ← hb]
        cases ev mb with
        | error e => simp [CondOut.ofExcept, CondStepRel]
        | ok evaluated =>
          simp only [CondOut.ofExcept, foldAtom]
          cases evaluated <;> rcases gp with _ | _ | _ <;> cases gf <;>
            simp [CondStepRel] <;> constructor <;> simp
      · exfalso; omega
    · obtain ⟨hle, hb⟩ := h6 (by omega)
      simp only [hc0, hc1, if_false]
      split
      · exfalso; omega
      · split
        · exfalso; omega
        · simp only [CondStepRel]
          refine ⟨⟨rfl, ?_, rfl, rfl, rfl, ?_, ?_⟩, trivial⟩
          · simp only; omega
          · intro h; have := h7 h; omega
          · intro _
            refine ⟨by simp only; omega, ?_⟩
            simp only
            rw [hb, slice_snoc args gsb gi tokClose rest hle hd]

/-- a token inside an open group -/
theorem condStep_refines_inside (hr : CondRel args g m) (hd : args.drop g.index = a :: rest)
    (ho : a ≠ tokOpen) (hc : a ≠ tokClose) (hs : m.searching = true) :
    CondStepRel args g.index (condStepGen ev' args g a) (cStep ev m a) := by
  obtain ⟨gs, gsb, gc, gi, gt, gp, gf⟩ := g
  obtain ⟨ms, mc, mb, mt, mp, mf⟩ := m
  obtain ⟨h1, h2, h3, h4, h5, h7, h6⟩ := hr
  simp only at h1 h2 h3 h4 h5 h6 h7 hd hs
  subst h1 h2 h3 h4 h5 hs
  simp only [condStepGen, cStep, tokOpen_lit, tokClose_lit, ho, hc, if_true, if_false,
    Bool.true_eq_false, CondStepRel]
  refine ⟨⟨rfl, rfl, rfl, rfl, rfl, by simp, ?_⟩, trivial⟩
  intro hpos
  obtain ⟨hle, hb⟩ := h6 hpos
  refine ⟨by simp only; omega, ?_⟩
  simp only
  rw [hb, slice_snoc args gsb gi a rest hle hd]

/-- `and`, `or`, a value outside groups -/
theorem condStep_refines_outside (hr : CondRel args g m) (hd : args.drop g.index = a :: rest)
    (ho : a ≠ tokOpen) (hc : a ≠ tokClose) (hs : m.searching = false) :
    CondStepRel args g.index (condStepGen ev' args g a) (cStep ev m a) := by
  obtain ⟨gs, gsb, gc, gi, gt, gp, gf⟩ := g
  obtain ⟨ms, mc, mb, mt, mp, mf⟩ := m
  obtain ⟨h1, h2, h3, h4, h5, h7, h6⟩ := hr
  simp only at h1 h2 h3 h4 h5 h6 h7 hd hs
  subst h1 h2 h3 h4 h5 hs
  simp only [condStepGen, cStep, tokOpen_lit, tokClose_lit, tokAnd_lit, tokOr_lit, ho, hc,
    if_true, if_false, Bool.false_eq_true]
  have hz : mc = 0 := h7 rfl
  subst hz
  have keep : ∀ (t p : Option Bool) (f : FoundToken),
      CondRel args ⟨false, gsb, 0, gi + 1, t, p, f⟩ ⟨false, 0, mb, t, p, f⟩ :=
    fun t p f => ⟨rfl, rfl, rfl, rfl, rfl, fun _ => rfl, fun h => absurd h (Nat.lt_irrefl 0)⟩
  by_cases hand : a = tokAnd
  · subst hand
    simp only [if_true]
    cases gf
    case value =>
      cases hT : (gt.getD true && gp.getD true)
      · simp [CondStepRel, ← Bool.and_eq_true, hT]
      · simp [CondStepRel, ← Bool.and_eq_true, hT]
        exact keep _ _ _
    all_goals simp [CondStepRel]
  · simp only [hand, if_false]
    by_cases hor : a = tokOr
    · subst hor
      simp only [if_true]
      cases gf
      case value => simp [CondStepRel]; exact keep _ _ _
      all_goals simp [CondStepRel]
    · simp only [hor, if_false, foldAtom]
      cases gf
      case value => simp [CondStepRel]
      all_goals
        simp [CondStepRel]
        exact keep _ _ _

/-- one token: the translated step refines the model's step -/
theorem condStep_refines (hev : ∀ l, ev' l = CondOut.ofExcept (ev l))
    (hr : CondRel args g m) (hd : args.drop g.index = a :: rest) :
    CondStepRel args g.index (condStepGen ev' args g a) (cStep ev m a) := by
  by_cases ho : a = tokOpen
  · exact condStep_refines_open ev' ev args g m a rest hr hd ho
  · by_cases hc : a = tokClose
    · exact condStep_refines_close ev' ev args g m a rest hev hr hd hc
    · cases hs : m.searching
      · exact condStep_refines_outside ev' ev args g m a rest hr hd ho hc hs
      · exact condStep_refines_inside ev' ev args g m a rest hr hd ho hc hs

/-- the code after the loop -/
theorem condAfter_refines (hr : CondRel args g m) :
    condAfterGen g = CondOut.ofExcept (cLoop ev m []) := by
  obtain ⟨gs, gsb, gc, gi, gt, gp, gf⟩ := g
  obtain ⟨ms, mc, mb, mt, mp, mf⟩ := m
  obtain ⟨h1, h2, h3, h4, h5, h7, h6⟩ := hr
  simp only at h1 h2 h3 h4 h5
  subst h1 h2 h3 h4 h5
  simp only [condAfterGen, cLoop]
  cases gs <;> rcases gt with _ | _ | _ <;> rcases gp with _ | _ | _ <;> simp [CondOut.ofExcept]

/-- the loop over the remaining tokens -/
theorem condLoop_refines (hev : ∀ l, ev' l = CondOut.ofExcept (ev l)) :
    ∀ (rest : List Str) (g : CondSt) (m : CSt), CondRel args g m → args.drop g.index = rest →
      condLoopGen ev' args g rest = CondOut.ofExcept (cLoop ev m rest) := by
  intro rest
  induction rest with
  | nil => intro g m hr _; rw [condLoopGen]; exact condAfter_refines ev args g m hr
  | cons a rest ih =>
    intro g m hr hd
    have hstep := condStep_refines ev' ev args g m a rest hev hr hd
    rw [condLoopGen, cLoop]
    cases hg : condStepGen ev' args g a <;> cases hm : cStep ev m a <;>
      rw [hg, hm] at hstep <;> simp only [CondStepRel] at hstep
    · obtain ⟨hr', hi⟩ := hstep
      simp only
      apply ih _ _ hr'
      rw [hi]; exact drop_succ_of_drop_cons hd
    · subst hstep; rfl
    · subst hstep; rfl

end step

/-- the initial states are related -/
theorem condRel_init (args : List Str) : CondRel args {} {} :=
  ⟨rfl, rfl, rfl, rfl, rfl, fun _ => rfl, fun h => absurd h (Nat.lt_irrefl 0)⟩

end Duck
