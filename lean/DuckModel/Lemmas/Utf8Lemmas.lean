/-
  Facts about the UTF-8 encoder model: shape of an encoded scalar, its bytes are below 256, ASCII
  text is its own encoding, and "a character boundary of the encoded text splits the scalars".
-/
import DuckModel.Sdk.Utf8

namespace Duck

theorem utf8Encode_nil : utf8Encode [] = [] := rfl

theorem utf8Encode_cons (c : Char) (s : List Char) :
    utf8Encode (c :: s) = utf8EncodeChar c ++ utf8Encode s := by
  simp [utf8Encode]

theorem utf8Encode_append (a b : List Char) :
    utf8Encode (a ++ b) = utf8Encode a ++ utf8Encode b := by
  simp [utf8Encode]

theorem utf8Encode_ascii (t : List Char) (h : ∀ d ∈ t, d.toNat < 0x80) :
    utf8Encode t = t.map Char.toNat := by
  have e : ∀ d ∈ t, utf8EncodeChar d = [d.toNat] := fun d hd => by simp [utf8EncodeChar, h d hd]
  rw [utf8Encode, List.map_eq_flatMap, List.flatMap_def, List.flatMap_def, List.map_congr_left e]

theorem char_valid_nat (c : Char) : c.toNat < 0xd800 ∨ (0xdfff < c.toNat ∧ c.toNat < 0x110000) := c.valid

theorem utf8Encode_lt_256 (s : List Char) : ∀ b ∈ utf8Encode s, b < 256 := by
  refine List.forall_mem_flatMap.2 fun c _ => ?_
  have hv := char_valid_nat c
  unfold utf8EncodeChar
  simp only
  repeat' split
  all_goals
    simp only [List.forall_mem_cons, List.not_mem_nil, false_imp_iff, implies_true, and_true]
    omega

theorem isCont_low (k : Nat) : isCont (0x80 + k % 64) = true := by
  simp only [isCont, Bool.and_eq_true, decide_eq_true_eq]; omega

theorem isCont_lead {b : Nat} (h : b < 0x80 ∨ 0xC0 ≤ b) : isCont b = false := by
  simp only [isCont, Bool.and_eq_false_iff, decide_eq_false_iff_not]; omega

/-- an encoded scalar is a leading (non-continuation) byte followed by continuation bytes -/
theorem utf8EncodeChar_shape (c : Char) :
    ∃ lead rest, utf8EncodeChar c = lead :: rest ∧ isCont lead = false ∧
      ∀ x ∈ rest, isCont x = true := by
  unfold utf8EncodeChar
  simp only
  split
  · exact ⟨_, _, rfl, isCont_lead (.inl ‹_›), by simp⟩
  split
  · exact ⟨_, _, rfl, isCont_lead (.inr (Nat.le_add_right _ _)), by simp [isCont_low]⟩
  split
  · exact ⟨_, _, rfl, isCont_lead (.inr (by omega)), by simp [isCont_low]⟩
  · exact ⟨_, _, rfl, isCont_lead (.inr (by omega)), by simp [isCont_low]⟩

/-- the first byte of a non-empty encoded text is not a continuation byte -/
theorem utf8Encode_head_not_cont {s : List Char} (h : s ≠ []) :
    ∃ x r, utf8Encode s = x :: r ∧ isCont x = false := by
  cases s with
  | nil => exact absurd rfl h
  | cons c t =>
    obtain ⟨l, r, hc, hl, _⟩ := utf8EncodeChar_shape c
    exact ⟨l, r ++ utf8Encode t, by rw [utf8Encode_cons, hc]; rfl, hl⟩

theorem utf8Encode_eq_nil {s : List Char} (h : utf8Encode s = []) : s = [] := by
  cases s with
  | nil => rfl
  | cons c r =>
    obtain ⟨x, t, e, _⟩ := utf8Encode_head_not_cont (List.cons_ne_nil c r)
    rw [h] at e
    cases e

theorem isBoundary_zero (b : Bytes) : isBoundary b 0 = true := by simp [isBoundary]

theorem isBoundary_length (b : Bytes) : isBoundary b b.length = true := by simp [isBoundary]

theorem isBoundary_le_length {b : Bytes} {i : Nat} (h : isBoundary b i = true) : i ≤ b.length := by
  unfold isBoundary at h
  simp only [Bool.or_eq_true, beq_iff_eq] at h
  rcases h with (h | h) | h
  · omega
  · omega
  · cases hx : b[i]? with
    | none => simp [hx] at h
    | some x =>
      have := (List.getElem?_eq_some_iff.mp hx).1
      omega

/-- a character boundary of the encoded text is the end of the encoding of a prefix of the
    scalars: slicing at boundaries never cuts a scalar -/
theorem boundary_split : ∀ (s : List Char) (i : Nat), isBoundary (utf8Encode s) i = true →
    ∃ p q, s = p ++ q ∧ (utf8Encode p).length = i := by
  intro s
  induction s with
  | nil =>
    intro i h
    have := isBoundary_le_length h
    simp [utf8Encode_nil] at this
    exact ⟨[], [], rfl, by simp [utf8Encode_nil, this]⟩
  | cons c r ih =>
    intro i h
    obtain ⟨l, rest, hc, hl, hrest⟩ := utf8EncodeChar_shape c
    by_cases h0 : i = 0
    · exact ⟨[], c :: r, rfl, by simp [utf8Encode_nil, h0]⟩
    · by_cases hlt : i < (utf8EncodeChar c).length
      · -- inside the encoding of `c`: the byte is a continuation byte
        exfalso
        obtain ⟨j, rfl⟩ : ∃ j, i = j + 1 := ⟨i - 1, by omega⟩
        rw [hc, List.length_cons] at hlt
        have hj : j < rest.length := by omega
        have hb : (utf8Encode (c :: r))[j + 1]? = some rest[j] := by
          rw [utf8Encode_cons, hc, List.cons_append, List.getElem?_cons_succ,
            List.getElem?_append_left hj, List.getElem?_eq_getElem hj]
        have hlen : j + 1 < (utf8Encode (c :: r)).length := by
          rw [utf8Encode_cons, hc]; simp only [List.length_append, List.length_cons]; omega
        simp only [isBoundary, hb, hrest _ (List.getElem_mem hj), Bool.not_true, Bool.or_false,
          Bool.or_eq_true, beq_iff_eq] at h
        omega
      · -- at or after the end of `c`
        have hge : (utf8EncodeChar c).length ≤ i := by omega
        have hb : isBoundary (utf8Encode r) (i - (utf8EncodeChar c).length) = true := by
          unfold isBoundary at h ⊢
          rw [utf8Encode_cons] at h
          rw [List.getElem?_append_right hge] at h
          simp only [Bool.or_eq_true, beq_iff_eq, List.length_append] at h ⊢
          rcases h with (h | h) | h
          · omega
          · left; right; omega
          · right; exact h
        obtain ⟨p, q, hpq, hlen⟩ := ih _ hb
        refine ⟨c :: p, q, by simp [hpq], ?_⟩
        rw [utf8Encode_cons, List.length_append, hlen]
        omega

end Duck
