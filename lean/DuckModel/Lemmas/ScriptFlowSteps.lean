/-
  Following a script body through the goto machine `evalInstructions`, line by line.

  A configuration is what the loop carries from one instruction to the next (line, flow output,
  variables, state); the polling counter is left out, since no body of the model is ever halted.
  `Steps n c c'` says that `n` instructions lead from `c` to `c'`, `Ends n c r` that the body
  stops with `r` after at most `n` more; both hold for every amount of fuel left, so runs compose
  by `Steps.trans` / `Steps.ends` without arithmetic on fuel.  The step lemmas are stated for the
  written-down lines (`mkI`, `emptyI`): a call names the line (by `rfl`) and the command's effect.
  The `for … in` block has three: entering it, the way back from its `end`, and (by induction on
  a bound for the iterations left) the whole loop.
-/
import DuckModel.Lemmas.ScriptCondScript

namespace Duck.ScriptRun
open Duck Duck.Alias Duck.Coll Duck.Spec Duck.Generated Duck.Reser

/-! ### configurations and runs -/

theorem eval_poll {σ : Type} (sem : CmdSem σ) (is : List Instruction) (poll' : Nat) :
    ∀ (fuel line poll : Nat) (fo : Option Str) (vars : Vars) (s : σ),
      evalInstructions sem (fun _ => false) is fuel line poll fo vars s =
        evalInstructions sem (fun _ => false) is fuel line poll' fo vars s := by
  intro fuel
  induction fuel generalizing poll' with
  | zero => intros; rfl
  | succ fuel ih =>
    intro line poll fo vars s
    simp only [evalInstructions, Bool.false_eq_true, if_false, ih (poll' + 1) _ (poll + 1)]

structure Cfg where
  line : Nat
  out : Option Str
  vars : Vars
  st : ScriptSt

def run (F d : Nat) (is : List Instruction) (fuel : Nat) (c : Cfg) : Option (BodyResult × Vars × ScriptSt) :=
  evalInstructions (bodySem F d is) (fun _ => false) is fuel c.line 0 c.out c.vars c.st

theorem eval_eq_run (F d : Nat) (is : List Instruction) (fuel line poll : Nat) (fo : Option Str) (vars : Vars)
    (s : ScriptSt) :
    evalInstructions (bodySem F d is) (fun _ => false) is fuel line poll fo vars s = run F d is fuel ⟨line, fo, vars, s⟩ :=
  eval_poll _ _ 0 _ _ _ _ _ _

/-- `n` instructions of the body lead from `c` to `c'` -/
def Steps (F d : Nat) (is : List Instruction) (n : Nat) (c c' : Cfg) : Prop :=
  ∀ fuel, run F d is (fuel + n) c = run F d is fuel c'

/-- the body stops with `r` within `n` instructions from `c` -/
def Ends (F d : Nat) (is : List Instruction) (n : Nat) (c : Cfg) (r : BodyResult × Vars × ScriptSt) : Prop :=
  ∀ fuel, run F d is (fuel + n) c = some r

section
variable {F d : Nat} {is : List Instruction}

theorem Steps.refl (c : Cfg) : Steps F d is 0 c c := fun _ => rfl

theorem Steps.trans {a b : Nat} {c c' c'' : Cfg} (h : Steps F d is a c c') (h' : Steps F d is b c' c'') :
    Steps F d is (b + a) c c'' := by
  intro fuel
  rw [← Nat.add_assoc, h, h']

theorem Steps.ends {a b : Nat} {c c' : Cfg} {r : BodyResult × Vars × ScriptSt} (h : Steps F d is a c c')
    (h' : Ends F d is b c' r) : Ends F d is (b + a) c r := by
  intro fuel
  rw [← Nat.add_assoc, h, h']

theorem Steps.step {n : Nat} {c c' c'' : Cfg} (h : Steps F d is 1 c c') (h' : Steps F d is n c' c'') :
    Steps F d is (n + 1) c c'' :=
  h.trans h'

theorem Ends.step {n : Nat} {c c' : Cfg} {r : BodyResult × Vars × ScriptSt} (h : Steps F d is 1 c c')
    (h' : Ends F d is n c' r) : Ends F d is (n + 1) c r :=
  h.ends h'

theorem Ends.mono {a b : Nat} {c : Cfg} {r : BodyResult × Vars × ScriptSt} (h : Ends F d is a c r) (hab : a ≤ b) :
    Ends F d is b c r := by
  intro fuel
  rw [show fuel + b = fuel + (b - a) + a by omega, h]

theorem Steps.of_eq {m n : Nat} {c c' : Cfg} (h : Steps F d is m c c') (e : m = n) : Steps F d is n c c' := e ▸ h

theorem Ends.eval {n : Nat} {c : Cfg} {r : BodyResult × Vars × ScriptSt} (h : Ends F d is n c r) (fuel poll : Nat) :
    evalInstructions (bodySem F d is) (fun _ => false) is (fuel + n) c.line poll c.out c.vars c.st = some r := by
  rw [eval_eq_run]; exact h fuel

theorem Ends.body {n : Nat} {vars : Vars} {s : ScriptSt} {r : BodyResult × Vars × ScriptSt}
    (h : Ends F d is n ⟨0, none, vars, s⟩ r) (fuel : Nat) :
    scriptBody (bodySem F d is) (fun _ => false) (fuel + n) is vars s = r := by
  unfold scriptBody; rw [h.eval fuel 0]; rfl

/-! ### one line -/

variable {line ln : Nat} {fo : Option Str} {vars : Vars} {s : ScriptSt}

theorem Steps.skip (hget : is[line]? = some (emptyI ln)) :
    Steps F d is 1 ⟨line, fo, vars, s⟩ ⟨line + 1, fo, vars, s⟩ := by
  intro fuel
  unfold run
  rw [eval_skip _ _ _ _ _ _ _ _ _ hget rfl, eval_poll _ _ 0]

theorem Ends.last (hget : is[line]? = none) : Ends F d is 1 ⟨line, fo, vars, s⟩ (.finished fo, vars, s) := by
  intro fuel
  unfold run
  rw [eval_end _ _ _ _ _ _ _ _ hget]

variable {out : Option Str} {cmd : String} {args : Option (List (List Seg))} {vals : List Str}

/-- a native command that answers `Continue` -/
theorem Steps.native {n : Native} {v : Option Str} {vars' : Vars} {s' : ScriptSt}
    (hget : is[line]? = some (mkI ln out cmd args)) (hr : resolve cmd.toList = some (.native n))
    (hb : bind vars (args.map fun a => a.map renderTemplate) = vals)
    (hrun : runNative n vals vars s = (.continue v, vars', s')) :
    Steps F d is 1 ⟨line, fo, vars, s⟩ ⟨line + 1, v, vars'.updateOutput out v, s'⟩ := by
  intro fuel
  unfold run
  rw [eval_native hget rfl hr hb, hrun]
  exact eval_poll _ _ 0 _ _ _ _ _ _

theorem Ends.native_error {n : Native} {m : Str} {vars' : Vars} {s' : ScriptSt}
    (hget : is[line]? = some (mkI ln out cmd args)) (hr : resolve cmd.toList = some (.native n))
    (hb : bind vars (args.map fun a => a.map renderTemplate) = vals)
    (hrun : runNative n vals vars s = (.error m, vars', s')) :
    Ends F d is 1 ⟨line, fo, vars, s⟩ (.error m, vars', s') := by
  intro fuel
  unfold run
  rw [eval_native hget rfl hr hb, hrun]
  rfl

/-- a flow-control command that answers `Continue` -/
theorem Steps.flow {fc : FlowCmd} {v : Option Str} {vars' : Vars} {s' : ScriptSt}
    (hget : is[line]? = some (mkI ln out cmd args)) (hr : resolve cmd.toList = some (.flow fc))
    (hb : bind vars (args.map fun a => a.map renderTemplate) = vals)
    (hrun : runFlowF (nestedOf (bodySem F d) F) is 2 fc vals line vars s = (.continue v, vars', s')) :
    Steps F (d + 1) is 1 ⟨line, fo, vars, s⟩ ⟨line + 1, v, vars'.updateOutput out v, s'⟩ := by
  intro fuel
  unfold run
  rw [eval_flow hget rfl hr hb, hrun]
  exact eval_poll _ _ 0 _ _ _ _ _ _

theorem Steps.flow_goto {fc : FlowCmd} {v : Option Str} {vars' : Vars} {s' : ScriptSt} {to : Nat}
    (hget : is[line]? = some (mkI ln out cmd args)) (hr : resolve cmd.toList = some (.flow fc))
    (hb : bind vars (args.map fun a => a.map renderTemplate) = vals)
    (hrun : runFlowF (nestedOf (bodySem F d) F) is 2 fc vals line vars s = (.goTo v (.line to), vars', s')) :
    Steps F (d + 1) is 1 ⟨line, fo, vars, s⟩ ⟨to, v, vars', s'⟩ := by
  intro fuel
  unfold run
  rw [eval_flow hget rfl hr hb, hrun]
  exact eval_poll _ _ 0 _ _ _ _ _ _

theorem Ends.flow_error {fc : FlowCmd} {m : Str} {vars' : Vars} {s' : ScriptSt}
    (hget : is[line]? = some (mkI ln out cmd args)) (hr : resolve cmd.toList = some (.flow fc))
    (hb : bind vars (args.map fun a => a.map renderTemplate) = vals)
    (hrun : runFlowF (nestedOf (bodySem F d) F) is 2 fc vals line vars s = (.error m, vars', s')) :
    Ends F (d + 1) is 1 ⟨line, fo, vars, s⟩ (.error m, vars', s') := by
  intro fuel
  unfold run
  rw [eval_flow hget rfl hr hb, hrun]
  rfl

/-! ### what a body leaves of the block caches outside its prefix -/

/-- the block caches and the `end` table read like those of `st0` outside the prefix of `scope` -/
structure FlowFrame (scope : Str) (st0 : ScriptSt) (IM : KV (Nat × List Nat)) (FM : KV Nat) (ET : KV Str) : Prop where
  ifMeta : ∀ k, underPrefix scope k = false → IM.get k = st0.ifMeta.get k
  forMeta : ∀ k, underPrefix scope k = false → FM.get k = st0.forMeta.get k
  endTable : ∀ k, underPrefix scope k = false → ET.get k = st0.endTable.get k

theorem FlowFrame.afterIf {scope : Str} {st0 : ScriptSt} {IM : KV (Nat × List Nat)} {FM : KV Nat} {ET : KV Str}
    (h : FlowFrame scope st0 IM FM ET) (line stop : Nat) :
    FlowFrame scope st0 (ifMetaAfter IM (lineKey scope line) stop) FM (ET.put (lineKey scope stop) fullNameEndIf) where
  ifMeta k hk := by rw [get_ifMetaAfter_frame scope IM _ stop (lineKey_under scope line) k hk]; exact h.ifMeta k hk
  forMeta := h.forMeta
  endTable k hk := by rw [get_put_frame scope ET _ _ (lineKey_under scope stop) k hk]; exact h.endTable k hk

theorem FlowFrame.afterFor {scope : Str} {st0 : ScriptSt} {IM : KV (Nat × List Nat)} {FM : KV Nat} {ET : KV Str}
    (h : FlowFrame scope st0 IM FM ET) (line stop : Nat) :
    FlowFrame scope st0 IM (forMetaAfter FM (lineKey scope line) stop) (ET.put (lineKey scope stop) fullNameEndForIn) where
  ifMeta := h.ifMeta
  forMeta k hk := by rw [get_forMetaAfter_frame scope FM _ stop (lineKey_under scope line) k hk]; exact h.forMeta k hk
  endTable k hk := by rw [get_put_frame scope ET _ _ (lineKey_under scope stop) k hk]; exact h.endTable k hk

/-! ### `if <word>` / `end` -/

/-- `if ${x}` where `x` holds one of the two words a condition command answers with -/
theorem Steps.if_word {scope : Str} {stop : Nat} {b : Bool} (hget : is[line]? = some (mkI ln none "if" args))
    (hb : bind vars (args.map fun a => a.map renderTemplate) = [boolStr b])
    (hfind : findCommands ifTables is (line + 1) = .ok ⟨[], stop⟩) (hctx : s.ctx = scope)
    (hc : IfCacheOK s.ifMeta (lineKey scope line) stop) :
    Steps F (d + 1) is 1 ⟨line, fo, vars, s⟩ ⟨if b then line + 1 else stop + 1, none, vars, ifStP s line stop b⟩ := by
  rw [← flowKey_lineKey hctx] at hc
  have hif := runIf_bool (nestedOf (bodySem F d) F) is b line stop vars s hfind hc
  cases b with
  | true => exact Steps.flow hget rs_if hb hif
  | false => exact Steps.flow_goto hget rs_if hb hif

theorem Steps.end_if {scope : Str} (hget : is[line]? = some (mkI ln none "end" none)) (hctx : s.ctx = scope)
    (ht : s.endTable.get (lineKey scope line) = some fullNameEndIf) :
    Steps F (d + 1) is 1 ⟨line, fo, vars, s⟩ ⟨line + 1, none, vars, s⟩ :=
  Steps.flow hget rs_end rfl (runEnd_if _ _ line _ _ (by rw [flowKey_lineKey hctx]; exact ht))

/-! ### `for v in ${hv}` … `end` -/

variable {a b : Nat} {v hv : Str}

/-- the for-in block on lines `a`..`b` of `is`: loop variable `v`, the handle is read from `hv` -/
structure ForBlock (is : List Instruction) (a b : Nat) (v hv : Str) : Prop where
  forLine : ∃ ln, is[a]? = some (mkI ln none "for" (some [[.lit v], [.lit "in".toList], [.var hv]]))
  endLine : ∃ ln, is[b]? = some (mkI ln none "end" none)
  ok : LitOK v ∧ KeyOK hv
  ne : hv ≠ v
  find : findCommands forTables is (a + 1) = .ok ⟨[], b⟩

/-- the arguments of the `for` line -/
theorem bind_for (vars : Vars) (v hv : Str) (hok : LitOK v ∧ KeyOK hv) :
    bind vars ((some [[Seg.lit v], [Seg.lit "in".toList], [Seg.var hv]]).map fun a => a.map renderTemplate) =
      [v, "in".toList, (vars.get hv).getD []] := by
  refine bind_eq ?_ (by simp only [List.map, tmplValue_lit, tmplValue_var])
  intro t ht x hx
  simp only [List.mem_cons, List.not_mem_nil, or_false] at ht
  rcases ht with rfl | rfl | rfl <;> simp only [List.mem_cons, List.not_mem_nil, or_false] at hx <;> subst hx
  · exact hok.1
  · show LitOK "in".toList; decide
  · exact hok.2

/-- where a `for` line whose entry stands at iteration `i` goes: into the body with the next cell,
    or behind the block -/
def forNext (a b : Nat) (v : Str) (vars : Vars) (s : ScriptSt) (h : Str) (i : Nat) (fs : List ForCall) : Cfg :=
  match nextIteration s h i with
  | some y => ⟨a + 1, none, vars.set v y, { s with forStack := ⟨i + 1, a, b, s.ctx⟩ :: fs }⟩
  | none => ⟨b + 1, none, vars, { s with forStack := fs }⟩

/-- entering the block: the entry on top of the for-in stack, if any, is not one of this line -/
theorem ForBlock.enter_pop (hB : ForBlock is a b v hv) {scope : Str} (hctx : s.ctx = scope)
    (hpop : popFor a scope false s.forStack = (none, s.forStack)) (hc : CacheOK s.forMeta (lineKey scope a) b) :
    Steps F (d + 1) is 1 ⟨a, fo, vars, s⟩ (forNext a b v vars (forSt s a b) ((vars.get hv).getD []) 0 s.forStack) := by
  obtain ⟨ln, hget⟩ := hB.forLine
  subst hctx
  have hfor := runFor_first (nestedOf (bodySem F d) F) is 1 v ((vars.get hv).getD []) a b vars s hpop hB.find hc
  have hn : nextIteration (forSt s a b) ((vars.get hv).getD []) 0 = nextIteration s ((vars.get hv).getD []) 0 :=
    nextIteration_congr _ _ rfl _ _
  unfold forNext
  rw [hn]
  cases hnext : nextIteration s ((vars.get hv).getD []) 0 with
  | some y => rw [hnext] at hfor; exact Steps.flow hget rs_for (bind_for vars v hv hB.ok) hfor
  | none => rw [hnext] at hfor; exact Steps.flow_goto hget rs_for (bind_for vars v hv hB.ok) hfor

/-- entering the block: no entry of this script is on top of the for-in stack -/
theorem ForBlock.enter (hB : ForBlock is a b v hv) {scope : Str} (hctx : s.ctx = scope)
    (hstale : NoStaleFor scope s.forStack) (hc : CacheOK s.forMeta (lineKey scope a) b) :
    Steps F (d + 1) is 1 ⟨a, fo, vars, s⟩ (forNext a b v vars (forSt s a b) ((vars.get hv).getD []) 0 s.forStack) :=
  hB.enter_pop hctx (popFor_noStale a scope _ hstale) hc

/-- the way back: the block's `end` line, then the `for` line with the entry on top of the stack -/
theorem ForBlock.back (hB : ForBlock is a b v hv) {scope : Str} {i : Nat} {fs : List ForCall} (hctx : s.ctx = scope)
    (ht : s.endTable.get (lineKey scope b) = some fullNameEndForIn) (hfs : s.forStack = ⟨i, a, b, scope⟩ :: fs) :
    Steps F (d + 1) is 2 ⟨b, fo, vars, s⟩ (forNext a b v vars s ((vars.get hv).getD []) i fs) := by
  obtain ⟨lf, hfor⟩ := hB.forLine
  obtain ⟨le, hend⟩ := hB.endLine
  subst hctx
  have hresume := runFor_resume (nestedOf (bodySem F d) F) is 1 v ((vars.get hv).getD []) a vars s ⟨i, a, b, s.ctx⟩ fs
    hfs rfl rfl
  refine Steps.step (Steps.flow_goto hend rs_end rfl (runEnd_for _ _ b _ _ ⟨i, a, b, s.ctx⟩ fs ht hfs rfl rfl)) ?_
  unfold forNext
  cases hnext : nextIteration s ((vars.get hv).getD []) i with
  | some y => rw [hnext] at hresume; exact Steps.flow hfor rs_for (bind_for vars v hv hB.ok) hresume
  | none => rw [hnext] at hresume; exact Steps.flow_goto hfor rs_for (bind_for vars v hv hB.ok) hresume

/-- what a loop of the script `scope` over the cells `L` of the handle `X` needs of every state
    between its `for` and its `end` -/
structure LoopSt (scope : Str) (b : Nat) (hv X : Str) (L : List Item) (vars : Vars) (s : ScriptSt) : Prop where
  ctx : s.ctx = scope
  endT : s.endTable.get (lineKey scope b) = some fullNameEndForIn
  handle : (vars.get hv).getD [] = X
  cells : tget s.coll.tbl X = some (.list L)

theorem LoopSt.next {scope : Str} {X : Str} {L : List Item} (h : LoopSt scope b hv X L vars s) (i : Nat) :
    nextIteration s X i = (L[i]?).map Item.render := by
  unfold nextIteration; rw [h.cells]

/-- The loop over the cells that are left.  `J i` is the script's own invariant at the start of
    iteration `i`; it does not speak of the loop variable or the for-in stack.  The body of an
    iteration either stops the whole run (within `T`), or reaches the block's `end` line in `cb`
    instructions keeping `LoopSt` and the stack; behind the block the run stops within `te`.
    Results do not depend on the budget `G + F0` of nested runs. -/
theorem ForBlock.loop (hB : ForBlock is a b v hv) {scope X : Str} {L : List Item} {fs : List ForCall}
    {Φ : BodyResult × Vars × ScriptSt → Prop} (J : Nat → Vars → ScriptSt → Prop) (F0 cb te T : Nat) (hT : cb + 2 + te ≤ T)
    (stableV : ∀ i vars s y, J i vars s → J i (vars.set v y) s)
    (stableS : ∀ i vars s st, J i vars s → J i vars { s with forStack := st })
    (body : ∀ i x vars s fo, L[i]? = some x → LoopSt scope b hv X L vars s → s.forStack = ⟨i + 1, a, b, scope⟩ :: fs →
      vars.get v = some x.render → J i vars s →
      (∃ r, (∀ G, Ends (G + F0) (d + 1) is T ⟨a + 1, fo, vars, s⟩ r) ∧ Φ r) ∨
      ∃ fo' vars' s', (∀ G, Steps (G + F0) (d + 1) is cb ⟨a + 1, fo, vars, s⟩ ⟨b, fo', vars', s'⟩) ∧
        LoopSt scope b hv X L vars' s' ∧ s'.forStack = s.forStack ∧ J (i + 1) vars' s')
    (exit : ∀ vars s, LoopSt scope b hv X L vars s → s.forStack = fs → J L.length vars s →
      ∃ r, (∀ G, Ends (G + F0) (d + 1) is te ⟨b + 1, none, vars, s⟩ r) ∧ Φ r) :
    ∀ n i x vars s fo, i + n + 1 = L.length → L[i]? = some x → LoopSt scope b hv X L vars s →
      s.forStack = ⟨i + 1, a, b, scope⟩ :: fs → vars.get v = some x.render → J i vars s →
      ∃ r, (∀ G, Ends (G + F0) (d + 1) is ((cb + 2) * n + T) ⟨a + 1, fo, vars, s⟩ r) ∧ Φ r := by
  intro n
  induction n with
  | zero =>
    intro i x vars s fo hn hx hS hfs hv' hJ
    rcases body i x vars s fo hx hS hfs hv' hJ with ⟨r, hr, hΦ⟩ | ⟨fo', vars', s', hst, hS', hfs', hJ'⟩
    · exact ⟨r, fun G => (hr G).mono (by omega), hΦ⟩
    · have hback := fun G => hB.back (F := G + F0) (d := d) (fo := fo') (vars := vars') hS'.ctx hS'.endT (hfs'.trans hfs)
      have hnone : L[i + 1]? = none := List.getElem?_eq_none (by omega)
      simp only [forNext, hS'.handle, hS'.next, hnone, Option.map_none] at hback
      obtain ⟨r, hr, hΦ⟩ := exit vars' { s' with forStack := fs } ⟨hS'.ctx, hS'.endT, hS'.handle, hS'.cells⟩ rfl
        (by rw [show L.length = i + 1 by omega]; exact stableS _ _ _ _ hJ')
      exact ⟨r, fun G => (((hst G).trans (hback G)).ends (hr G)).mono (by omega), hΦ⟩
  | succ n ih =>
    intro i x vars s fo hn hx hS hfs hv' hJ
    rcases body i x vars s fo hx hS hfs hv' hJ with ⟨r, hr, hΦ⟩ | ⟨fo', vars', s', hst, hS', hfs', hJ'⟩
    · exact ⟨r, fun G => (hr G).mono (by omega), hΦ⟩
    · have hback := fun G => hB.back (F := G + F0) (d := d) (fo := fo') (vars := vars') hS'.ctx hS'.endT (hfs'.trans hfs)
      obtain ⟨y, hy⟩ : ∃ y, L[i + 1]? = some y := ⟨L[i + 1]'(by omega), List.getElem?_eq_getElem _⟩
      simp only [forNext, hS'.handle, hS'.next, hy, Option.map_some] at hback
      obtain ⟨r, hr, hΦ⟩ := ih (i + 1) y (vars'.set v y.render) { s' with forStack := ⟨i + 1 + 1, a, b, s'.ctx⟩ :: fs } none
        (by omega) hy
        ⟨hS'.ctx, hS'.endT, by rw [get_set, if_neg hB.ne]; exact hS'.handle, hS'.cells⟩ (by rw [hS'.ctx])
        (by rw [get_set, if_pos rfl]) (stableS _ _ _ _ (stableV _ _ _ _ hJ'))
      have h2 := fun G => ((hst G).trans (hback G)).ends (hr G)
      exact ⟨r, fun G => (h2 G).mono (by have := Nat.mul_add_one (cb + 2) n; omega), hΦ⟩

end

end Duck.ScriptRun
