/-
  `findCommands` / `fcLoop` on flattened trees (for Props/C04Scan.lean and the simulation).

  Part 1: the keyword tables, evaluated (`tables_evaluated`) — every word of a well-formed
          tree is classified (`cls`) with respect to each of the four scanners.
  Part 2: single steps of `fcLoop`, phrased with `cls`.
  Part 3: `Seg` — a list of script instructions sits at an offset of the program.
  Part 4: `ScanP` — the scanner walks over a list of instructions and comes out in the same
          state (plus recorded else-lines); composition lemmas.
  Part 5: induction over the tree.
  Part 6: the search started on the line after an opener (`scan_top`, `scan_block`).
-/
import DuckModel.Sdk.Flow
import DuckModel.Spec.TreeWF

namespace Duck
open Duck.Spec Duck.Generated

/-! ### Part 1: tables -/

/-- what `fcLoop` does with a command word, as decided by the cascade of table lookups -/
inductive Cls
  | sb | mid | eb | en | enb | sn | plain
deriving DecidableEq, Repr

/-- the cascade of `fcLoop` on the five table lookups -/
def clsOf (sb mid en eb sn : Bool) : Cls :=
  if sb then .sb
  else if mid then .mid
  else if en then (if eb then .enb else .en)
  else if eb then .eb
  else if sn then .sn
  else .plain

def cls (t : FlowTables) (c : Str) : Cls :=
  clsOf (t.startBlocks.contains c) (t.middleNames.contains c) (t.endNames.contains c)
    (t.endBlocks.contains c) (t.startNames.contains c)

def Cls.isEB : Cls → Bool
  | .eb | .enb => true
  | _ => false

def Cls.isEN : Cls → Bool
  | .en | .enb => true
  | _ => false

/-- the four block kinds / scanners -/
inductive Kind
  | kIf | kWhile | kFor | kFn
deriving DecidableEq, Repr

def Kind.tbl : Kind → FlowTables
  | .kIf => ifTables
  | .kWhile => whileTables
  | .kFor => forTables
  | .kFn => fnTables

def Kind.isOpen : Kind → Str → Bool
  | .kIf => isIfKw
  | .kWhile => isWhileKw
  | .kFor => isForKw
  | .kFn => isFnKw

def Kind.isEnd : Kind → Str → Bool
  | .kIf => isEndIfKw
  | .kWhile => isEndWhileKw
  | .kFor => isEndForKw
  | .kFn => isEndFnKw

def Kind.all : List Kind := [.kIf, .kWhile, .kFor, .kFn]

theorem Kind.mem_all (K : Kind) : K ∈ Kind.all := by cases K <;> decide

def Kind.openers : Kind → List Str
  | .kIf => namesIfCommand
  | .kWhile => namesWhileCommand
  | .kFor => namesForInCommand
  | .kFn => namesFunctionCommand

/-- the end words of a kind: the generic `end`, then the kind's own end command -/
def Kind.enders : Kind → List Str
  | .kIf => endWord :: namesEndIfCommand
  | .kWhile => endWord :: namesEndWhileCommand
  | .kFor => endWord :: namesEndForInCommand
  | .kFn => endWord :: namesEndFunctionCommand

def middleWords : List Str := namesElseIfCommand ++ namesElseCommand

def Kind.words (K : Kind) : List Str :=
  K.tbl.startBlocks ++ K.tbl.middleNames ++ K.tbl.endNames ++ K.tbl.endBlocks ++ K.tbl.startNames

theorem Kind.mem_openers {K : Kind} {k : Str} (h : K.isOpen k = true) : k ∈ K.openers := by
  cases K <;> exact List.contains_iff_mem.mp h

theorem Kind.mem_enders {K : Kind} {k : Str} : K.isEnd k = true ↔ k ∈ K.enders := by
  cases K <;>
    simp only [Kind.isEnd, Kind.enders, isEndIfKw, isEndWhileKw, isEndForKw, isEndFnKw, Bool.or_eq_true,
      beq_iff_eq, List.mem_cons, List.contains_iff_mem, or_comm]

theorem mem_middleWords {k : Str} : (isElifKw k || isElseKw k) = true ↔ k ∈ middleWords := by
  simp only [isElifKw, isElseKw, middleWords, Bool.or_eq_true, List.contains_iff_mem, List.mem_append]

/-- everything the proofs use of the regenerated tables, for the four scanners at once: how each scanner
    classifies the openers, the end words and the else-words of every kind; its tables hold flow
    words only; `return` is none; the else-words and end words are all a table lists as such -/
theorem tables_evaluated :
    (∀ K ∈ Kind.all, ∀ K' ∈ Kind.all, ∀ k ∈ K'.openers, cls K.tbl k = if K = K' then .sn else .sb) ∧
    (∀ K ∈ Kind.all, ∀ K' ∈ Kind.all, ∀ k ∈ K'.enders,
      if K = K' then (cls K.tbl k).isEN = true else (cls K.tbl k).isEB = true) ∧
    (∀ K ∈ Kind.all, ∀ k ∈ middleWords, cls K.tbl k = if K = .kIf then .mid else .plain) ∧
    (∀ K ∈ Kind.all, ∀ k ∈ K.words, k ∈ flowWords) ∧
    (∀ k ∈ namesReturnCommand, isPlainCmd k = true) ∧
    (∀ K ∈ Kind.all, ¬ (K.tbl.startNames.isEmpty = true ∨ K.tbl.endNames.isEmpty = true)) ∧
    (∀ k ∈ ifTables.middleNames, k ∈ middleWords) ∧
    (∀ K ∈ Kind.all, ∀ k ∈ K.tbl.endNames, k ∈ K.enders) := by
  decide +kernel

/-- openers: same kind ⇒ `startNames` only; other kind ⇒ `startBlocks` -/
theorem cls_open (K K' : Kind) (k : Str) (h : K'.isOpen k = true) :
    cls K.tbl k = if K = K' then .sn else .sb :=
  tables_evaluated.1 K K.mem_all K' K'.mem_all k (Kind.mem_openers h)

/-- end words: same kind ⇒ in `endNames`; other kind ⇒ in `endBlocks` -/
theorem cls_end (K K' : Kind) (k : Str) (h : K'.isEnd k = true) :
    if K = K' then (cls K.tbl k).isEN = true else (cls K.tbl k).isEB = true :=
  tables_evaluated.2.1 K K.mem_all K' K'.mem_all k (Kind.mem_enders.mp h)

/-- `elif` / `else` words: recorded by the `if` scanner, ignored by the others -/
theorem cls_mid (K : Kind) (k : Str) (h : (isElifKw k || isElseKw k) = true) :
    cls K.tbl k = if K = .kIf then .mid else .plain :=
  tables_evaluated.2.2.1 K K.mem_all k (mem_middleWords.mp h)

/-- plain commands are in no table -/
theorem cls_plain (K : Kind) (c : Str) (h : isPlainCmd c = true) : cls K.tbl c = .plain := by
  have hc : c ∉ K.words := fun hm => by
    have := List.contains_iff_mem.mpr (tables_evaluated.2.2.2.1 K K.mem_all c hm)
    simp only [isPlainCmd, this] at h
    cases h
  simp only [Kind.words, List.mem_append, not_or] at hc
  obtain ⟨⟨⟨⟨h1, h2⟩, h3⟩, h4⟩, h5⟩ := hc
  simp only [cls, clsOf, List.contains_iff_mem, h1, h2, h3, h4, h5, if_false]

/-- `return` spellings are plain -/
theorem ret_plain (k : Str) (h : namesReturnCommand.contains k = true) : isPlainCmd k = true :=
  tables_evaluated.2.2.2.2.1 k (List.contains_iff_mem.mp h)

theorem allowRecursive_of_ne_fn (K : Kind) (h : K ≠ .kFn) : K.tbl.allowRecursive = true := by
  cases K <;> first | rfl | exact absurd rfl h

theorem names_nonempty (K : Kind) :
    ¬ (K.tbl.startNames.isEmpty = true ∨ K.tbl.endNames.isEmpty = true) :=
  tables_evaluated.2.2.2.2.2.1 K K.mem_all

/-! ### Part 2: single steps of `fcLoop` -/

theorem not_mem_of_contains {l : List Str} {c : Str} (h : l.contains c = false) : c ∉ l :=
  fun hm => by rw [List.contains_iff_mem.mpr hm] at h; cases h

/-! the inversions of `cls`: finite checks over the 32 combinations of the five lookups -/

theorem cls_sb_inv {t : FlowTables} {c : Str} (h : cls t c = .sb) : c ∈ t.startBlocks :=
  List.contains_iff_mem.mp
    ((by decide : ∀ a b c d e, clsOf a b c d e = .sb → a = true) _ _ _ _ _ h)

theorem cls_mid_inv {t : FlowTables} {c : Str} (h : cls t c = .mid) :
    c ∉ t.startBlocks ∧ c ∈ t.middleNames := by
  have := (by decide : ∀ a b c d e, clsOf a b c d e = .mid → a = false ∧ b = true) _ _ _ _ _ h
  exact ⟨not_mem_of_contains this.1, List.contains_iff_mem.mp this.2⟩

theorem cls_plain_inv {t : FlowTables} {c : Str} (h : cls t c = .plain) :
    c ∉ t.startBlocks ∧ c ∉ t.middleNames ∧
    c ∉ t.endNames ∧ c ∉ t.endBlocks ∧ c ∉ t.startNames := by
  have := (by decide : ∀ a b c d e, clsOf a b c d e = .plain →
    a = false ∧ b = false ∧ c = false ∧ d = false ∧ e = false) _ _ _ _ _ h
  exact ⟨not_mem_of_contains this.1, not_mem_of_contains this.2.1, not_mem_of_contains this.2.2.1,
    not_mem_of_contains this.2.2.2.1, not_mem_of_contains this.2.2.2.2⟩

theorem cls_sn_inv {t : FlowTables} {c : Str} (h : cls t c = .sn) :
    c ∉ t.startBlocks ∧ c ∉ t.middleNames ∧
    c ∉ t.endNames ∧ c ∉ t.endBlocks ∧ c ∈ t.startNames := by
  have := (by decide : ∀ a b c d e, clsOf a b c d e = .sn →
    a = false ∧ b = false ∧ c = false ∧ d = false ∧ e = true) _ _ _ _ _ h
  exact ⟨not_mem_of_contains this.1, not_mem_of_contains this.2.1, not_mem_of_contains this.2.2.1,
    not_mem_of_contains this.2.2.2.1, List.contains_iff_mem.mp this.2.2.2.2⟩

theorem cls_eb_inv {t : FlowTables} {c : Str} (h : (cls t c).isEB = true) :
    c ∉ t.startBlocks ∧ c ∉ t.middleNames ∧
    c ∈ t.endBlocks := by
  have := (by decide : ∀ a b c d e, (clsOf a b c d e).isEB = true →
    a = false ∧ b = false ∧ d = true) _ _ _ _ _ h
  exact ⟨not_mem_of_contains this.1, not_mem_of_contains this.2.1, List.contains_iff_mem.mp this.2.2⟩

theorem cls_en_inv {t : FlowTables} {c : Str} (h : (cls t c).isEN = true) :
    c ∉ t.startBlocks ∧ c ∉ t.middleNames ∧
    c ∈ t.endNames := by
  have := (by decide : ∀ a b c d e, (clsOf a b c d e).isEN = true →
    a = false ∧ b = false ∧ c = true) _ _ _ _ _ h
  exact ⟨not_mem_of_contains this.1, not_mem_of_contains this.2.1, List.contains_iff_mem.mp this.2.2⟩

/-- each scanner counts the openers of the other kinds -/
theorem startBlocks_of_open {K K' : Kind} (hne : K ≠ K') {k : Str} (h : K'.isOpen k = true) :
    K.tbl.startBlocks.contains k = true :=
  List.contains_iff_mem.mpr (cls_sb_inv (by rw [cls_open K K' k h, if_neg hne]))

theorem middleNames_iff (k : Str) :
    (isElifKw k || isElseKw k) = true ↔ ifTables.middleNames.contains k = true :=
  ⟨fun h => List.contains_iff_mem.mpr (cls_mid_inv (t := ifTables) (cls_mid .kIf k h)).2,
    fun h => mem_middleWords.mpr (tables_evaluated.2.2.2.2.2.2.1 k (List.contains_iff_mem.mp h))⟩

theorem endNames_iff (K : Kind) (k : Str) : K.isEnd k = true ↔ K.tbl.endNames.contains k = true :=
  ⟨fun h => List.contains_iff_mem.mpr (cls_en_inv (by simpa only [if_true] using cls_end K K k h)).2.2,
    fun h => Kind.mem_enders.mpr (tables_evaluated.2.2.2.2.2.2.2 K K.mem_all k (List.contains_iff_mem.mp h))⟩

section steps
variable (t : FlowTables) (is : List Instruction) (rec : Nat → Except FcErr Positions)

theorem fcLoop_lt (n line skipTo delta : Nat) (middle : List Nat) (h : line < skipTo) :
    fcLoop t is rec (n + 1) line skipTo delta middle = fcLoop t is rec n (line + 1) skipTo delta middle := by
  simp [fcLoop, h]

theorem fcLoop_plain (n line skipTo delta : Nat) (middle : List Nat) (c : Str) (h : skipTo ≤ line)
    (hc : commandAt is line = some c) (hk : cls t c = .plain) :
    fcLoop t is rec (n + 1) line skipTo delta middle = fcLoop t is rec n (line + 1) skipTo delta middle := by
  obtain ⟨h1, h2, h3, h4, h5⟩ := cls_plain_inv hk
  simp [fcLoop, Nat.not_lt.mpr h, hc, h1, h2, h3, h4, h5]

theorem fcLoop_sb (n line skipTo delta : Nat) (middle : List Nat) (c : Str) (h : skipTo ≤ line)
    (hc : commandAt is line = some c) (hk : cls t c = .sb) :
    fcLoop t is rec (n + 1) line skipTo delta middle = fcLoop t is rec n (line + 1) skipTo (delta + 1) middle := by
  have h1 := cls_sb_inv hk
  simp [fcLoop, Nat.not_lt.mpr h, hc, h1]

theorem fcLoop_mid (n line skipTo delta : Nat) (middle : List Nat) (c : Str) (h : skipTo ≤ line)
    (hc : commandAt is line = some c) (hk : cls t c = .mid) :
    fcLoop t is rec (n + 1) line skipTo delta middle = fcLoop t is rec n (line + 1) skipTo delta (middle ++ [line]) := by
  obtain ⟨h1, h2⟩ := cls_mid_inv hk
  simp [fcLoop, Nat.not_lt.mpr h, hc, h1, h2]

theorem fcLoop_eb (n line skipTo delta : Nat) (middle : List Nat) (c : Str) (h : skipTo ≤ line)
    (hc : commandAt is line = some c) (hk : (cls t c).isEB = true) :
    fcLoop t is rec (n + 1) line skipTo (delta + 1) middle = fcLoop t is rec n (line + 1) skipTo delta middle := by
  obtain ⟨h1, h2, h3⟩ := cls_eb_inv hk
  simp [fcLoop, Nat.not_lt.mpr h, hc, h1, h2, h3]

theorem fcLoop_en (n line skipTo : Nat) (middle : List Nat) (c : Str) (h : skipTo ≤ line)
    (hc : commandAt is line = some c) (hk : (cls t c).isEN = true) :
    fcLoop t is rec (n + 1) line skipTo 0 middle = .ok ⟨middle, line⟩ := by
  obtain ⟨h1, h2, h3⟩ := cls_en_inv hk
  simp [fcLoop, Nat.not_lt.mpr h, hc, h1, h2, h3]

theorem fcLoop_sn (n line skipTo delta : Nat) (middle : List Nat) (c : Str) (sub : Positions) (h : skipTo ≤ line)
    (hc : commandAt is line = some c) (hk : cls t c = .sn) (ha : t.allowRecursive = true)
    (hr : rec (line + 1) = .ok sub) :
    fcLoop t is rec (n + 1) line skipTo delta middle = fcLoop t is rec n (line + 1) (sub.stop + 1) delta middle := by
  obtain ⟨h1, h2, h3, h4, h5⟩ := cls_sn_inv hk
  simp [fcLoop, Nat.not_lt.mpr h, hc, h1, h2, h3, h4, h5, ha, hr]

/-- lines below `skipTo` are skipped -/
theorem fcLoop_skipTo (skipTo delta : Nat) (middle : List Nat) :
    ∀ (d n line : Nat), line + d = skipTo → d ≤ n →
      fcLoop t is rec n line skipTo delta middle = fcLoop t is rec (n - d) skipTo skipTo delta middle := by
  intro d
  induction d with
  | zero => intro n line h _; simp at h; subst h; simp
  | succ d ih =>
    intro n line h hn
    obtain ⟨m, rfl⟩ : ∃ m, n = m + 1 := ⟨n - 1, by omega⟩
    rw [fcLoop_lt t is rec m line skipTo delta middle (by omega)]
    rw [ih m (line + 1) (by omega) (by omega)]
    congr 1
    omega

end steps

/-! ### Part 3: a list of script instructions sits at offset `off` of the program -/

def Seg (is : List Instruction) (off : Nat) (l : List ScriptInstr) : Prop :=
  off + l.length ≤ is.length ∧ ∀ k si, l[k]? = some si → commandAt is (off + k) = si.command

theorem Seg.head {is : List Instruction} {off : Nat} {x : ScriptInstr} {l : List ScriptInstr}
    (h : Seg is off (x :: l)) : commandAt is off = x.command := by
  have := h.2 0 x (by simp)
  simpa using this

theorem Seg.tail {is : List Instruction} {off : Nat} {x : ScriptInstr} {l : List ScriptInstr}
    (h : Seg is off (x :: l)) : Seg is (off + 1) l := by
  refine ⟨by have := h.1; simp at this; omega, ?_⟩
  intro k si hk
  have := h.2 (k + 1) si (by simpa using hk)
  rw [← this]; congr 1; omega

theorem Seg.left {is : List Instruction} {off : Nat} {a b : List ScriptInstr}
    (h : Seg is off (a ++ b)) : Seg is off a := by
  refine ⟨by have := h.1; simp at this; omega, ?_⟩
  intro k si hk
  have hlt : k < a.length := by
    rcases Nat.lt_or_ge k a.length with h' | h'
    · exact h'
    · rw [List.getElem?_eq_none h'] at hk; cases hk
  exact h.2 k si (by rw [List.getElem?_append_left hlt]; exact hk)

theorem Seg.right {is : List Instruction} {off : Nat} {a b : List ScriptInstr}
    (h : Seg is off (a ++ b)) : Seg is (off + a.length) b := by
  refine ⟨by have := h.1; simp at this; omega, ?_⟩
  intro k si hk
  have := h.2 (a.length + k) si (by rw [List.getElem?_append_right (by omega)]; simpa using hk)
  rw [← this]; congr 1; omega

theorem program_go_getElem? : ∀ (l : List ScriptInstr) (n k : Nat),
    (program.go l n)[k]? = l[k]?.map (fun si => ⟨{ line := some (n + k), source := none }, .script si⟩) := by
  intro l
  induction l with
  | nil => intro n k; simp [program.go]
  | cons x l ih =>
    intro n k
    cases k with
    | zero => simp [program.go]
    | succ k =>
      simp only [program.go, List.getElem?_cons_succ, ih]
      have : n + 1 + k = n + (k + 1) := by omega
      rw [this]

theorem program_go_length : ∀ (l : List ScriptInstr) (n : Nat), (program.go l n).length = l.length := by
  intro l
  induction l with
  | nil => intro n; simp [program.go]
  | cons x l ih => intro n; simp [program.go, ih]

theorem Seg_intro (pre post : List Instruction) (l : List ScriptInstr) :
    Seg (pre ++ instrsFrom pre.length l ++ post) pre.length l := by
  refine ⟨by simp [instrsFrom, program_go_length], ?_⟩
  intro k si hk
  have hlt : k < l.length := by
    rcases Nat.lt_or_ge k l.length with h' | h'
    · exact h'
    · rw [List.getElem?_eq_none h'] at hk; cases hk
  unfold commandAt
  rw [List.append_assoc, List.getElem?_append_right (by omega)]
  rw [List.getElem?_append_left (by simp [instrsFrom, program_go_length]; omega)]
  simp [instrsFrom, program_go_getElem?, hk]

theorem Seg_length_le {is : List Instruction} {off : Nat} {l : List ScriptInstr} (h : Seg is off l) :
    off + l.length ≤ is.length := h.1

/-! ### Part 4: walking over a list of instructions -/

/-- scanning the instructions `l` (sitting at `off`) as an inner part of a search for the end of a
    block of kind `K` leaves the state as it was, except for the recorded else-lines `mids off` -/
def ScanP (K : Kind) (is : List Instruction) (l : List ScriptInstr) (mids : Nat → List Nat) : Prop :=
  ∀ (fuel off n skipTo delta : Nat) (middle : List Nat),
    Seg is off l → l.length ≤ fuel → skipTo ≤ off → l.length ≤ n →
    ∃ skipTo', skipTo' ≤ off + l.length ∧
      fcLoop K.tbl is (findCommandsF K.tbl is fuel) n off skipTo delta middle =
      fcLoop K.tbl is (findCommandsF K.tbl is fuel) (n - l.length) (off + l.length) skipTo' delta
        (middle ++ mids off)

theorem ScanP.congr {K : Kind} {is : List Instruction} {l : List ScriptInstr} {f g : Nat → List Nat}
    (h : ScanP K is l f) (hfg : ∀ off, f off = g off) : ScanP K is l g := by
  have : f = g := funext hfg
  rw [← this]; exact h

theorem scan_nil (K : Kind) (is : List Instruction) : ScanP K is [] (fun _ => []) := by
  intro fuel off n skipTo delta middle _ _ hs _
  exact ⟨skipTo, by simpa using hs, by simp⟩

theorem scan_append {K : Kind} {is : List Instruction} {a b : List ScriptInstr} {f g : Nat → List Nat}
    (ha : ScanP K is a f) (hb : ScanP K is b g) :
    ScanP K is (a ++ b) (fun off => f off ++ g (off + a.length)) := by
  intro fuel off n skipTo delta middle hseg hfuel hs hn
  simp only [List.length_append] at hfuel hn
  obtain ⟨s1, hs1, e1⟩ := ha fuel off n skipTo delta middle hseg.left (by omega) hs (by omega)
  obtain ⟨s2, hs2, e2⟩ := hb fuel (off + a.length) (n - a.length) s1 delta (middle ++ f off)
    hseg.right (by omega) hs1 (by omega)
  refine ⟨s2, by simp only [List.length_append]; omega, ?_⟩
  rw [e1, e2]
  simp only [List.length_append, List.append_assoc]
  congr 1 <;> omega

theorem scan_plain {K : Kind} {is : List Instruction} (o : Option Str) (c : Str) (a : List Str)
    (hk : cls K.tbl c = .plain) : ScanP K is [mkInstr o c a] (fun _ => []) := by
  intro fuel off n skipTo delta middle hseg _ hs hn
  obtain ⟨m, rfl⟩ : ∃ m, n = m + 1 := ⟨n - 1, by simp at hn; omega⟩
  refine ⟨skipTo, by simp; omega, ?_⟩
  rw [fcLoop_plain _ _ _ m off skipTo delta middle c hs (by rw [hseg.head]; rfl) hk]
  simp

theorem scan_mid {K : Kind} {is : List Instruction} (o : Option Str) (c : Str) (a : List Str)
    (hk : cls K.tbl c = .mid) : ScanP K is [mkInstr o c a] (fun off => [off]) := by
  intro fuel off n skipTo delta middle hseg _ hs hn
  obtain ⟨m, rfl⟩ : ∃ m, n = m + 1 := ⟨n - 1, by simp at hn; omega⟩
  refine ⟨skipTo, by simp; omega, ?_⟩
  rw [fcLoop_mid _ _ _ m off skipTo delta middle c hs (by rw [hseg.head]; rfl) hk]
  simp

/-- a block of another kind: the opener raises `delta`, its end word lowers it again -/
theorem scan_other {K : Kind} {is : List Instruction} (o : Option Str) (ko : Str) (a : List Str)
    (ke : Str) (inner : List ScriptInstr)
    (hko : cls K.tbl ko = .sb) (hke : (cls K.tbl ke).isEB = true)
    (hin : ScanP K is inner (fun _ => [])) :
    ScanP K is (mkInstr o ko a :: (inner ++ [mkInstr none ke []])) (fun _ => []) := by
  intro fuel off n skipTo delta middle hseg hfuel hs hn
  simp only [List.length_cons, List.length_append, List.length_nil] at hfuel hn
  obtain ⟨m, rfl⟩ : ∃ m, n = m + 1 := ⟨n - 1, by omega⟩
  rw [fcLoop_sb _ _ _ m off skipTo delta middle ko hs (by rw [hseg.head]; rfl) hko]
  obtain ⟨s1, hs1, e1⟩ := hin fuel (off + 1) m skipTo (delta + 1) middle hseg.tail.left (by omega)
    (by omega) (by omega)
  rw [e1]
  obtain ⟨m', hm'⟩ : ∃ m', m - inner.length = m' + 1 := ⟨m - inner.length - 1, by omega⟩
  rw [hm']
  rw [fcLoop_eb _ _ _ m' (off + 1 + inner.length) s1 delta _ ke hs1
    (by rw [hseg.tail.right.head]; rfl) hke]
  refine ⟨s1, by simp only [List.length_cons, List.length_append, List.length_nil]; omega, ?_⟩
  simp only [List.length_cons, List.length_append, List.length_nil, List.append_nil]
  congr 1 <;> omega

/-- the search itself: started on the line after the opener it finds the end word -/
theorem scan_main {K : Kind} {is : List Instruction} (x : ScriptInstr) (ke : Str)
    (inner : List ScriptInstr) (mids : Nat → List Nat) (fuel off : Nat)
    (hke : (cls K.tbl ke).isEN = true) (hin : ScanP K is inner mids)
    (hseg : Seg is off (x :: (inner ++ [mkInstr none ke []])))
    (hfuel : inner.length + 1 ≤ fuel) :
    findCommandsF K.tbl is fuel (off + 1) = .ok ⟨mids (off + 1), off + 1 + inner.length⟩ := by
  obtain ⟨f, rfl⟩ : ∃ f, fuel = f + 1 := ⟨fuel - 1, by omega⟩
  have hlen := hseg.1
  simp only [List.length_cons, List.length_append, List.length_nil] at hlen
  rw [findCommandsF, if_neg (names_nonempty K)]
  obtain ⟨s1, hs1, e1⟩ := hin f (off + 1) (is.length - (off + 1)) (off + 1) 0 [] hseg.tail.left
    (by omega) (by omega) (by omega)
  rw [e1]
  obtain ⟨m', hm'⟩ : ∃ m', is.length - (off + 1) - inner.length = m' + 1 :=
    ⟨is.length - (off + 1) - inner.length - 1, by omega⟩
  rw [hm']
  rw [fcLoop_en _ _ _ m' (off + 1 + inner.length) s1 _ ke hs1 (by rw [hseg.tail.right.head]; rfl) hke]
  simp

/-- a nested block of the same kind is found by the recursive search and skipped -/
theorem scan_same {K : Kind} {is : List Instruction} (o : Option Str) (ko : Str) (a : List Str)
    (ke : Str) (inner : List ScriptInstr) (mids : Nat → List Nat)
    (hko : cls K.tbl ko = .sn) (hrec : K.tbl.allowRecursive = true) (hke : (cls K.tbl ke).isEN = true)
    (hin : ScanP K is inner mids) :
    ScanP K is (mkInstr o ko a :: (inner ++ [mkInstr none ke []])) (fun _ => []) := by
  intro fuel off n skipTo delta middle hseg hfuel hs hn
  simp only [List.length_cons, List.length_append, List.length_nil] at hfuel hn
  obtain ⟨m, rfl⟩ : ∃ m, n = m + 1 := ⟨n - 1, by omega⟩
  have hmain := scan_main (mkInstr o ko a) ke inner mids fuel off hke hin hseg (by omega)
  rw [fcLoop_sn _ _ _ m off skipTo delta middle ko _ hs (by rw [hseg.head]; rfl) hko hrec hmain]
  rw [fcLoop_skipTo _ _ _ _ delta middle (inner.length + 1) m (off + 1) (by simp; omega) (by omega)]
  refine ⟨off + 1 + inner.length + 1, by simp only [List.length_cons, List.length_append, List.length_nil]; omega, ?_⟩
  simp only [List.length_cons, List.length_append, List.length_nil, List.append_nil]
  congr 1 <;> omega


/-! ### Part 5: induction over the tree -/

/-- else-lines are recorded by the `if` scanner only -/
def midK (K : Kind) (l : List Nat) : List Nat := if K = .kIf then l else []

theorem midK_append (K : Kind) (a b : List Nat) : midK K (a ++ b) = midK K a ++ midK K b := by
  unfold midK; split <;> simp

theorem midK_nil (K : Kind) : midK K [] = [] := by unfold midK; split <;> rfl

/-- absolute positions of the `elif` lines of a chain of alternatives starting at `off` -/
def elifAbs (off : Nat) : Elifs → List Nat
  | .nil => []
  | .cons _ _ b rest => off :: elifAbs (off + 1 + b.flatten.length) rest

/-- a block statement of kind `K'` met by the scanner of kind `K` -/
theorem scan_block_stmt {K : Kind} {is : List Instruction} (K' : Kind) (o : Option Str) (ko : Str)
    (a : List Str) (ke : Str) (inner : List ScriptInstr) (mids : Nat → List Nat)
    (ho : K'.isOpen ko = true) (he : K'.isEnd ke = true) (hK' : K' ≠ .kFn)
    (hin : ScanP K is inner mids) (hm : K ≠ K' → mids = fun _ => []) :
    ScanP K is (mkInstr o ko a :: (inner ++ [mkInstr none ke []])) (fun _ => []) := by
  have h1 := cls_open K K' ko ho
  have h2 := cls_end K K' ke he
  by_cases h : K = K'
  · subst h
    simp only [if_true] at h1 h2
    exact scan_same o ko a ke inner mids h1 (allowRecursive_of_ne_fn K hK') h2 hin
  · simp only [if_neg h] at h1 h2
    have := hm h
    subst this
    exact scan_other o ko a ke inner h1 h2 hin

theorem scan_midword {K : Kind} {is : List Instruction} (o : Option Str) (k : Str) (a : List Str)
    (h : (isElifKw k || isElseKw k) = true) : ScanP K is [mkInstr o k a] (fun off => midK K [off]) := by
  have h1 := cls_mid K k h
  by_cases hK : K = .kIf
  · simp only [if_pos hK] at h1
    exact (scan_mid o k a h1).congr (by intro off; simp [midK, hK])
  · simp only [if_neg hK] at h1
    exact (scan_plain o k a h1).congr (by intro off; simp [midK, hK])

/-- the else-lines seen while scanning the inside of an `if` chain that starts at `off - 1` -/
def ifMids (K : Kind) (bodyLen elifsLen : Nat) (fe : Nat → List Nat) (kwElse : Option Str) :
    Nat → List Nat :=
  fun off => midK K (fe (off + bodyLen) ++
    match kwElse with
    | some _ => [off + bodyLen + elifsLen]
    | none => [])

/-- the `else` line and the else-body, if present -/
def elsePart (kwElse : Option Str) (elseL : List ScriptInstr) : List ScriptInstr :=
  match kwElse with
  | some k => mkInstr none k [] :: elseL
  | none => []

theorem ifChain_flatten (kwIf : Str) (cond : List Str) (body : Block) (elifs : Elifs)
    (kwElse : Option Str) (elseBody : Block) (kwEnd : Str) :
    (Stmt.ifChain kwIf cond body elifs kwElse elseBody kwEnd).flatten =
      mkInstr none kwIf cond ::
        ((body.flatten ++ elifs.flatten ++ elsePart kwElse elseBody.flatten) ++ [mkInstr none kwEnd []]) := by
  cases kwElse <;> simp [Stmt.flatten, elsePart]

theorem scan_ifInner {K : Kind} {is : List Instruction} (bodyL elifsL : List ScriptInstr)
    (kwElse : Option Str) (elseL : List ScriptInstr) (fe : Nat → List Nat)
    (hElse : ∀ k, kwElse = some k → isElseKw k = true)
    (hb : ScanP K is bodyL (fun _ => [])) (he : ScanP K is elifsL (fun off => midK K (fe off)))
    (hel : kwElse.isSome = true → ScanP K is elseL (fun _ => [])) :
    ScanP K is (bodyL ++ elifsL ++ elsePart kwElse elseL)
      (ifMids K bodyL.length elifsL.length fe kwElse) := by
  unfold elsePart
  cases kwElse with
  | none =>
    refine (scan_append (scan_append hb he) (scan_nil K is)).congr ?_
    intro off
    simp [ifMids]
  | some k =>
    have h1 : ScanP K is ([mkInstr none k []] ++ elseL) _ :=
      scan_append (scan_midword none k [] (by simp [hElse k rfl])) (hel rfl)
    refine (scan_append (scan_append hb he) h1).congr ?_
    intro off
    simp [ifMids, midK_append, Nat.add_assoc]

theorem ifMids_other {K : Kind} (h : K ≠ .kIf) (bl el : Nat) (fe : Nat → List Nat) (kwElse : Option Str) :
    ifMids K bl el fe kwElse = fun _ => [] := by
  funext off
  simp [ifMids, midK, h]

mutual
  theorem scanStmt (K : Kind) (is : List Instruction) :
      (s : Stmt) → s.wf = true → s.noFn = true → ScanP K is s.flatten (fun _ => [])
    | .line l, hw, _ => by
      simp only [Stmt.flatten]
      exact scan_plain _ _ _ (cls_plain K _ (by simpa [Stmt.wf] using hw))
    | .ret kw v, hw, _ => by
      simp only [Stmt.flatten]
      exact scan_plain _ _ _ (cls_plain K _ (ret_plain kw (by simpa [Stmt.wf] using hw)))
    | .whileLoop kw cond body kwEnd, hw, hn => by
      simp only [Stmt.wf, Bool.and_eq_true] at hw
      simp only [Stmt.noFn] at hn
      have hb := scanBlock K is body hw.1.2 hn
      simp only [Stmt.flatten]
      exact scan_block_stmt .kWhile _ _ _ _ _ _ hw.1.1 hw.2 (by decide) hb (fun _ => rfl)
    | .forIn kw v handle body kwEnd, hw, hn => by
      simp only [Stmt.wf, Bool.and_eq_true] at hw
      simp only [Stmt.noFn] at hn
      have hb := scanBlock K is body hw.1.2 hn
      simp only [Stmt.flatten]
      exact scan_block_stmt .kFor _ _ _ _ _ _ hw.1.1 hw.2 (by decide) hb (fun _ => rfl)
    | .fnDef kw isSc name body kwEnd, _, hn => by
      simp [Stmt.noFn] at hn
    | .ifChain kwIf cond body elifs kwElse elseBody kwEnd, hw, hn => by
      simp only [Stmt.wf, Bool.and_eq_true] at hw
      simp only [Stmt.noFn, Bool.and_eq_true] at hn
      obtain ⟨⟨⟨⟨hIf, hbw⟩, hew⟩, helse⟩, hEnd⟩ := hw
      have hb := scanBlock K is body hbw hn.1.1
      have he := scanElifs K is elifs hew hn.1.2
      have hel : kwElse.isSome = true → ScanP K is elseBody.flatten (fun _ => []) := by
        intro hs
        cases kwElse with
        | none => cases hs
        | some k =>
          simp only [Bool.and_eq_true] at helse
          exact scanBlock K is elseBody helse.2 hn.2
      have hElse : ∀ k, kwElse = some k → isElseKw k = true := by
        intro k hk
        subst hk
        simp only [Bool.and_eq_true] at helse
        exact helse.1
      have hin := scan_ifInner body.flatten elifs.flatten kwElse elseBody.flatten
        (fun off => elifAbs off elifs) hElse hb he hel
      simp only [Stmt.flatten]
      exact scan_block_stmt .kIf _ _ _ _ _ _ hIf hEnd (by decide) hin
        (fun h => ifMids_other h _ _ _ _)
  theorem scanBlock (K : Kind) (is : List Instruction) :
      (b : Block) → b.wf = true → b.noFn = true → ScanP K is b.flatten (fun _ => [])
    | .nil, _, _ => by
      simp only [Block.flatten]
      exact scan_nil K is
    | .cons s rest, hw, hn => by
      simp only [Block.wf, Bool.and_eq_true] at hw
      simp only [Block.noFn, Bool.and_eq_true] at hn
      simp only [Block.flatten]
      exact (scan_append (scanStmt K is s hw.1 hn.1) (scanBlock K is rest hw.2 hn.2)).congr
        (by intro off; simp)
  theorem scanElifs (K : Kind) (is : List Instruction) :
      (e : Elifs) → e.wf = true → e.noFn = true →
        ScanP K is e.flatten (fun off => midK K (elifAbs off e))
    | .nil, _, _ => by
      simp only [Elifs.flatten]
      exact (scan_nil K is).congr (by intro off; simp [elifAbs, midK_nil])
    | .cons kw cond body rest, hw, hn => by
      simp only [Elifs.wf, Bool.and_eq_true] at hw
      simp only [Elifs.noFn, Bool.and_eq_true] at hn
      simp only [Elifs.flatten]
      have h1 : ScanP K is ([mkInstr none kw cond] ++ (body.flatten ++ rest.flatten)) _ :=
        scan_append (scan_midword none kw cond (by simp [hw.1.1]))
          (scan_append (scanBlock K is body hw.1.2 hn.1) (scanElifs K is rest hw.2 hn.2))
      refine h1.congr ?_
      intro off
      simp [elifAbs, ← midK_append, Nat.add_assoc]
end


/-! ### Part 6: the specification's else-offsets, and the top-level assembly -/

theorem elseOffsets_go_map (p : Nat) : (e : Elifs) → (off : Nat) → (k : Option Str) →
    (elseOffsets.go off e k).map (p + ·) =
      elifAbs (p + off) e ++ (match k with
        | some _ => [p + off + e.flatten.length]
        | none => [])
  | .nil, off, k => by
    cases k <;> simp [elseOffsets.go, elifAbs, Elifs.flatten]
  | .cons kw cond b rest, off, k => by
    have ih := elseOffsets_go_map p rest (off + 1 + b.flatten.length) k
    have e1 : p + (off + 1 + b.flatten.length) = p + off + 1 + b.flatten.length := by omega
    have e2 : p + off + 1 + b.flatten.length + rest.flatten.length =
        p + off + (1 + (b.flatten.length + rest.flatten.length)) := by omega
    rw [e1, e2] at ih
    simp only [elseOffsets.go, elifAbs, Elifs.flatten, List.map_cons, ih, List.length_cons,
      List.length_append, List.cons_append]
    cases k <;> simp <;> omega

/-- a block statement of a kind that allows nesting, scanned from the line after its opener -/
theorem scan_top {K : Kind} (pre post : List Instruction) (x : ScriptInstr) (ke : Str)
    (inner : List ScriptInstr) (mids : Nat → List Nat)
    (hke : K.isEnd ke = true)
    (hin : ScanP K (pre ++ instrsFrom pre.length (x :: (inner ++ [mkInstr none ke []])) ++ post) inner mids) :
    findCommands K.tbl (pre ++ instrsFrom pre.length (x :: (inner ++ [mkInstr none ke []])) ++ post)
      (pre.length + 1) = .ok ⟨mids (pre.length + 1), pre.length + 1 + inner.length⟩ := by
  have h2 := cls_end K K ke hke
  simp only [if_true] at h2
  have hseg := Seg_intro pre post (x :: (inner ++ [mkInstr none ke []]))
  unfold findCommands
  generalize pre ++ instrsFrom pre.length (x :: (inner ++ [mkInstr none ke []])) ++ post = is at *
  refine scan_main x ke inner mids _ pre.length h2 hin hseg ?_
  have := hseg.1
  simp only [List.length_cons, List.length_append, List.length_nil] at this
  omega


/-- a block statement without else-lines (opener `x`, body, end word), scanned from the line after
    its opener: the end line -/
theorem scan_block {K : Kind} (pre post : List Instruction) (x : ScriptInstr) (body : Block) (ke : Str)
    (hke : K.isEnd ke = true) (hw : body.wf = true) (hn : body.noFn = true) :
    findCommands K.tbl (pre ++ instrsFrom pre.length (x :: (body.flatten ++ [mkInstr none ke []])) ++ post)
      (pre.length + 1) = .ok ⟨[], pre.length + 1 + body.flatten.length⟩ :=
  scan_top pre post x ke _ _ hke (scanBlock K _ body hw hn)

end Duck
