/-
  C10: the definitions its theorems are stated with, and the lemmas behind them.

  `recOf` reads the error sub state as the specification's `Record`; `eventOf` says which event of
  Spec/ErrorProtocol.lean the instruction about to be executed is, `eventsN` collects the events of
  `n` iterations.  The lemmas relate one iteration of the runner over `withOnError base` to
  `Record.after` of its event (`runStep_record`), and prove the "latest wins" facts about the fold.
-/
import DuckModel.Sdk.OnError
import DuckModel.Spec.ErrorProtocol
import DuckModel.Spec.Machine
import DuckModel.Lemmas.RunnerLemmas

namespace Duck
open Duck.Spec Duck.OnError

variable {σ : Type}

/-- the error sub state, read as the specification's record -/
def recOf (e : ErrSt) : Record := ⟨e.lastError, e.lastErrorLine, e.lastErrorSource, e.exitOnError⟩

/-- the event of a family member that does not report an error: which arguments `on_error`,
    `set_error` and `exit_on_error` store (the same reading of the arguments as `runFam`,
    Sdk/OnError.lean, written again in the specification's vocabulary; `runFam_record` proves that
    the two agree).  An `on_error` call in fatal mode crashes the run instead of recording
    anything, so it is no event for the record: `.quiet`. -/
def famEvent (f : Fam) (bargs : List Str) (pc : Nat) (fatal : Bool) : Ev :=
  match f, bargs with
  | .setError, m :: _ => .setError m pc
  | .onError, m :: rest =>
    if fatal then .quiet
    else
      match rest with
      | [] => .reported m [] []
      | l :: rest2 => .reported m l (rest2.headD [])
  | .exitOnError, v :: _ => .mode (isTrue (some v))
  | _, _ => .quiet

theorem famEvent_ne_error (f : Fam) (a : List Str) (pc : Nat) (b : Bool) (m : Str) (mi : Meta) :
    famEvent f a pc b ≠ .error m mi := by
  cases f <;> cases a <;> simp [famEvent]
  rename_i x rest
  cases b <;> cases rest <;> simp

/-- what the instruction at the current line means for the record.  Whether the command reports an
    error is asked of the model (`withOnError base`) itself: which commands fail is not part of
    the error protocol, what happens to the record when one does is. -/
def eventOf (base : CmdSem σ) (is : List Instruction) (rs : RunState (σ × ErrSt)) : Ev :=
  match is[rs.line]? with
  | none => .quiet
  | some i =>
    match invocationOf i with
    | none => .quiet
    | some (name, args) =>
      match withOnError base name (bind rs.vars args) (outputOf i) rs.line rs.vars rs.st with
      | some (.error m, _, _) => .error m i.mi
      | _ =>
        match famOf name with
        | some f => famEvent f (bind rs.vars args) rs.line rs.st.2.exitOnError
        | none => .quiet

/-- the events of the first `n` iterations -/
def eventsN (base : CmdSem σ) (is : List Instruction) (labels : List (Str × Nat))
    (halt : Nat → σ × ErrSt → Bool) : Nat → RunState (σ × ErrSt) → List Ev
  | 0, _ => []
  | n + 1, rs =>
    eventOf base is rs ::
      match runStep (withOnError base) is labels halt rs with
      | .inl rs' => eventsN base is labels halt n rs'
      | .inr _ => []

/-! ### the family inside the composed semantics -/

/-- the primary names of the family, looked up once -/
theorem famOf_names :
    famOf "on_error".toList = some .onError ∧ famOf "exit_on_error".toList = some .exitOnError ∧
    famOf "get_last_error".toList = some .getLastError ∧
    famOf "get_last_error_line".toList = some .getLastErrorLine ∧
    famOf "get_last_error_source".toList = some .getLastErrorSource ∧
    famOf "set_error".toList = some .setError ∧ famOf "trigger_error".toList = some .triggerError ∧
    famOf "assert_error".toList = some .assertError := by
  decide +kernel

theorem famOf_onErrorName : famOf onErrorName = some .onError := famOf_names.1
theorem famOf_exitOnError : famOf "exit_on_error".toList = some .exitOnError := famOf_names.2.1
theorem famOf_getLastError : famOf "get_last_error".toList = some .getLastError :=
  famOf_names.2.2.1
theorem famOf_getLastErrorLine : famOf "get_last_error_line".toList = some .getLastErrorLine :=
  famOf_names.2.2.2.1
theorem famOf_getLastErrorSource :
    famOf "get_last_error_source".toList = some .getLastErrorSource := famOf_names.2.2.2.2.1
theorem famOf_setError : famOf "set_error".toList = some .setError := famOf_names.2.2.2.2.2.1
theorem famOf_triggerError : famOf "trigger_error".toList = some .triggerError :=
  famOf_names.2.2.2.2.2.2.1
theorem famOf_assertError : famOf "assert_error".toList = some .assertError :=
  famOf_names.2.2.2.2.2.2.2

theorem withOnError_fam (base : CmdSem σ) (name : Str) (f : Fam) (hf : famOf name = some f)
    (args : List Str) (out : Option Str) (line : Nat) (vars : Vars) (s : σ × ErrSt) :
    withOnError base name args out line vars s =
      some ((runFam f args line s.2).1, vars, (s.1, (runFam f args line s.2).2)) := by
  simp [withOnError, hf]

theorem withOnError_base (base : CmdSem σ) (name : Str) (hf : famOf name = none)
    (args : List Str) (out : Option Str) (line : Nat) (vars : Vars) (s : σ × ErrSt) :
    withOnError base name args out line vars s =
      match base name args out line vars s.1 with
      | none => none
      | some (r, vars', s1') => some (r, vars', (s1', s.2)) := by
  simp [withOnError, hf]
  rfl

/-- what the composed semantics returned for a member of the family, read backwards -/
theorem withOnError_fam_inv (base : CmdSem σ) {name : Str} {f : Fam} (hf : famOf name = some f)
    {args : List Str} {out : Option Str} {line : Nat} {vars vars' : Vars} {s st' : σ × ErrSt}
    {r : CmdResult} (h : withOnError base name args out line vars s = some (r, vars', st')) :
    r = (runFam f args line s.2).1 ∧ vars' = vars ∧ st' = (s.1, (runFam f args line s.2).2) := by
  rw [withOnError_fam base name f hf] at h
  cases h
  exact ⟨rfl, rfl, rfl⟩

/-- a command of the other library leaves the error sub state alone -/
theorem withOnError_base_st (base : CmdSem σ) {name : Str} (hf : famOf name = none)
    {args : List Str} {out : Option Str} {line : Nat} {vars vars' : Vars} {s st' : σ × ErrSt}
    {r : CmdResult} (h : withOnError base name args out line vars s = some (r, vars', st')) :
    st'.2 = s.2 := by
  rw [withOnError_base base name hf] at h
  split at h
  · cases h
  · cases h; rfl

/-- members that report an error leave the sub state alone -/
theorem runFam_error_st (f : Fam) (args : List Str) (line : Nat) (e : ErrSt) (m : Str)
    (h : (runFam f args line e).1 = .error m) : (runFam f args line e).2 = e := by
  match f, args with
  | .setError, [] | .triggerError, _ | .assertError, _ => rfl
  | .onError, [] | .exitOnError, [] | .exitOnError, _ :: _ | .setError, _ :: _
  | .getLastError, _ | .getLastErrorLine, _ | .getLastErrorSource, _ => cases h
  | .onError, a :: rest =>
    simp only [runFam] at h
    split at h <;> cases h

/-- a command that reports an error leaves the error sub state as it was -/
theorem withOnError_error_st (base : CmdSem σ) (name : Str) (args : List Str) (out : Option Str)
    (line : Nat) (vars vars' : Vars) (s st' : σ × ErrSt) (m : Str)
    (h : withOnError base name args out line vars s = some (.error m, vars', st')) :
    st'.2 = s.2 := by
  cases hf : famOf name with
  | some f =>
    obtain ⟨h1, _, rfl⟩ := withOnError_fam_inv base hf h
    exact runFam_error_st f args line s.2 m h1.symm
  | none => exact withOnError_base_st base hf h

/-- the runner's error hook with the family's `on_error`: fatal mode ⇒ the hook fails with the
    message; otherwise the three values are stored as they are -/
theorem runOnError_withOnError (base : CmdSem σ) (vars : Vars) (s : σ × ErrSt) (m : Str)
    (mi : Meta) :
    runOnError (withOnError base) vars s m mi =
      if s.2.exitOnError then (some m, vars, s)
      else (none, vars, (s.1, { s.2 with lastError := some m, lastErrorLine := some (lineText mi),
                                         lastErrorSource := some (sourceText mi) })) := by
  unfold runOnError
  rw [withOnError_fam base onErrorName .onError famOf_onErrorName]
  cases hx : s.2.exitOnError <;> simp [runFam, hx, lineText, sourceText]

/-! ### one iteration and the record -/

theorem recOf_after_error (e : ErrSt) (m : Str) (mi : Meta) :
    recOf { e with lastError := some m, lastErrorLine := some (lineText mi),
                   lastErrorSource := some (sourceText mi) } = (recOf e).after (.error m mi) := by
  simp [recOf, Record.after]

theorem runFam_record (f : Fam) (args : List Str) (line : Nat) (e : ErrSt)
    (hne : ∀ m, (runFam f args line e).1 ≠ .error m)
    (hnc : ∀ m, (runFam f args line e).1 ≠ .crash m) :
    recOf (runFam f args line e).2 = (recOf e).after (famEvent f args line e.exitOnError) := by
  cases f
  case onError =>
    cases args with
    | nil => simp [runFam] at hnc
    | cons a rest =>
      cases hx : e.exitOnError with
      | true => simp [runFam, hx] at hnc
      | false =>
        cases rest with
        | nil => simp [runFam, hx, famEvent, recOf, Record.after]
        | cons l rest2 => simp [runFam, hx, famEvent, recOf, Record.after]
  case exitOnError | getLastError | getLastErrorLine | getLastErrorSource =>
    cases args <;> simp [runFam, famEvent, recOf, Record.after]
  case setError =>
    cases args with
    | nil => simp [runFam] at hne
    | cons a rest => simp [runFam, famEvent, recOf, Record.after]
  case triggerError | assertError => simp [runFam] at hne

/-! ### the event of an instruction, by what its command answers -/

section
variable (base : CmdSem σ) (is : List Instruction) (rs : RunState (σ × ErrSt)) {i : Instruction}
  {name : Str} {args : Option (List Str)} {r : CmdResult} {vars' : Vars} {st' : σ × ErrSt}
  (hi : is[rs.line]? = some i) (hinv : invocationOf i = some (name, args))
  (hsem : withOnError base name (bind rs.vars args) (outputOf i) rs.line rs.vars rs.st =
    some (r, vars', st'))
include hi hinv hsem

theorem eventOf_error {m : Str} (hr : r = .error m) : eventOf base is rs = .error m i.mi := by
  subst hr
  simp only [eventOf, hi, hinv, hsem]

theorem eventOf_nonError (hne : ∀ m, r ≠ .error m) :
    eventOf base is rs =
      match famOf name with
      | some f => famEvent f (bind rs.vars args) rs.line rs.st.2.exitOnError
      | none => .quiet := by
  simp only [eventOf, hi, hinv, hsem]
  cases r <;> first | rfl | exact absurd rfl (hne _)

end

/-- an error event is the error reported by the command of the current instruction -/
theorem eventOf_eq_error (base : CmdSem σ) (is : List Instruction) (rs : RunState (σ × ErrSt))
    (m : Str) (mi : Meta) (h : eventOf base is rs = .error m mi) :
    ∃ i name args vars' st', is[rs.line]? = some i ∧ invocationOf i = some (name, args) ∧
      withOnError base name (bind rs.vars args) (outputOf i) rs.line rs.vars rs.st =
        some (.error m, vars', st') ∧ i.mi = mi := by
  cases hi : is[rs.line]? with
  | none => simp [eventOf, hi] at h
  | some i =>
    cases hinv : invocationOf i with
    | none => simp [eventOf, hi, hinv] at h
    | some na =>
      obtain ⟨name, args⟩ := na
      cases hsem : withOnError base name (bind rs.vars args) (outputOf i) rs.line rs.vars rs.st with
      | none =>
        cases hf : famOf name with
        | none => simp [eventOf, hi, hinv, hsem, hf] at h
        | some f => rw [withOnError_fam base name f hf] at hsem; cases hsem
      | some x =>
        obtain ⟨r, vars', st'⟩ := x
        match r, hsem with
        | .error m', hsem =>
          rw [eventOf_error base is rs hi hinv hsem rfl] at h
          cases h
          exact ⟨i, name, args, vars', st', rfl, hinv, hsem, rfl⟩
        | .continue _, hsem | .goTo _ _, hsem | .crash _, hsem | .exit _, hsem =>
          -- no other answer makes an error event: the family's own events are not errors
          rw [eventOf_nonError base is rs hi hinv hsem nofun] at h
          cases hf : famOf name with
          | none => simp [hf] at h
          | some f =>
            rw [hf] at h
            exact absurd h (famEvent_ne_error _ _ _ _ _ _)

/-- one continuing iteration of the loop changes the record by exactly its event -/
theorem runStep_record (base : CmdSem σ) (is : List Instruction) (labels : List (Str × Nat))
    (halt : Nat → σ × ErrSt → Bool) (rs rs' : RunState (σ × ErrSt))
    (h : runStep (withOnError base) is labels halt rs = .inl rs') :
    recOf rs'.st.2 = (recOf rs.st.2).after (eventOf base is rs) := by
  obtain ⟨i, hh, hi, h⟩ := (runStep_inl_iff _ is labels halt rs rs').1 h
  cases hinv : invocationOf i with
  | none =>
    rw [runInstruction_noInvocation _ _ _ _ _ hinv] at h
    cases h
    simp [eventOf, hi, hinv, Record.after]
  | some na =>
    obtain ⟨name, args⟩ := na
    rw [runInstruction_invocation _ _ _ _ _ _ _ hinv] at h
    cases hsem : withOnError base name (bind rs.vars args) (outputOf i) rs.line rs.vars rs.st with
    | none => rw [hsem] at h; cases h
    | some x =>
      obtain ⟨r, vars', st'⟩ := x
      rw [hsem] at h
      rcases afterInstr_cases _ labels rs i.mi (r, outputOf i, vars', st') with
        ⟨_, _, e, hne, hnc⟩ | ⟨_, _, e, _⟩ | ⟨m, hm, e⟩ <;> rw [e] at h
      · -- the command neither reported an error nor crashed: its state is handed on
        cases h
        rw [eventOf_nonError base is rs hi hinv hsem hne]
        cases hf : famOf name with
        | some f =>
          obtain ⟨h1, _, rfl⟩ := withOnError_fam_inv base hf hsem
          exact runFam_record f _ _ _ (by rw [← h1]; exact hne) (by rw [← h1]; exact hnc)
        | none => rw [withOnError_base_st base hf hsem]; rfl
      · cases h
      · -- a reported error: recorded by the family's `on_error` unless errors are fatal
        have hm : r = .error m := hm
        subst hm
        have hst := withOnError_error_st base name _ _ _ _ _ _ _ m hsem
        rw [eventOf_error base is rs hi hinv hsem rfl]
        rw [runOnError_withOnError] at h
        by_cases hx : st'.2.exitOnError = true
        · rw [if_pos hx] at h; cases h
        · rw [if_neg hx] at h
          cases h
          exact (recOf_after_error st'.2 m i.mi).trans (by rw [hst])

/-! ### folds over events -/

/-- a reading of the record that no event of the list changes is the same after all of them -/
theorem afterAll_keeps {α : Type} (f : Record → α) (evs : List Ev) :
    ∀ r : Record, (∀ e ∈ evs, ∀ r', f (r'.after e) = f r') → f (r.afterAll evs) = f r := by
  induction evs with
  | nil => intro r _; rfl
  | cons e rest ih =>
    intro r h
    exact (ih (r.after e) (fun x hx => h x (by simp [hx]))).trans (h e (by simp) r)

theorem afterAll_keepsReport (evs : List Ev) (r : Record) (h : ∀ e ∈ evs, e.keepsReport = true) :
    (r.afterAll evs).error = r.error ∧ (r.afterAll evs).line = r.line ∧
      (r.afterAll evs).source = r.source := by
  have h' : ∀ e ∈ evs, ∀ r' : Record, (r'.after e).error = r'.error ∧ (r'.after e).line = r'.line ∧
      (r'.after e).source = r'.source := by
    intro e he r'
    have := h e he
    cases e <;> simp [Ev.keepsReport] at this <;> simp [Record.after]
  exact ⟨afterAll_keeps (·.error) evs r fun e he r' => (h' e he r').1,
    afterAll_keeps (·.line) evs r fun e he r' => (h' e he r').2.1,
    afterAll_keeps (·.source) evs r fun e he r' => (h' e he r').2.2⟩

theorem afterAll_keepsMode (evs : List Ev) (r : Record) (h : ∀ e ∈ evs, e.keepsMode = true) :
    (r.afterAll evs).fatal = r.fatal :=
  afterAll_keeps (·.fatal) evs r fun e he r' => by
    have := h e he
    cases e <;> simp [Ev.keepsMode] at this <;> simp [Record.after]

theorem afterAll_append (r : Record) (a b : List Ev) :
    r.afterAll (a ++ b) = (r.afterAll a).afterAll b := by
  simp [Record.afterAll, List.foldl_append]

/-- the latest error decides all three values -/
theorem afterAll_last_error (r : Record) (pre post : List Ev) (m : Str) (mi : Meta)
    (h : ∀ e ∈ post, e.keepsReport = true) :
    (r.afterAll (pre ++ .error m mi :: post)).error = some m ∧
    (r.afterAll (pre ++ .error m mi :: post)).line = some (lineText mi) ∧
    (r.afterAll (pre ++ .error m mi :: post)).source = some (sourceText mi) := by
  rw [afterAll_append]
  have := afterAll_keepsReport post (((r.afterAll pre)).after (.error m mi)) h
  simp only [Record.afterAll, List.foldl_cons] at this ⊢
  obtain ⟨a, b, c⟩ := this
  rw [a, b, c]
  simp [Record.after]

/-- the latest `exit_on_error <value>` decides the mode -/
theorem afterAll_last_mode (r : Record) (pre post : List Ev) (b : Bool)
    (h : ∀ e ∈ post, e.keepsMode = true) :
    (r.afterAll (pre ++ .mode b :: post)).fatal = b := by
  rw [afterAll_append]
  have := afterAll_keepsMode post (((r.afterAll pre)).after (.mode b)) h
  simp only [Record.afterAll, List.foldl_cons] at this ⊢
  rw [this]
  simp [Record.after]

end Duck
