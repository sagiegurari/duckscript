/-
  `unset` (std/var/unset/script.ds) run from source, for every argument list: the loop
  `for name in ${arguments}` / `set_by_name ${name}` removes the named variables one after the
  other; the wrapper's `clear` then removes the command's own prefix.
  Exports `unset_runF` (the call in closed form, end state `uFinal`), `unset_get`.
  Conventions: Lemmas/ScriptLoopShared.lean.
-/
import DuckModel.Lemmas.ScriptLoopShared
import DuckModel.Sdk.VarScope
import DuckModel.Lemmas.VarScopeLemmas

namespace Duck.ScriptRun
open Duck Duck.Alias Duck.Coll Duck.Spec Duck.Generated Duck.Reser

attribute [local irreducible] tremove tinsert

def uScope : Str := "scope::unset".toList
def uName : Str := "scope::unset::name".toList
def uArgs : Str := "scope::unset::arguments".toList

def unsetIs : List Instruction :=
  [emptyI 1,
   mkI 2 none "for" (some [[.lit uName], [.lit "in".toList], [.var uArgs]]),
   mkI 3 none "set_by_name" (some [[.var uName]]),
   mkI 4 none "end" none]

theorem unset_closed :
    (parsesTo cmd_var_unset.script unsetIs = true ∧ findsTo forTables unsetIs (1 + 1) [] 3 = true) ∧
    (underPrefix uScope uName = true ∧ uArgs ≠ uName ∧ argsKey uScope = uArgs ∧
      uScope ++ "::".toList ++ natToStr 1 = "scope::unset::1".toList ∧
      uScope ++ "::".toList ++ natToStr 3 = "scope::unset::3".toList) ∧
    ((LitOK uName ∧ KeyOK uArgs) ∧ ArgsOK [[.var uName]]) := by
  decide +kernel

theorem unset_parses : parseText cmd_var_unset.script = .ok unsetIs := parsesTo_eq unset_closed.1.1
theorem unset_find : findCommands forTables unsetIs (1 + 1) = .ok ⟨[], 3⟩ := findsTo_eq unset_closed.1.2
theorem unset_findScript : findScript "unset".toList = some cmd_var_unset := findScript_of_resolve rs_unset
theorem uName_under : underPrefix uScope uName = true := unset_closed.2.1.1
theorem uArgs_ne_uName : uArgs ≠ uName := unset_closed.2.1.2.1
theorem uArgs_eq : argsKey uScope = uArgs := unset_closed.2.1.2.2.1
theorem unset_keys : lineKey uScope 1 = "scope::unset::1".toList ∧ lineKey uScope 3 = "scope::unset::3".toList :=
  unset_closed.2.1.2.2.2

theorem unset_block : ForBlock unsetIs 1 3 uName uArgs :=
  ⟨⟨_, rfl⟩, ⟨_, rfl⟩, unset_closed.2.2.1, uArgs_ne_uName, unset_find⟩

theorem clear_eraseAll_congr (scope : Str) (a b : Vars) (ks : List Str) (h : clear scope a = clear scope b) :
    clear scope (VarScope.eraseAll a ks) = clear scope (VarScope.eraseAll b ks) := by
  induction ks generalizing a b with
  | nil => exact h
  | cons k r ih =>
    apply ih
    rw [clear_erase_comm, clear_erase_comm, h]

/-- the script's invariant at the start of iteration `i`: removing the names that are left gives
    what removing all names from the start gives; the state is that of the loop's start -/
structure UIter (vars0 : Vars) (sB : ScriptSt) (L : List Item) (i : Nat) (vars : Vars) (s : ScriptSt) : Prop where
  clr : clear uScope (VarScope.eraseAll vars ((L.drop i).map Item.render)) =
    clear uScope (VarScope.eraseAll vars0 (L.map Item.render))
  st : ∀ st', ({ s with forStack := st' } : ScriptSt) = { sB with forStack := st' }

/-- one iteration: `unset ${name}` -/
theorem unset_iter {d : Nat} {vars0 : Vars} {sB : ScriptSt} {X : Str} {L : List Item} (hnotin : uArgs ∉ L.map Item.render)
    (fs : List ForCall) (i : Nat) (x : Item) (vars : Vars) (s : ScriptSt) (fo : Option Str) (hx : L[i]? = some x)
    (hS : LoopSt uScope 3 uArgs X L vars s) (_ : s.forStack = ⟨i + 1, 1, 3, uScope⟩ :: fs)
    (hvN : vars.get uName = some x.render) (hJ : UIter vars0 sB L i vars s) :
    ∃ fo' vars' s', (∀ G, Steps (G + 0) (d + 1) unsetIs 1 ⟨1 + 1, fo, vars, s⟩ ⟨3, fo', vars', s'⟩) ∧
      LoopSt uScope 3 uArgs X L vars' s' ∧ s'.forStack = s.forStack ∧ UIter vars0 sB L (i + 1) vars' s' := by
  have hne : uArgs ≠ x.render := fun e => hnotin (e ▸ List.mem_map.mpr ⟨x, List.mem_of_getElem? hx, rfl⟩)
  have hclr := hJ.clr
  rw [drop_of_getElem? hx] at hclr
  refine ⟨none, vars.erase x.render, s, fun G => ?_,
    ⟨hS.ctx, hS.endT, by rw [get_erase, if_neg hne]; exact hS.handle, hS.cells⟩, rfl, hclr, hJ.st⟩
  refine Steps.step (Steps.native (vals := [x.render]) rfl rs_set_by_name (bind_eq unset_closed.2.2.2
    (by simp only [List.map, tmplValue_var, hvN, Option.getD_some])) rfl) ?_
  exact Steps.refl _

/-! ### the body and the call -/

/-- the state an `unset` body leaves -/
def uAfter (s : ScriptSt) : ScriptSt := forSt s 1 3

theorem uAfter_eq (s : ScriptSt) (h : s.ctx = uScope) :
    uAfter s = { s with forMeta := forMetaAfter s.forMeta "scope::unset::1".toList 3,
                        endTable := s.endTable.put "scope::unset::3".toList fullNameEndForIn } := by
  unfold uAfter
  rw [forSt_eq h, unset_keys.1, unset_keys.2]

/-- the whole body; `L` are the cells of the array the handle variable names (none when it names
    no array) -/
theorem unset_body (d : Nat) (s : ScriptSt) (vars : Vars) (L : List Item)
    (hctx : s.ctx = uScope) (hstale : NoStaleFor uScope s.forStack) (hcache : CacheOK s.forMeta (lineKey uScope 1) 3)
    (hL : (L = [] ∧ ∀ l, tget s.coll.tbl ((vars.get uArgs).getD []) ≠ some (.list l)) ∨
      ∃ X, vars.get uArgs = some X ∧ tget s.coll.tbl X = some (.list L))
    (hnotin : uArgs ∉ L.map Item.render) :
    ∃ r, (∀ G, Ends G (d + 1) unsetIs (3 * L.length + 3) ⟨0, none, vars, s⟩ r) ∧
      r.1 = .finished none ∧ r.2.2 = uAfter s ∧
      clear uScope r.2.1 = clear uScope (VarScope.eraseAll vars (L.map Item.render)) := by
  have hpop := popFor_noStale 1 uScope _ hstale
  rcases hL with ⟨rfl, hno⟩ | ⟨X, hX, hT⟩
  · -- no array: the `for` line leaves the loop at once
    have henter := fun G => unset_block.enter_pop (F := G) (d := d) (fo := none) (vars := vars) hctx hpop hcache
    simp only [forNext, nextIteration_of_not_list hno (s := forSt s 1 3) rfl] at henter
    exact ⟨_, fun G => (((Steps.skip rfl).trans (henter G)).ends (Ends.last rfl)).mono (by omega), rfl, rfl, rfl⟩
  · obtain ⟨vars', s', hrun, _, hfs', hJ'⟩ := unset_block.run (d := d) (s := s) (vars := vars) (fo := none)
      (UIter vars (forSt s 1 3) L) 0 (fun _ => 1)
      (fun i vars s y h => ⟨(clear_eraseAll_congr uScope _ _ _ (clear_set_under _ _ _ _ uName_under)).trans h.clr, h.st⟩)
      (fun i vars s st h => ⟨h.clr, h.st⟩) (unset_iter hnotin _) hctx hpop hcache (by rw [hX]; rfl) hT ⟨rfl, fun _ => rfl⟩
    have hclr := hJ'.clr
    rw [List.drop_length] at hclr
    have hst : s' = uAfter s := (hJ'.st s'.forStack).trans (by rw [hfs']; rfl)
    subst hst
    exact ⟨_, fun G => (((Steps.skip rfl).trans (hrun G)).ends (Ends.last rfl)).mono (by rw [loopCost_const]; omega),
      rfl, rfl, hclr⟩

theorem eraseAll_length_le (m : Vars) (ks : List Str) : (VarScope.eraseAll m ks).length ≤ m.length := by
  induction ks generalizing m with
  | nil => exact Nat.le_refl _
  | cons k r ih => exact Nat.le_trans (ih _) (List.length_filter_le _ _)

theorem unset_get (vars : Vars) (args : List Str) (x : Str) :
    Vars.get (clear uScope (VarScope.eraseAll vars args)) x =
      if x ∈ args ∨ underPrefix uScope x = true then none else Vars.get vars x := by
  rw [get_clear, VarScope.get_eraseAll]
  by_cases h1 : underPrefix uScope x = true
  · simp [h1]
  · by_cases h2 : x ∈ args
    · simp [h2]
    · simp [h1, h2]

theorem unset_entry (depth fuel : Nat) (args : List Str) (vars : Vars) (st : ScriptSt) :
    runScriptCmdF depth fuel "unset".toList args vars st =
      aliasRun handleOps 0 (scriptBody (bodySem fuel depth unsetIs) (fun _ => false) fuel unsetIs) uScope args vars st :=
  runScriptCmdF_entry depth fuel _ _ _ unset_findScript unset_parses args vars st

/-- the state a call of `unset` ends in -/
def uFinal (args : List Str) (st : ScriptSt) : ScriptSt :=
  { st with
    coll := { tbl := if args = [] then st.coll.tbl else
                tremove (tinsert st.coll.tbl (Coll.handleName st.coll.next) (.list (args.map .str))) (Coll.handleName st.coll.next),
              next := if args = [] then st.coll.next else st.coll.next + 1 },
    forMeta := forMetaAfter st.forMeta "scope::unset::1".toList 3,
    endTable := st.endTable.put "scope::unset::3".toList fullNameEndForIn }

/-- the closed form of `unset` run from source -/
theorem unset_runF (depth fuel : Nat) (args : List Str) (vars : Vars) (st : ScriptSt)
    (hstale : NoStaleFor uScope st.forStack)
    (hcache : CacheOK st.forMeta "scope::unset::1".toList 3)
    (hempty : args = [] → ∀ l, tget st.coll.tbl ((vars.get uArgs).getD []) ≠ some (.list l))
    (hnotin : uArgs ∉ args) :
    runScriptCmdF (depth + 1) (fuel + 3 * args.length + 3) "unset".toList args vars st =
      (.continue none, clear uScope (VarScope.eraseAll vars args), uFinal args st) := by
  rw [unset_entry]
  have hkey : CacheOK st.forMeta (lineKey uScope 1) 3 := by rw [unset_keys.1]; exact hcache
  have hmap : ∀ l : List Str, (l.map Item.str).map Item.render = l := fun l => by simp [Item.render, Function.comp_def]
  cases args with
  | nil =>
    obtain ⟨⟨br, vars', s'⟩, hrun, hres, hst, hclr⟩ := unset_body depth { st with ctx := uScope } vars [] rfl hstale hkey
      (Or.inl ⟨rfl, hempty rfl⟩) (by simp)
    simp only at hres hst hclr
    subst hres hst
    refine (aliasRun_handleOps_nil_le _ uScope vars st _ _ _ ((hrun (fuel + 3)).body fuel)
      (by rw [hclr]; exact clear_length_le _ _)).trans ?_
    rw [hclr, uAfter_eq _ rfl]
    rfl
  | cons a rest =>
    obtain ⟨⟨br, vars', s'⟩, hrun, hres, hst, hclr⟩ := unset_body depth (pubSt uScope (a :: rest) st)
      (pubVars uScope (a :: rest) vars st) ((a :: rest).map Item.str) rfl hstale hkey
      (Or.inr ⟨Coll.handleName st.coll.next, by unfold pubVars; rw [get_set, if_pos uArgs_eq.symm],
        by simp only [pubSt, tget_tinsert, if_true]⟩) (by rw [hmap]; exact hnotin)
    simp only at hres hst hclr
    subst hres hst
    rw [hmap] at hclr
    have hclr' : clear uScope vars' = clear uScope (VarScope.eraseAll vars (a :: rest)) :=
      hclr.trans (clear_eraseAll_congr uScope _ _ _ (clear_pubVars uScope (a :: rest) vars st))
    have hb := (hrun (fuel + 3 * (a :: rest).length + 3)).body fuel
    rw [List.length_map] at hb
    refine (aliasRun_handleOps_le 0 _ uScope (a :: rest) vars st (by simp) (by simp) _ _ _ hb
      (by rw [hclr']; exact Nat.le_trans (clear_length_le _ _) (eraseAll_length_le _ _))).trans ?_
    rw [hclr', uAfter_eq _ rfl]
    rfl

end Duck.ScriptRun
