/-
  The tree run is followed by the goto-machine — invariants (observables, caches, frame of
  the end table), association-list facts, pop-until-match on stacks with garbage, and the
  get-or-create of the block caches.
-/
import DuckModel.Lemmas.SimStep
import DuckModel.Lemmas.VarsLemmas
import DuckModel.Lemmas.RegistryLemmas
import DuckModel.Lemmas.FunctionLemmas

namespace Duck
open Duck.Spec Duck.Generated

/-! ### association lists -/

theorem KV.get_put_self {α : Type} (m : KV α) (k : Str) (v : α) : (m.put k v).get k = some v := by
  rw [KV.get_put, if_pos rfl]

theorem KV.get_put_ne {α : Type} (m : KV α) (k k' : Str) (v : α) (h : k ≠ k') :
    (m.put k v).get k' = m.get k' := by
  rw [KV.get_put, if_neg (Ne.symm h)]

theorem Vars.get_set_ne (m : Vars) (k k' : Str) (v : Str) (h : k ≠ k') :
    (Vars.set m k v).get k' = m.get k' := by
  rw [VarScope.get_set, if_neg (Ne.symm h)]

theorem Vars.get_updateOutput_ne (m : Vars) (out : Option Str) (val : Option Str) (x : Str)
    (h : out ≠ some x) : (Vars.updateOutput m out val).get x = m.get x := by
  cases out with
  | none => rfl
  | some o =>
    have ho : o ≠ x := fun e => h (by rw [e])
    cases val with
    | none => exact (VarScope.get_erase m o x).trans (if_neg (Ne.symm ho))
    | some w => exact Vars.get_set_ne m o x w ho

/-! ### line keys -/

theorem lineKey_inj {s : Sdk} {a b : Nat} (h : lineKey s a = lineKey s b) : a = b := by
  unfold lineKey at h
  exact Fn.natToStr_inj (List.append_cancel_left h)

theorem handleName_inj' {a b : Nat} (h : handleName a = handleName b) : a = b := by
  unfold handleName at h
  exact Fn.natToStr_inj (List.append_cancel_left h)

theorem lineKey_congr {s s' : Sdk} (h : s'.lineCtx = s.lineCtx) (l : Nat) : lineKey s' l = lineKey s l := by
  unfold lineKey; rw [h]

/-! ### the invariants -/

/-- handle names in use are `handle:k` with `k` below the counter -/
def HOK (hd : KV (List Str)) (nx : Nat) : Prop :=
  ∀ k l, hd.get k = some l → ∃ j, j < nx ∧ k = handleName j

theorem HOK.put {hd : KV (List Str)} {nx : Nat} (h : HOK hd nx) (items : List Str) :
    HOK (hd.put (handleName nx) items) (nx + 1) := by
  intro k l hk
  rw [KV.get_put] at hk
  by_cases e : k = handleName nx
  · exact ⟨nx, by omega, e⟩
  · rw [if_neg e] at hk
    obtain ⟨j, hj, rfl⟩ := h k l hk
    exact ⟨j, by omega, rfl⟩

theorem HOK.put_mono {hd : KV (List Str)} {nx : Nat} (h : HOK hd nx) (items : List Str) (k : Str)
    (l : List Str) (hk : hd.get k = some l) : (hd.put (handleName nx) items).get k = some l := by
  obtain ⟨j, hj, rfl⟩ := h k l hk
  rw [KV.get_put_ne _ _ _ _ (fun e => by have := handleName_inj' e; omega)]
  exact hk

/-- machine state and tree state show the same observables, and no function is defined: `RelF` for
    the empty environment (the simulation is stated with `RelF`) -/
structure Rel (s : Sdk) (t : TState) : Prop where
  handles : s.handles = t.sdk.handles
  next : s.nextHandle = t.sdk.nextHandle
  emitted : s.emitted = t.sdk.emitted
  sfns : s.fns = []
  tsfns : t.sdk.fns = []
  tfns : t.fns = []
  hok : HOK t.sdk.handles t.sdk.nextHandle

/-- cached block positions are what the scanner returns -/
structure CacheOK (is : List Instruction) (s : Sdk) : Prop where
  ifM : ∀ l m, s.ifMeta.get (lineKey s l) = some m →
    findCommands ifTables is (l + 1) = .ok ⟨m.2, m.1⟩
  whM : ∀ l m, s.whileMeta.get (lineKey s l) = some m →
    ∃ mid, findCommands whileTables is (l + 1) = .ok ⟨mid, m⟩
  forM : ∀ l m, s.forMeta.get (lineKey s l) = some m →
    ∃ mid, findCommands forTables is (l + 1) = .ok ⟨mid, m⟩

theorem CacheOK.of_eq {is : List Instruction} {s s' : Sdk} (h : CacheOK is s)
    (h1 : s'.ifMeta = s.ifMeta) (h2 : s'.whileMeta = s.whileMeta) (h3 : s'.forMeta = s.forMeta)
    (h4 : s'.lineCtx = s.lineCtx) : CacheOK is s' := by
  refine ⟨fun l m hm => ?_, fun l m hm => ?_, fun l m hm => ?_⟩
  · rw [lineKey_congr h4, h1] at hm; exact h.ifM l m hm
  · rw [lineKey_congr h4, h2] at hm; exact h.whM l m hm
  · rw [lineKey_congr h4, h3] at hm; exact h.forM l m hm

/-- outside the lines `[lo, hi)` the end table is as before; functions and line context too (the
    simulation is stated with `FrameF`) -/
structure Frame (lo hi : Nat) (s s' : Sdk) : Prop where
  endT : ∀ l, (l < lo ∨ hi ≤ l) → s'.endTable.get (lineKey s l) = s.endTable.get (lineKey s l)
  fns : s'.fns = s.fns
  ctx : s'.lineCtx = s.lineCtx

/-! ### pop-until-match below garbage -/

theorem popIf_garb (line : Nat) (ctx : Str) (G : List IfCall) (own : IfCall) (K : List IfCall)
    (ho : own.current = line) (hc : own.ctx = ctx) (hG : ∀ e ∈ G, e.current ≠ line) :
    popIf line ctx (G ++ own :: K) = some (own, K) := by
  induction G with
  | nil => simp [popIf, ho, hc]
  | cons g G ih =>
    have hg : g.current ≠ line := hG g (by simp)
    simp only [List.cons_append, popIf, hg, false_and, if_false]
    exact ih (fun e he => hG e (by simp [he]))

theorem popWhile_garb (line : Nat) (ctx : Str) (G : List WhileCall) (own : WhileCall)
    (K : List WhileCall) (ho : own.stop = line) (hc : own.ctx = ctx) (hG : ∀ e ∈ G, e.stop ≠ line) :
    popWhile line ctx (G ++ own :: K) = some (own, K) := by
  induction G with
  | nil => simp [popWhile, ho, hc]
  | cons g G ih =>
    have hg : g.stop ≠ line := hG g (by simp)
    simp only [List.cons_append, popWhile, hg, false_and, if_false]
    exact ih (fun e he => hG e (by simp [he]))

theorem popFor_top (line : Nat) (ctx : Str) (r : Bool) (own : ForCall) (K : List ForCall)
    (ho : own.start = line ∨ own.stop = line) (hc : own.ctx = ctx) :
    popFor line ctx r (own :: K) = (some own, K) := by
  simp [popFor, ho, hc]

theorem popFor_absent (line : Nat) (ctx : Str) (K : List ForCall)
    (hK : ∀ e ∈ K, e.start ≠ line ∧ e.stop ≠ line) :
    popFor line ctx false K = (none, K) := by
  cases K with
  | nil => rfl
  | cons e K =>
    have := hK e (by simp)
    simp [popFor, this.1, this.2]

/-! ### get-or-create of the cached block positions -/

/-- a property of the entries of a per-line cache survives a new entry that has it -/
theorem cache_put {α : Type} {P : Nat → α → Prop} (s : Sdk) (M : KV α) (line : Nat) (v : α)
    (hM : ∀ l m, M.get (lineKey s l) = some m → P l m) (hv : P line v) :
    ∀ l m, (M.put (lineKey s line) v).get (lineKey s l) = some m → P l m := by
  intro l m hm
  rw [KV.get_put] at hm
  by_cases e : lineKey s l = lineKey s line
  · rw [if_pos e] at hm
    cases lineKey_inj e
    cases hm
    exact hv
  · rw [if_neg e] at hm
    exact hM l m hm

theorem ifMetaFor_ok (is : List Instruction) (s : Sdk) (line : Nat) (mid : List Nat) (stop : Nat)
    (hc : CacheOK is s) (hscan : findCommands ifTables is (line + 1) = .ok ⟨mid, stop⟩) :
    ∃ M, ifMetaFor is s line = .ok ((stop, mid),
        { s with ifMeta := M, endTable := s.endTable.put (lineKey s stop) fullNameEndIf }) ∧
      CacheOK is { s with ifMeta := M, endTable := s.endTable.put (lineKey s stop) fullNameEndIf } := by
  cases hm : s.ifMeta.get (lineKey s line) with
  | some m =>
    simp only [ifMetaFor, hm]
    have := hc.ifM line m hm
    rw [hscan] at this
    have h1 : m.2 = mid := by injection this with h; injection h with a b; exact a.symm
    have h2 : m.1 = stop := by injection this with h; injection h with a b; exact b.symm
    obtain ⟨m1, m2⟩ := m
    simp only at h1 h2
    subst h1 h2
    exact ⟨s.ifMeta, rfl, hc.of_eq rfl rfl rfl rfl⟩
  | none =>
    simp only [ifMetaFor, hm, hscan]
    refine ⟨s.ifMeta.put (lineKey s line) (stop, mid), rfl, ?_, ?_, ?_⟩
    · exact cache_put s s.ifMeta line (stop, mid) hc.ifM hscan
    · exact hc.whM
    · exact hc.forM

theorem whileMetaFor_ok (is : List Instruction) (s : Sdk) (line : Nat) (mid : List Nat) (stop : Nat)
    (hc : CacheOK is s) (hscan : findCommands whileTables is (line + 1) = .ok ⟨mid, stop⟩) :
    ∃ M, whileMetaFor is s line = .ok (stop,
        { s with whileMeta := M, endTable := s.endTable.put (lineKey s stop) fullNameEndWhile }) ∧
      CacheOK is { s with whileMeta := M, endTable := s.endTable.put (lineKey s stop) fullNameEndWhile } := by
  cases hm : s.whileMeta.get (lineKey s line) with
  | some m =>
    simp only [whileMetaFor, hm]
    obtain ⟨mid', this⟩ := hc.whM line m hm
    rw [hscan] at this
    have h2 : m = stop := by injection this with h; injection h with a b; exact b.symm
    subst h2
    exact ⟨s.whileMeta, rfl, hc.of_eq rfl rfl rfl rfl⟩
  | none =>
    simp only [whileMetaFor, hm, hscan]
    refine ⟨s.whileMeta.put (lineKey s line) stop, rfl, ?_, ?_, ?_⟩
    · exact hc.ifM
    · exact cache_put s s.whileMeta line stop hc.whM ⟨mid, hscan⟩
    · exact hc.forM

theorem forMetaFor_ok (is : List Instruction) (s : Sdk) (line : Nat) (mid : List Nat) (stop : Nat)
    (hc : CacheOK is s) (hscan : findCommands forTables is (line + 1) = .ok ⟨mid, stop⟩) :
    ∃ M, forMetaFor is s line = .ok (stop,
        { s with forMeta := M, endTable := s.endTable.put (lineKey s stop) fullNameEndForIn }) ∧
      CacheOK is { s with forMeta := M, endTable := s.endTable.put (lineKey s stop) fullNameEndForIn } := by
  cases hm : s.forMeta.get (lineKey s line) with
  | some m =>
    simp only [forMetaFor, hm]
    obtain ⟨mid', this⟩ := hc.forM line m hm
    rw [hscan] at this
    have h2 : m = stop := by injection this with h; injection h with a b; exact b.symm
    subst h2
    exact ⟨s.forMeta, rfl, hc.of_eq rfl rfl rfl rfl⟩
  | none =>
    simp only [forMetaFor, hm, hscan]
    refine ⟨s.forMeta.put (lineKey s line) stop, rfl, ?_, ?_, ?_⟩
    · exact hc.ifM
    · exact hc.whM
    · exact cache_put s s.forMeta line stop hc.forM ⟨mid, hscan⟩

end Duck
