/-
  C12: the recursive release of the implementation model (follows `StateValue::String` cells
  only, table = association list, fuel) against the reference model's transitive release
  (follows every member string, store = function, fuel).
-/
import DuckModel.Lemmas.CollectionsSim

namespace Duck.Coll
open Duck
open Duck.Spec.Store (Coll Out Store upd releaseRec releaseAll members)

/-- a decimal numeral (what a `range` cell renders to) is never a handle -/
theorem numeral_ne_handle (i : Int) (k : Nat) : (toString i).toList ≠ handleName k := by
  intro e
  cases i with
  | ofNat n =>
    have e1 : (Nat.repr n).toList = handleName k := e
    rw [Nat.toList_repr] at e1
    have hm : 'h' ∈ Nat.toDigits 10 n := by rw [e1]; simp [handleName, handlePrefix]
    have := Nat.isDigit_of_mem_toDigits (by decide) (by decide) hm
    revert this; decide
  | negSucc n =>
    have e1 : ("-" ++ Nat.repr (n + 1)).toList = handleName k := e
    simp [handleName, handlePrefix] at e1

/-- the relation `R` with the counter made explicit (release does not touch the counter) -/
def RT (n : Nat) (t : Table) (σ : Store) : Prop := R ⟨t, n⟩ ⟨σ, n⟩

def RecRel (n : Nat) : Option (Table × Bool) → Option (Store × Bool) → Prop
  | some (t', b), some (σ', b') => RT n t' σ' ∧ b = b'
  | none, none => True
  | _, _ => False

def AllRel (n : Nat) : Option Table → Option Store → Prop
  | some t', some σ' => RT n t' σ'
  | none, none => True
  | _, _ => False

/-- the string in a cell, if it holds one (the lambda inside `children`, named) -/
def strOf : Item → Option Str
  | .str x => some x
  | .num _ => none

theorem children_list (l : List Item) : children (.list l) = l.filterMap strOf := by
  simp only [children]; congr
theorem children_map (mm : List (Str × Item)) : children (.map mm) = (mm.map Prod.snd).filterMap strOf := by
  simp only [children, List.filterMap_map]; congr 1; funext x; obtain ⟨a, b⟩ := x; cases b <;> rfl
theorem children_set (x : List Str) : children (.set x) = (x.map Item.str).filterMap strOf := by
  simp only [children, List.filterMap_map]
  have e : (strOf ∘ Item.str) = some := rfl
  rw [e, List.filterMap_some]

theorem members_map (mm : List (Str × Item)) :
    members (.map (absM mm)) = (mm.map Prod.snd).map Item.render := by
  simp [members, absM, Function.comp_def]

/-- a numeral is not live -/
theorem RT.numeral_free {n : Nat} {t : Table} {σ : Store} (h : RT n t σ) (i : Int) :
    σ (toString i).toList = none := by
  rcases R.cases h (toString i).toList with ⟨_, hs⟩ | ⟨l, hv, _⟩ | ⟨mm, hv, _⟩ | ⟨x, hv, _⟩
  · exact hs
  all_goals
    obtain ⟨k, _, e⟩ := h.fresh (toString i).toList (fun e0 => by
      have := e0.symm.trans hv; cases this)
    exact absurd e (numeral_ne_handle i k)

theorem releaseRec_absent (fuel : Nat) (σ : Store) (h : Str) (hn : σ h = none) :
    releaseRec fuel σ h = some (σ, false) := by
  cases fuel <;> simp [releaseRec, hn]

/-- the loops over the stored strings, given the simulation for single handles at this fuel -/
theorem sim_all (n fuel : Nat)
    (ih : ∀ t σ k, RT n t σ → RecRel n (removeRec fuel t k) (releaseRec fuel σ k))
    (items : List Item) (t : Table) (σ : Store) (h : RT n t σ) :
    AllRel n (removeAll (removeRec fuel) (items.filterMap strOf) t)
      (releaseAll (releaseRec fuel) (items.map Item.render) σ) := by
  induction items generalizing t σ with
  | nil => exact h
  | cons it r ihl =>
    cases it with
    | num i =>
      have e := releaseRec_absent fuel σ _ (h.numeral_free i)
      simp only [List.filterMap, strOf, List.map, Item.render, releaseAll, e]
      exact ihl t σ h
    | str x =>
      have s1 := ih t σ x h
      simp only [List.filterMap, strOf, List.map, Item.render, releaseAll, removeAll]
      cases e1 : removeRec fuel t x with
      | none =>
        cases e2 : releaseRec fuel σ x with
        | none => simp [AllRel]
        | some q => rw [e1, e2] at s1; exact absurd s1 (by simp [RecRel])
      | some p =>
        cases e2 : releaseRec fuel σ x with
        | none => rw [e1, e2] at s1; obtain ⟨a, b⟩ := p; exact absurd s1 (by simp [RecRel])
        | some q =>
          obtain ⟨t1, b1⟩ := p
          obtain ⟨σ1, b2⟩ := q
          rw [e1, e2] at s1
          exact ihl t1 σ1 s1.1

theorem AllRel.map_true {n : Nat} {a : Option Table} {b : Option Store} (h : AllRel n a b) :
    RecRel n (a.map fun t' => (t', true)) (b.map fun σ' => (σ', true)) := by
  cases a <;> cases b <;> simp_all [AllRel, RecRel]

/-- recursive release: the two models agree at every fuel (same result, or both out of fuel) -/
theorem sim_rec (n fuel : Nat) : ∀ (t : Table) (σ : Store) (k : Str), RT n t σ →
    RecRel n (removeRec fuel t k) (releaseRec fuel σ k) := by
  induction fuel with
  | zero =>
    intro t σ k h
    rcases R.cases h k with ⟨hv, hs⟩ | ⟨l, hv, hs⟩ | ⟨mm, hv, hs⟩ | ⟨x, hv, hs⟩ <;>
      simp only [removeRec, releaseRec] at * <;> simp only [hv, hs, RecRel, and_true]
    exact R.of_lookupEq h (lookupEq_remove_absent _ _ hv)
  | succ f ih =>
    intro t σ k h
    have hrem : RT n (tremove t k) (upd σ k none) := R.remove h k
    rcases R.cases h k with ⟨hv, hs⟩ | ⟨l, hv, hs⟩ | ⟨mm, hv, hs⟩ | ⟨x, hv, hs⟩ <;>
      simp only [removeRec, releaseRec] at * <;> simp only [hv, hs]
    · simp only [RecRel, and_true]
      exact R.of_lookupEq h (lookupEq_remove_absent _ _ hv)
    · rw [children_list]
      exact (sim_all n f ih l _ _ hrem).map_true
    · rw [children_map, members_map]
      exact (sim_all n f ih (mm.map Prod.snd) _ _ hrem).map_true
    · rw [children_set]
      have := sim_all n f ih (x.map Item.str) _ _ hrem
      simp only [map_render_str] at this
      exact this.map_true

/-- more fuel never changes a result of the reference model's release -/
theorem releaseAll_mono (f : Nat)
    (ih : ∀ σ k r, releaseRec f σ k = some r → releaseRec (f + 1) σ k = some r)
    (cs : List Str) (σ σ' : Store) (h : releaseAll (releaseRec f) cs σ = some σ') :
    releaseAll (releaseRec (f + 1)) cs σ = some σ' := by
  induction cs generalizing σ with
  | nil => exact h
  | cons c r ihc =>
    simp only [releaseAll] at h ⊢
    cases e : releaseRec f σ c with
    | none => rw [e] at h; cases h
    | some p =>
      obtain ⟨σ1, b⟩ := p
      rw [e] at h
      rw [ih σ c _ e]
      exact ihc σ1 h

theorem releaseRec_succ (f : Nat) (σ : Store) (h : Str) :
    releaseRec (f + 1) σ h =
      match σ h with
      | none => some (σ, false)
      | some c => (releaseAll (releaseRec f) (members c) (upd σ h none)).map fun σ' => (σ', true) := rfl

theorem releaseRec_mono_succ (f : Nat) : ∀ σ k r, releaseRec f σ k = some r → releaseRec (f + 1) σ k = some r := by
  induction f with
  | zero =>
    intro σ k r h
    cases hs : σ k with
    | none => simp [releaseRec, hs] at h ⊢; exact h
    | some c => simp [releaseRec, hs] at h
  | succ f ih =>
    intro σ k r h
    rw [releaseRec_succ] at h ⊢
    cases hs : σ k with
    | none => rw [hs] at h; simpa using h
    | some c =>
      rw [hs] at h
      simp only [] at h ⊢
      cases e : releaseAll (releaseRec f) (members c) (upd σ k none) with
      | none => rw [e] at h; cases h
      | some σ' =>
        rw [e] at h
        rw [releaseAll_mono f ih _ _ _ e]
        exact h

theorem releaseRec_mono {f f' : Nat} (hle : f ≤ f') (σ : Store) (k : Str) (r : Store × Bool)
    (h : releaseRec f σ k = some r) : releaseRec f' σ k = some r := by
  induction hle with
  | refl => exact h
  | step _ ih => exact releaseRec_mono_succ _ σ k r ih

/-- `release` in all its forms, provided the reference model's bound is at least the number
    of table entries -/
theorem sim_release (fuel : Nat) {m : St} {s : Spec.Store.St} (hR : R m s) (args : List Str)
    (hf : m.tbl.length ≤ fuel) : Sim fuel m s .release args := by
  match args with
  | [] => exact sim_release_plain fuel hR _ (by intro a b r e; cases e)
  | [_] => exact sim_release_plain fuel hR _ (by intro a b r e; cases e)
  | a :: b :: r =>
  by_cases hfl : isRecFlag a = true
  case neg =>
    exact sim_release_plain fuel hR _ (by intro a' b' r' e; cases e; simpa using hfl)
  case pos =>
    have hfs : Spec.Store.recFlag a = true := by rw [← isRecFlag_eq]; exact hfl
    obtain ⟨t', bb, e1, _, _⟩ := removeRec_total m.tbl.length m.tbl b (Nat.le_refl _)
    have hRT : RT m.next m.tbl s.store := by
      have : (⟨s.store, m.next⟩ : Spec.Store.St) = s := by cases s; simp [hR.next]
      unfold RT; rw [this]; exact hR
    have s1 := sim_rec m.next m.tbl.length m.tbl s.store b hRT
    rw [e1] at s1
    cases e2 : releaseRec m.tbl.length s.store b with
    | none => rw [e2] at s1; exact absurd s1 (by simp [RecRel])
    | some q =>
      obtain ⟨σ', b'⟩ := q
      rw [e2] at s1
      have e3 := releaseRec_mono hf _ _ _ e2
      unfold Sim
      simp only [exec, cmdRelease, Spec.Store.exec, hfl, hfs, if_true, e1, e3, absR, boolStr_eq, s1.2, and_true]
      have : R ⟨t', m.next⟩ ⟨σ', m.next⟩ := s1.1
      exact ⟨hR.next, this.look, this.fresh⟩

end Duck.Coll
