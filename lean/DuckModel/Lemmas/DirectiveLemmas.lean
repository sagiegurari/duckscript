/-
  C14 (run level) — the definitions and lemmas behind Props/C14Run.lean.

  A pre-processor instruction (`!include_files …`, `!print …`) is a no-op of the runner: it
  changes neither variables nor state and moves to the next line.  Removing some of them from an
  instruction list (`is.filter keep`, where `keep` only rejects pre-processor instructions)
  shifts the absolute indexes of the remaining instructions: index `k` becomes
  `posIn keep is k` = the number of kept instructions before `k`.

  * index lemmas for `posIn`,
  * the label table of the filtered list is the label table of the list, mapped through `posIn`
    (through the declarative reading `IsLabelLine` / `NoLabelLine` of C03),
  * one `runStep` on a kept instruction (or past the end) is the same step on both lists
    (`runStep_corr`); one `runStep` on a dropped instruction is a stutter (`runStep_dropped`),
  * the two simulations of `runLoop` (`runLoop_filter_forward`, `runLoop_filter_backward`).
-/
import DuckModel.Runner
import DuckModel.Spec.Machine
import DuckModel.Lemmas.RunnerLabels
import DuckModel.Lemmas.RunnerLemmas
import DuckModel.Lemmas.IncludeLemmas

namespace Duck
open Duck.Spec

/-! ### definitions -/

/-- a pre-processor (directive) instruction -/
def isPreProcess (i : Instruction) : Bool :=
  match i.ty with
  | .preProcess _ _ => true
  | _ => false

/-- the instruction list without ANY pre-processor instruction -/
def dropDirectives (is : List Instruction) : List Instruction := is.filter (fun i => !isPreProcess i)

/-- a selection of instructions that only ever rejects pre-processor instructions -/
def DropsOnlyDirectives (keep : Instruction → Bool) : Prop :=
  ∀ i, keep i = false → isPreProcess i = true

/-- the index, in `is.filter keep`, that corresponds to index `k` of `is`:
    the number of kept instructions before `k` -/
def posIn (keep : Instruction → Bool) : List Instruction → Nat → Nat
  | [], _ => 0
  | _ :: _, 0 => 0
  | i :: rest, k + 1 => (if keep i then 1 else 0) + posIn keep rest k

/-- the commands do not look at the absolute line index they are handed -/
def LineInsensitive {σ : Type} (sem : CmdSem σ) : Prop :=
  ∀ name args out (l l' : Nat) vars s, sem name args out l vars s = sem name args out l' vars s

/-- the commands never ask for a jump to an absolute line index -/
def NoAbsoluteJumps {σ : Type} (sem : CmdSem σ) : Prop :=
  ∀ name args out (l : Nat) vars s v n vars' s',
    sem name args out l vars s ≠ some (.goTo v (.line n), vars', s')

/-- the halt oracle looks at the state only, not at the number of the poll -/
def StateOnlyHalt {σ : Type} (halt : Nat → σ → Bool) : Prop :=
  ∀ (k k' : Nat) (s : σ), halt k s = halt k' s

/-- corresponding runner states: same variables, same state, corresponding lines
    (the poll counters are NOT related: the longer list is polled more often) -/
def Corr {σ : Type} (pos : Nat → Nat) (a b : RunState σ) : Prop :=
  b.line = pos a.line ∧ b.vars = a.vars ∧ b.st = a.st

/-- corresponding results of one `runStep` -/
def StepCorr {σ : Type} (pos : Nat → Nat) :
    RunState σ ⊕ (RunState σ × RunEnd) → RunState σ ⊕ (RunState σ × RunEnd) → Prop
  | .inl a, .inl b => Corr pos a b
  | .inr (a, e), .inr (b, e') => Corr pos a b ∧ e = e'
  | _, _ => False

/-- the run did not stop for lack of fuel -/
def Finished {σ : Type} (x : RunState σ × RunEnd) : Prop := x.2 ≠ .outOfFuel

instance {σ : Type} (x : RunState σ × RunEnd) : Decidable (Finished x) := by
  unfold Finished
  exact inferInstance

/-- two finished runs end the same way: same variables, same state, same kind of end (for a
    failure: same message and same meta info of the failing instruction).  The final line and
    the poll counter are not compared (they are indexes into / counts over different lists). -/
def SameOutcome {σ : Type} (x y : RunState σ × RunEnd) : Prop :=
  x.1.vars = y.1.vars ∧ x.1.st = y.1.st ∧ x.2 = y.2

theorem dropsOnly_notPre : DropsOnlyDirectives (fun i => !isPreProcess i) := by
  intro i h
  simpa using h

theorem dropsOnly_notDirective : DropsOnlyDirectives (fun i => !isDirective i) := by
  intro i h
  obtain ⟨mi, ty⟩ := i
  cases ty with
  | preProcess c a => rfl
  | empty => simp [isDirective] at h
  | script si => simp [isDirective] at h

theorem hasLabel_keep (keep : Instruction → Bool) (hD : DropsOnlyDirectives keep)
    (i : Instruction) (l : Str) (h : HasLabel i l) : keep i = true := by
  cases hk : keep i with
  | true => rfl
  | false =>
    have hp := hD i hk
    obtain ⟨si, hs, _⟩ := h
    unfold isPreProcess at hp
    rw [hs] at hp
    simp at hp

/-! ### the index map -/

theorem posIn_zero (keep : Instruction → Bool) (is : List Instruction) : posIn keep is 0 = 0 := by
  cases is <;> rfl

theorem posIn_eq_take (keep : Instruction → Bool) (is : List Instruction) :
    ∀ k, posIn keep is k = ((is.take k).filter keep).length := by
  induction is with
  | nil => intro k; simp [posIn]
  | cons i rest ih =>
    intro k
    cases k with
    | zero => simp [posIn]
    | succ k =>
      rw [posIn, ih k, List.take_succ_cons, List.filter_cons]
      cases keep i <;> simp <;> omega

theorem posIn_succ (keep : Instruction → Bool) (is : List Instruction) (k : Nat) (i : Instruction)
    (h : is[k]? = some i) :
    posIn keep is (k + 1) = posIn keep is k + if keep i then 1 else 0 := by
  rw [posIn_eq_take, posIn_eq_take, List.take_add_one, h]
  cases hk : keep i <;> simp [hk]

/-- `is.filter keep` is the kept part of `is.take k`, then `is[k]`, then the kept rest -/
theorem posIn_getElem_keep (keep : Instruction → Bool) (is : List Instruction) (k : Nat)
    (i : Instruction) (h : is[k]? = some i) (hk : keep i = true) :
    (is.filter keep)[posIn keep is k]? = some i := by
  obtain ⟨hlt, rfl⟩ := List.getElem?_eq_some_iff.1 h
  have e : is.filter keep = (is.take k).filter keep ++ is[k] :: (is.drop (k + 1)).filter keep := by
    rw [← List.filter_cons_of_pos hk, ← List.filter_append, ← List.drop_eq_getElem_cons hlt,
      List.take_append_drop]
  rw [posIn_eq_take, e]
  simp

theorem posIn_getElem_none (keep : Instruction → Bool) (is : List Instruction) (k : Nat)
    (h : is[k]? = none) : (is.filter keep)[posIn keep is k]? = none := by
  rw [posIn_eq_take, List.take_of_length_le (by simpa using h)]
  simp

/-! ### labels -/

theorem noLabelLine_filter (keep : Instruction → Bool) (is : List Instruction) (l : Str)
    (h : NoLabelLine is l) : NoLabelLine (is.filter keep) l := by
  induction is with
  | nil => simpa using h
  | cons i rest ih =>
    rw [noLabelLine_cons] at h
    rw [List.filter_cons]
    split
    · rw [noLabelLine_cons]
      exact ⟨h.1, ih h.2⟩
    · exact ih h.2

theorem isLabelLine_filter (keep : Instruction → Bool) (hD : DropsOnlyDirectives keep)
    (is : List Instruction) (l : Str) :
    ∀ k, IsLabelLine is l k → IsLabelLine (is.filter keep) l (posIn keep is k) := by
  induction is with
  | nil => intro k h; exact absurd h (not_isLabelLine_nil l k)
  | cons i rest ih =>
    intro k h
    rw [isLabelLine_cons] at h
    rcases h with ⟨k', rfl, h'⟩ | ⟨rfl, hl, hno⟩
    · have := ih k' h'
      rw [posIn, List.filter_cons]
      cases hi : keep i with
      | true =>
        simp only [if_true]
        rw [isLabelLine_cons]
        exact Or.inl ⟨posIn keep rest k', by omega, this⟩
      | false =>
        simp only [Bool.false_eq_true, if_false, Nat.zero_add]
        exact this
    · have hk := hasLabel_keep keep hD i l hl
      rw [posIn_zero, List.filter_cons, hk]
      simp only [if_true]
      rw [isLabelLine_cons]
      exact Or.inr ⟨rfl, hl, noLabelLine_filter keep rest l hno⟩

/-- the label table of the filtered list is the label table of the list, re-indexed -/
theorem lookupLabel_filter (keep : Instruction → Bool) (hD : DropsOnlyDirectives keep)
    (is : List Instruction) (l : Str) :
    lookupLabel (labelTable (is.filter keep)) l =
      (lookupLabel (labelTable is) l).map (posIn keep is) := by
  cases h : lookupLabel (labelTable is) l with
  | none =>
    rw [lookup_labelTable_none] at h
    simp only [Option.map_none]
    rw [lookup_labelTable_none]
    exact noLabelLine_filter keep is l h
  | some k =>
    rw [lookup_labelTable_some] at h
    simp only [Option.map_some]
    rw [lookup_labelTable_some]
    exact isLabelLine_filter keep hD is l k h

/-! ### one instruction -/

variable {σ : Type}

theorem runInstruction_line (sem : CmdSem σ) (hL : LineInsensitive sem) (vars : Vars) (s : σ)
    (i : Instruction) (l l' : Nat) :
    runInstruction sem vars s i l = runInstruction sem vars s i l' := by
  obtain ⟨mi, ty⟩ := i
  cases ty with
  | empty => rfl
  | preProcess _ _ => rfl
  | script si =>
    obtain ⟨lab, out, cmd, args⟩ := si
    cases cmd with
    | none => rfl
    | some c =>
      simp only [runInstruction]
      rw [hL c _ out l l']

theorem runInstruction_no_line (sem : CmdSem σ) (hN : NoAbsoluteJumps sem) (vars : Vars) (s : σ)
    (i : Instruction) (l : Nat) (v : Option Str) (n : Nat) (out : Option Str) (vars' : Vars)
    (s' : σ) : runInstruction sem vars s i l ≠ (.goTo v (.line n), out, vars', s') := by
  obtain ⟨mi, ty⟩ := i
  cases ty with
  | empty => simp [runInstruction]
  | preProcess _ _ => simp [runInstruction]
  | script si =>
    obtain ⟨lab, o, cmd, args⟩ := si
    cases cmd with
    | none => simp [runInstruction]
    | some c =>
      simp only [runInstruction]
      cases hs : sem c (bind vars args) o l vars s with
      | none => simp
      | some r =>
        obtain ⟨r, v1, s1⟩ := r
        intro h
        simp only [Prod.mk.injEq] at h
        obtain ⟨rfl, _, rfl, rfl⟩ := h
        exact hN _ _ _ _ _ _ _ _ _ _ hs

theorem runInstruction_pre (sem : CmdSem σ) (vars : Vars) (s : σ) (i : Instruction) (l : Nat)
    (h : isPreProcess i = true) : runInstruction sem vars s i l = (.continue none, none, vars, s) := by
  obtain ⟨mi, ty⟩ := i
  cases ty with
  | empty => simp [isPreProcess] at h
  | preProcess _ _ => rfl
  | script si => simp [isPreProcess] at h

/-! ### one step -/

/-- a step on a dropped instruction is a stutter: next line, nothing else changes -/
theorem runStep_dropped (sem : CmdSem σ) (is : List Instruction) (labels : List (Str × Nat))
    (halt : Nat → σ → Bool) (rs : RunState σ) (i : Instruction)
    (hh : halt rs.polls rs.st = false) (hi : is[rs.line]? = some i) (hp : isPreProcess i = true) :
    runStep sem is labels halt rs =
      .inl { line := rs.line + 1, polls := rs.polls + 1, vars := rs.vars, st := rs.st } := by
  unfold runStep
  simp only [hh, Bool.false_eq_true, if_false, hi, runInstruction_pre sem _ _ i _ hp,
    Vars.updateOutput]

/-- a step that halts, or is on a kept instruction, or is past the end, is the same step on
    both lists -/
theorem runStep_corr (sem : CmdSem σ) (hL : LineInsensitive sem) (hN : NoAbsoluteJumps sem)
    (halt : Nat → σ → Bool) (hH : StateOnlyHalt halt)
    (keep : Instruction → Bool) (hD : DropsOnlyDirectives keep) (is : List Instruction)
    (rs rs' : RunState σ) (hc : Corr (posIn keep is) rs rs')
    (hk : halt rs.polls rs.st = false → ∀ i, is[rs.line]? = some i → keep i = true) :
    StepCorr (posIn keep is) (runStep sem is (labelTable is) halt rs)
      (runStep sem (is.filter keep) (labelTable (is.filter keep)) halt rs') := by
  obtain ⟨k, p, vars0, s0⟩ := rs
  obtain ⟨k', p', vars, s⟩ := rs'
  obtain ⟨h1, h2, h3⟩ := hc
  simp only at h1 h2 h3 hk
  subst h1 h2 h3
  unfold runStep
  simp only [hH p' p s]
  cases hh : halt p s with
  | true => simp [StepCorr, Corr]
  | false =>
    simp only [Bool.false_eq_true, if_false]
    cases hi : is[k]? with
    | none =>
      simp only [posIn_getElem_none keep is k hi]
      simp [StepCorr, Corr]
    | some i =>
      have hsucc : posIn keep is (k + 1) = posIn keep is k + 1 := by
        simp [posIn_succ keep is k i hi, hk hh i hi]
      simp only [posIn_getElem_keep keep is k i hi (hk hh i hi)]
      rw [runInstruction_line sem hL vars s i (posIn keep is k) k]
      have hnl := runInstruction_no_line sem hN vars s i k
      rcases hr : runInstruction sem vars s i k with ⟨result, out, v1, s1⟩
      rw [hr] at hnl
      cases result with
      | «continue» v => simp [StepCorr, Corr, hsucc]
      | error e =>
        simp only
        rcases runOnError sem (Vars.updateOutput v1 out (some "false".toList)) s1 e i.mi with
          ⟨_ | msg, v2, s2⟩
        · simp [StepCorr, Corr, hsucc]
        · simp [StepCorr, Corr]
      | crash e => simp [StepCorr, Corr]
      | exit v =>
        simp only
        cases v.bind parseI32 with
        | none => simp [StepCorr, Corr]
        | some code =>
          simp only
          by_cases hcode : code ≠ 0
          · simp [StepCorr, Corr, hcode]
          · simp [StepCorr, Corr, hcode]
      | goTo v g =>
        cases g with
        | line n => exact absurd rfl (hnl v n out v1 s1)
        | label l =>
          simp only
          rw [lookupLabel_filter keep hD is l]
          cases lookupLabel (labelTable is) l with
          | none => simp [StepCorr, Corr]
          | some t => simp [StepCorr, Corr]

/-- corresponding step results are both a next state or both the same end -/
theorem StepCorr.cases {pos : Nat → Nat} {x y : RunState σ ⊕ (RunState σ × RunEnd)}
    (h : StepCorr pos x y) :
    (∃ a b, x = .inl a ∧ y = .inl b ∧ Corr pos a b) ∨
    (∃ a b e, x = .inr (a, e) ∧ y = .inr (b, e) ∧ Corr pos a b) := by
  rcases x with a | ⟨a, e⟩ <;> rcases y with b | ⟨b, e'⟩
  · exact .inl ⟨a, b, rfl, rfl, h⟩
  · exact h.elim
  · exact h.elim
  · exact .inr ⟨a, b, e, rfl, by rw [h.2], h.1⟩

/-- passing a dropped instruction keeps the correspondence -/
theorem Corr.dropped {keep : Instruction → Bool} {is : List Instruction} {rs rs' : RunState σ}
    {i : Instruction} (hc : Corr (posIn keep is) rs rs') (hi : is[rs.line]? = some i)
    (hki : keep i = false) :
    Corr (posIn keep is)
      { line := rs.line + 1, polls := rs.polls + 1, vars := rs.vars, st := rs.st } rs' :=
  ⟨by simp [hc.1, posIn_succ keep is rs.line i hi, hki], hc.2.1, hc.2.2⟩

/-- a step either stutters on a dropped instruction or is one `runStep_corr` speaks of -/
theorem kept_or_dropped (halt : Nat → σ → Bool) (keep : Instruction → Bool)
    (is : List Instruction) (rs : RunState σ) :
    (halt rs.polls rs.st = false ∧ ∃ i, is[rs.line]? = some i ∧ keep i = false) ∨
      (halt rs.polls rs.st = false → ∀ i, is[rs.line]? = some i → keep i = true) := by
  by_cases hdrop : halt rs.polls rs.st = false ∧ ∃ i, is[rs.line]? = some i ∧ keep i = false
  · exact .inl hdrop
  · exact .inr fun hh i hi => Bool.of_not_eq_false fun hki => hdrop ⟨hh, i, hi, hki⟩

/-! ### the two simulations -/

/-- a finished run of the list is, with the same fuel, a run of the filtered list ending the
    same way -/
theorem runLoop_filter_forward (sem : CmdSem σ) (hL : LineInsensitive sem)
    (hN : NoAbsoluteJumps sem) (halt : Nat → σ → Bool) (hH : StateOnlyHalt halt)
    (keep : Instruction → Bool) (hD : DropsOnlyDirectives keep) (is : List Instruction)
    (fuel : Nat) :
    ∀ (rs rs' r : RunState σ) (e : RunEnd), Corr (posIn keep is) rs rs' →
      runLoop sem is (labelTable is) halt fuel rs = (r, e) → e ≠ .outOfFuel →
      ∃ r', runLoop sem (is.filter keep) (labelTable (is.filter keep)) halt fuel rs' = (r', e) ∧
        Corr (posIn keep is) r r' := by
  induction fuel with
  | zero =>
    intro rs rs' r e _ h he
    rw [runLoop_zero] at h
    exact absurd (Prod.mk.inj h).2.symm he
  | succ fuel ih =>
    intro rs rs' r e hc h he
    rw [runLoop_succ] at h
    rcases kept_or_dropped halt keep is rs with ⟨hh, i, hi, hki⟩ | hk
    · rw [runStep_dropped sem is _ halt rs i hh hi (hD i hki)] at h
      obtain ⟨r', hr', hcr⟩ := ih _ rs' r e (hc.dropped hi hki) h he
      exact ⟨r', runLoop_fuel_mono sem _ _ halt fuel 1 rs' r' e hr' he, hcr⟩
    · rw [runLoop_succ]
      rcases (runStep_corr sem hL hN halt hH keep hD is rs rs' hc hk).cases with
        ⟨a, b, h1, h2, hab⟩ | ⟨a, b, e', h1, h2, hab⟩ <;> rw [h1] at h <;> rw [h2]
      · exact ih a b r e hab h he
      · obtain ⟨rfl, rfl⟩ := Prod.mk.inj h
        exact ⟨b, rfl, hab⟩

/-- a finished run of the filtered list with fuel `f'` is a run of the list ending the same way.
    The bound: every step of the filtered list pays for `length + 1` steps of the list (itself and
    at most `length` stutter steps after it), and `length - line` is what the stutter steps before
    the next kept instruction may still use.  The outer induction is over `f'`; the inner one over
    `n ≥ length - line` walks over the dropped instructions up to the next kept one. -/
theorem runLoop_filter_backward (sem : CmdSem σ) (hL : LineInsensitive sem)
    (hN : NoAbsoluteJumps sem) (halt : Nat → σ → Bool) (hH : StateOnlyHalt halt)
    (keep : Instruction → Bool) (hD : DropsOnlyDirectives keep) (is : List Instruction)
    (f' : Nat) :
    ∀ (n : Nat) (rs rs' r' : RunState σ) (e : RunEnd), is.length - rs.line ≤ n →
      Corr (posIn keep is) rs rs' →
      runLoop sem (is.filter keep) (labelTable (is.filter keep)) halt f' rs' = (r', e) →
      e ≠ .outOfFuel →
      ∃ f r, f + is.length ≤ f' * (is.length + 1) + (is.length - rs.line) ∧
        runLoop sem is (labelTable is) halt f rs = (r, e) ∧ Corr (posIn keep is) r r' := by
  induction f' with
  | zero =>
    intro n rs rs' r' e _ _ h he
    rw [runLoop_zero] at h
    exact absurd (Prod.mk.inj h).2.symm he
  | succ f' ih =>
    have hm : (f' + 1) * (is.length + 1) = f' * (is.length + 1) + (is.length + 1) :=
      Nat.succ_mul _ _
    have kept : ∀ (rs rs' r' : RunState σ) (e : RunEnd),
        (halt rs.polls rs.st = false → ∀ i, is[rs.line]? = some i → keep i = true) →
        Corr (posIn keep is) rs rs' →
        runLoop sem (is.filter keep) (labelTable (is.filter keep)) halt (f' + 1) rs' = (r', e) →
        e ≠ .outOfFuel →
        ∃ f r, f + is.length ≤ (f' + 1) * (is.length + 1) + (is.length - rs.line) ∧
          runLoop sem is (labelTable is) halt f rs = (r, e) ∧ Corr (posIn keep is) r r' := by
      intro rs rs' r' e hk hc h he
      rw [runLoop_succ] at h
      rcases (runStep_corr sem hL hN halt hH keep hD is rs rs' hc hk).cases with
        ⟨a, b, h1, h2, hab⟩ | ⟨a, b, e', h1, h2, hab⟩ <;> rw [h2] at h
      · obtain ⟨f, r, hf, hrun, hcr⟩ := ih (is.length - a.line) a b r' e (Nat.le_refl _) hab h he
        exact ⟨f + 1, r, by omega, by rw [runLoop_succ, h1]; exact hrun, hcr⟩
      · obtain ⟨rfl, rfl⟩ := Prod.mk.inj h
        exact ⟨1, a, by omega, by rw [runLoop_succ, h1], hab⟩
    intro n
    induction n with
    | zero =>
      intro rs rs' r' e hn hc h he
      refine kept rs rs' r' e ?_ hc h he
      intro _ i hi
      have := (List.getElem?_eq_some_iff.1 hi).1
      omega
    | succ n ihn =>
      intro rs rs' r' e hn hc h he
      rcases kept_or_dropped halt keep is rs with ⟨hh, i, hi, hki⟩ | hk
      · have hlt : rs.line < is.length := (List.getElem?_eq_some_iff.1 hi).1
        obtain ⟨f, r, hf, hrun, hcr⟩ :=
          ihn _ rs' r' e (by simp only; omega) (hc.dropped hi hki) h he
        refine ⟨f + 1, r, by simp only at hf; omega, ?_, hcr⟩
        rw [runLoop_succ, runStep_dropped sem is _ halt rs i hh hi (hD i hki)]
        exact hrun
      · exact kept rs rs' r' e hk hc h he

end Duck
