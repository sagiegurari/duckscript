/-
  The tree run is followed by the goto-machine — what one visit of each flow-control line
  does to the machine (openers, else-lines, end lines).
-/
import DuckModel.Lemmas.SimCond

namespace Duck
open Duck.Spec Duck.Generated

/-! ### the `if` line -/

/-- what the step lemmas need to know about the condition on the line -/
def CondSays (is : List Instruction) (args : List Str) (v : Vars) (E : List (List Str)) (b : Bool)
    (em : List (List Str)) (sf : KV FnInfo) : Prop :=
  args.isEmpty = false ∧
    ∀ f, 3 ≤ f → ∀ (s' : Sdk), s'.fns = sf → s'.emitted = E →
      evalCondition (evalInstrsF f) is args v s' = (.ok b, v, { s' with emitted := em })

theorem step_if_true (is : List Instruction) (lo : Nat) (v : Vars) (s : Sdk) (mi : Meta)
    (kwIf : Str) (cond : List Str) (mid : List Nat) (stop : Nat) (em : List (List Str))
    (hi : is[lo]? = some ⟨mi, .script (mkInstr none kwIf cond)⟩) (hk : isIfKw kwIf = true)
    (hc : CacheOK is s)
    (hscan : findCommands ifTables is (lo + 1) = .ok ⟨mid, stop⟩)
    (hv : CondSays is (bind v (some cond)) v s.emitted true em s.fns) :
    ∃ M, Steps is lo v s (lo + 1) v
        { s with ifMeta := M, endTable := s.endTable.put (lineKey s stop) fullNameEndIf,
                 emitted := em,
                 ifStack := { current := (match mid with | [] => stop | e :: _ => e), passed := true,
                              elseIdx := 0, start := lo, stop := stop, elses := mid,
                              ctx := s.lineCtx } :: s.ifStack } ∧
      CacheOK is { s with ifMeta := M, endTable := s.endTable.put (lineKey s stop) fullNameEndIf } := by
  obtain ⟨M, hmeta, hcache⟩ := ifMetaFor_ok is s lo mid stop hc hscan
  refine ⟨M, Steps.singleF (fun f hf3 p => ?_), hcache⟩
  have hev := hv.2 f hf3
    { s with ifMeta := M, endTable := s.endTable.put (lineKey s stop) fullNameEndIf } rfl rfl
  apply runStep_cmd_continue _ is lo p v s mi none kwIf cond .ifC none v _ hi (resolve_kw .ifC hk s)
  simp only [runCmdF, runCmd, hv.1, Bool.false_eq_true, if_false, hmeta, hev, if_true]
  rfl

theorem step_if_false_nil (is : List Instruction) (lo : Nat) (v : Vars) (s : Sdk) (mi : Meta)
    (kwIf : Str) (cond : List Str) (stop : Nat) (em : List (List Str))
    (hi : is[lo]? = some ⟨mi, .script (mkInstr none kwIf cond)⟩) (hk : isIfKw kwIf = true)
    (hc : CacheOK is s)
    (hscan : findCommands ifTables is (lo + 1) = .ok ⟨[], stop⟩)
    (hv : CondSays is (bind v (some cond)) v s.emitted false em s.fns) :
    ∃ M, Steps is lo v s (stop + 1) v
        { s with ifMeta := M, endTable := s.endTable.put (lineKey s stop) fullNameEndIf,
                 emitted := em } ∧
      CacheOK is { s with ifMeta := M, endTable := s.endTable.put (lineKey s stop) fullNameEndIf } := by
  obtain ⟨M, hmeta, hcache⟩ := ifMetaFor_ok is s lo [] stop hc hscan
  refine ⟨M, Steps.singleF (fun f hf3 p => ?_), hcache⟩
  have hev := hv.2 f hf3
    { s with ifMeta := M, endTable := s.endTable.put (lineKey s stop) fullNameEndIf } rfl rfl
  apply runStep_cmd_goto _ is lo p v s mi none kwIf cond .ifC none (stop + 1) v _ hi (resolve_kw .ifC hk s)
  simp only [runCmdF, runCmd, hv.1, Bool.false_eq_true, if_false, hmeta, hev]

theorem step_if_false_cons (is : List Instruction) (lo : Nat) (v : Vars) (s : Sdk) (mi : Meta)
    (kwIf : Str) (cond : List Str) (e : Nat) (rest : List Nat) (stop : Nat) (em : List (List Str))
    (hi : is[lo]? = some ⟨mi, .script (mkInstr none kwIf cond)⟩) (hk : isIfKw kwIf = true)
    (hc : CacheOK is s)
    (hscan : findCommands ifTables is (lo + 1) = .ok ⟨e :: rest, stop⟩)
    (hv : CondSays is (bind v (some cond)) v s.emitted false em s.fns) :
    ∃ M, Steps is lo v s e v
        { s with ifMeta := M, endTable := s.endTable.put (lineKey s stop) fullNameEndIf,
                 emitted := em,
                 ifStack := { current := e, passed := false, elseIdx := 0, start := lo, stop := stop,
                              elses := e :: rest, ctx := s.lineCtx } :: s.ifStack } ∧
      CacheOK is { s with ifMeta := M, endTable := s.endTable.put (lineKey s stop) fullNameEndIf } := by
  obtain ⟨M, hmeta, hcache⟩ := ifMetaFor_ok is s lo (e :: rest) stop hc hscan
  refine ⟨M, Steps.singleF (fun f hf3 p => ?_), hcache⟩
  have hev := hv.2 f hf3
    { s with ifMeta := M, endTable := s.endTable.put (lineKey s stop) fullNameEndIf } rfl rfl
  apply runStep_cmd_goto _ is lo p v s mi none kwIf cond .ifC none e v _ hi (resolve_kw .ifC hk s)
  simp only [runCmdF, runCmd, hv.1, Bool.false_eq_true, if_false, hmeta, hev]

/-! ### else-lines -/

theorem step_elif_passed (is : List Instruction) (l : Nat) (v : Vars) (s : Sdk) (mi : Meta)
    (kw : Str) (cond : List Str) (G : List IfCall) (own : IfCall) (K : List IfCall)
    (hi : is[l]? = some ⟨mi, .script (mkInstr none kw cond)⟩) (hk : isElifKw kw = true)
    (hne : (bind v (some cond)).isEmpty = false)
    (hst : s.ifStack = G ++ own :: K) (ho : own.current = l) (hctx : own.ctx = s.lineCtx)
    (hG : ∀ e ∈ G, e.current ≠ l) (hp : own.passed = true) :
    Steps is l v s (own.stop + 1) v { s with ifStack := K } := by
  refine Steps.single (fun nested p => ?_)
  apply runStep_cmd_goto nested is l p v s mi none kw cond .elseIf none (own.stop + 1) v _ hi
    (resolve_kw .elseIf hk s)
  simp only [runCmdF, runCmd, hne, Bool.false_eq_true, if_false, hst,
    popIf_garb l s.lineCtx G own K ho hctx hG, hp, if_true]

/-- the `next` line of `runCmd .elseIf` (Sdk/Flow.lean) when the branch is taken: the else-line after
    this one, or the first one when this is the last -/
def elifNext (own : IfCall) : Nat :=
  if own.elseIdx + 1 < own.elses.length then own.elses[own.elseIdx + 1]?.getD 0
  else own.elses[0]?.getD 0

theorem elifNext_mem (own : IfCall) (h : 0 < own.elses.length) : elifNext own ∈ own.elses := by
  unfold elifNext
  split
  · rename_i hlt
    rw [List.getElem?_eq_getElem hlt]
    exact List.getElem_mem hlt
  · rw [List.getElem?_eq_getElem h]
    exact List.getElem_mem h

theorem elifNext_of_drop {own : IfCall} {a : Nat} {tl : List Nat}
    (h : own.elses.drop (own.elseIdx + 1) = a :: tl) : elifNext own = a := by
  have hlt : own.elseIdx + 1 < own.elses.length := by
    apply Nat.lt_of_not_le
    intro hle
    rw [List.drop_eq_nil_of_le hle] at h
    cases h
  rw [List.drop_eq_getElem_cons hlt] at h
  unfold elifNext
  rw [if_pos hlt, List.getElem?_eq_getElem hlt, (List.cons.inj h).1]
  rfl

theorem step_elif_true (is : List Instruction) (l : Nat) (v : Vars) (s : Sdk) (mi : Meta)
    (kw : Str) (cond : List Str) (G : List IfCall) (own : IfCall) (K : List IfCall)
    (em : List (List Str))
    (hi : is[l]? = some ⟨mi, .script (mkInstr none kw cond)⟩) (hk : isElifKw kw = true)
    (hst : s.ifStack = G ++ own :: K) (ho : own.current = l) (hctx : own.ctx = s.lineCtx)
    (hG : ∀ e ∈ G, e.current ≠ l) (hp : own.passed = false)
    (hv : CondSays is (bind v (some cond)) v s.emitted true em s.fns) :
    Steps is l v s (l + 1) v
      { s with emitted := em,
               ifStack := { own with current := elifNext own, passed := true, ctx := s.lineCtx } :: K } := by
  refine Steps.singleF (fun f hf3 p => ?_)
  have hev := hv.2 f hf3 { s with ifStack := K } rfl rfl
  apply runStep_cmd_continue _ is l p v s mi none kw cond .elseIf none v _ hi
    (resolve_kw .elseIf hk s)
  simp only [runCmdF, runCmd, hv.1, Bool.false_eq_true, if_false, hst,
    popIf_garb l s.lineCtx G own K ho hctx hG, hp, hev, if_true]
  rfl

theorem step_elif_false_more (is : List Instruction) (l : Nat) (v : Vars) (s : Sdk) (mi : Meta)
    (kw : Str) (cond : List Str) (G : List IfCall) (own : IfCall) (K : List IfCall)
    (em : List (List Str))
    (hi : is[l]? = some ⟨mi, .script (mkInstr none kw cond)⟩) (hk : isElifKw kw = true)
    (hst : s.ifStack = G ++ own :: K) (ho : own.current = l) (hctx : own.ctx = s.lineCtx)
    (hG : ∀ e ∈ G, e.current ≠ l) (hp : own.passed = false)
    (hv : CondSays is (bind v (some cond)) v s.emitted false em s.fns)
    (hmore : own.elseIdx + 1 < own.elses.length) :
    Steps is l v s (own.elses[own.elseIdx + 1]?.getD 0) v
      { s with emitted := em,
               ifStack := { own with current := own.elses[own.elseIdx + 1]?.getD 0, passed := false,
                                     elseIdx := own.elseIdx + 1, ctx := s.lineCtx } :: K } := by
  refine Steps.singleF (fun f hf3 p => ?_)
  have hev := hv.2 f hf3 { s with ifStack := K } rfl rfl
  apply runStep_cmd_goto _ is l p v s mi none kw cond .elseIf none _ v _ hi
    (resolve_kw .elseIf hk s)
  simp only [runCmdF, runCmd, hv.1, Bool.false_eq_true, if_false, hst,
    popIf_garb l s.lineCtx G own K ho hctx hG, hp, hev, hmore, if_true]

theorem step_elif_false_last (is : List Instruction) (l : Nat) (v : Vars) (s : Sdk) (mi : Meta)
    (kw : Str) (cond : List Str) (G : List IfCall) (own : IfCall) (K : List IfCall)
    (em : List (List Str))
    (hi : is[l]? = some ⟨mi, .script (mkInstr none kw cond)⟩) (hk : isElifKw kw = true)
    (hst : s.ifStack = G ++ own :: K) (ho : own.current = l) (hctx : own.ctx = s.lineCtx)
    (hG : ∀ e ∈ G, e.current ≠ l) (hp : own.passed = false)
    (hv : CondSays is (bind v (some cond)) v s.emitted false em s.fns)
    (hlast : ¬ own.elseIdx + 1 < own.elses.length) :
    Steps is l v s (own.stop + 1) v { s with emitted := em, ifStack := K } := by
  refine Steps.singleF (fun f hf3 p => ?_)
  have hev := hv.2 f hf3 { s with ifStack := K } rfl rfl
  apply runStep_cmd_goto _ is l p v s mi none kw cond .elseIf none _ v _ hi
    (resolve_kw .elseIf hk s)
  simp only [runCmdF, runCmd, hv.1, Bool.false_eq_true, if_false, hst,
    popIf_garb l s.lineCtx G own K ho hctx hG, hp, hev, hlast]

theorem step_else_passed (is : List Instruction) (l : Nat) (v : Vars) (s : Sdk) (mi : Meta)
    (kw : Str) (G : List IfCall) (own : IfCall) (K : List IfCall)
    (hi : is[l]? = some ⟨mi, .script (mkInstr none kw [])⟩) (hk : isElseKw kw = true)
    (hst : s.ifStack = G ++ own :: K) (ho : own.current = l) (hctx : own.ctx = s.lineCtx)
    (hG : ∀ e ∈ G, e.current ≠ l) (hp : own.passed = true) :
    Steps is l v s (own.stop + 1) v { s with ifStack := K } := by
  refine Steps.single (fun nested p => ?_)
  apply runStep_cmd_goto nested is l p v s mi none kw [] .elseC none _ v _ hi (resolve_kw .elseC hk s)
  simp only [runCmdF, runCmd, hst, popIf_garb l s.lineCtx G own K ho hctx hG, hp, if_true]

theorem step_else_run (is : List Instruction) (l : Nat) (v : Vars) (s : Sdk) (mi : Meta)
    (kw : Str) (G : List IfCall) (own : IfCall) (K : List IfCall)
    (hi : is[l]? = some ⟨mi, .script (mkInstr none kw [])⟩) (hk : isElseKw kw = true)
    (hst : s.ifStack = G ++ own :: K) (ho : own.current = l) (hctx : own.ctx = s.lineCtx)
    (hG : ∀ e ∈ G, e.current ≠ l) (hp : own.passed = false) :
    Steps is l v s (l + 1) v { s with ifStack := K } := by
  refine Steps.single (fun nested p => ?_)
  apply runStep_cmd_continue nested is l p v s mi none kw [] .elseC none v _ hi (resolve_kw .elseC hk s)
  simp only [runCmdF, runCmd, hst, popIf_garb l s.lineCtx G own K ho hctx hG, hp, Bool.false_eq_true,
    if_false]

/-! ### end lines -/

/-- the generic `end` runs the command registered for its line -/
theorem runCmdF_end (nested : EvalFn) (is : List Instruction) (fuel : Nat) (args : List Str) (out : Option Str)
    (line : Nat) (vars : Vars) (s : Sdk) (name : Str) (c : Cmd)
    (he : s.endTable.get (lineKey s line) = some name) (hres : resolveCmd s name = some c) :
    runCmdF nested is (fuel + 1) .endC args out line vars s = runCmdF nested is fuel c [] none line vars s := by
  simp only [runCmdF, runCmd, he, hres]

/-- an end line — the block's own end command `c` or the generic `end` with `c` registered for the
    line — when `c` jumps (it does not use the dispatcher it is given) -/
theorem steps_end_goto (is : List Instruction) (l : Nat) (v : Vars) (s : Sdk) (mi : Meta) (kw : Str)
    (c : Cmd) (name : Str) (n : Nat) (v' : Vars) (s' : Sdk)
    (hi : is[l]? = some ⟨mi, .script (mkInstr none kw [])⟩)
    (hk : (c.names.contains kw || kw == endWord) = true)
    (he : s.endTable.get (lineKey s l) = some name) (hres : resolveCmd s name = some c)
    (hrun : ∀ nested endRec, runCmd nested endRec is c [] none l v s = (.goTo none (.line n), v', s')) :
    Steps is l v s n v' s' := by
  refine Steps.single (fun nested p => ?_)
  rcases resolve_end c hk s with h | h
  · exact runStep_cmd_goto nested is l p v s mi none kw [] c none n v' s' hi h (hrun nested _)
  · refine runStep_cmd_goto nested is l p v s mi none kw [] .endC none n v' s' hi h ?_
    rw [bind_some_nil, runCmdF_end nested is 2 [] none l v s name c he hres]
    exact hrun nested _

theorem step_endIf (is : List Instruction) (l : Nat) (v : Vars) (s : Sdk) (mi : Meta) (kw : Str)
    (hi : is[l]? = some ⟨mi, .script (mkInstr none kw [])⟩) (hk : isEndIfKw kw = true)
    (he : s.endTable.get (lineKey s l) = some fullNameEndIf) :
    Steps is l v s (l + 1) v s := by
  refine Steps.single (fun nested p => ?_)
  rcases resolve_end .endIf hk s with h | h
  · apply runStep_cmd_continue nested is l p v s mi none kw [] .endIf none v _ hi h
    simp only [runCmdF, runCmd]
  · apply runStep_cmd_continue nested is l p v s mi none kw [] .endC none v _ hi h
    rw [bind_some_nil, runCmdF_end nested is 2 [] none l v s _ _ he (resolve_fullEndIf s)]
    simp only [runCmdF, runCmd]

theorem step_endWhile (is : List Instruction) (l : Nat) (v : Vars) (s : Sdk) (mi : Meta) (kw : Str)
    (G : List WhileCall) (own : WhileCall) (K : List WhileCall)
    (hi : is[l]? = some ⟨mi, .script (mkInstr none kw [])⟩) (hk : isEndWhileKw kw = true)
    (he : s.endTable.get (lineKey s l) = some fullNameEndWhile)
    (hst : s.whileStack = G ++ own :: K) (ho : own.stop = l) (hctx : own.ctx = s.lineCtx)
    (hG : ∀ e ∈ G, e.stop ≠ l) :
    Steps is l v s own.start v { s with whileStack := own :: K } :=
  steps_end_goto is l v s mi kw .endWhile _ _ _ _ hi hk he (resolve_fullEndWhile s) fun nested endRec => by
    simp only [runCmd, hst, popWhile_garb l s.lineCtx G own K ho hctx hG]

theorem step_endFor (is : List Instruction) (l : Nat) (v : Vars) (s : Sdk) (mi : Meta) (kw : Str)
    (own : ForCall) (K : List ForCall)
    (hi : is[l]? = some ⟨mi, .script (mkInstr none kw [])⟩) (hk : isEndForKw kw = true)
    (he : s.endTable.get (lineKey s l) = some fullNameEndForIn)
    (hst : s.forStack = own :: K) (ho : own.stop = l) (hctx : own.ctx = s.lineCtx) :
    Steps is l v s own.start v s :=
  steps_end_goto is l v s mi kw .endFor _ _ _ _ hi hk he (resolve_fullEndFor s) fun nested endRec => by
    have hs : s = { s with forStack := own :: K } := by rw [← hst]
    simp only [runCmd, hst, popFor_top l s.lineCtx true own K (.inr ho) hctx]
    rw [← hs]

/-! ### the `while` line -/

theorem step_while_true (is : List Instruction) (lo : Nat) (v : Vars) (s : Sdk) (mi : Meta)
    (kw : Str) (cond : List Str) (mid : List Nat) (stop : Nat) (em : List (List Str))
    (hi : is[lo]? = some ⟨mi, .script (mkInstr none kw cond)⟩) (hk : isWhileKw kw = true)
    (hc : CacheOK is s)
    (hscan : findCommands whileTables is (lo + 1) = .ok ⟨mid, stop⟩)
    (hv : CondSays is (bind v (some cond)) v s.emitted true em s.fns) :
    ∃ M, Steps is lo v s (lo + 1) v
        { s with whileMeta := M, endTable := s.endTable.put (lineKey s stop) fullNameEndWhile,
                 emitted := em,
                 whileStack := { start := lo, stop := stop, ctx := s.lineCtx } :: s.whileStack } ∧
      CacheOK is { s with whileMeta := M, endTable := s.endTable.put (lineKey s stop) fullNameEndWhile } := by
  obtain ⟨M, hmeta, hcache⟩ := whileMetaFor_ok is s lo mid stop hc hscan
  refine ⟨M, Steps.singleF (fun f hf3 p => ?_), hcache⟩
  have hev := hv.2 f hf3
    { s with whileMeta := M, endTable := s.endTable.put (lineKey s stop) fullNameEndWhile } rfl rfl
  apply runStep_cmd_continue _ is lo p v s mi none kw cond .whileC none v _ hi (resolve_kw .whileC hk s)
  simp only [runCmdF, runCmd, hv.1, Bool.false_eq_true, if_false, hmeta, hev, if_true]

theorem step_while_false (is : List Instruction) (lo : Nat) (v : Vars) (s : Sdk) (mi : Meta)
    (kw : Str) (cond : List Str) (mid : List Nat) (stop : Nat) (em : List (List Str))
    (hi : is[lo]? = some ⟨mi, .script (mkInstr none kw cond)⟩) (hk : isWhileKw kw = true)
    (hc : CacheOK is s)
    (hscan : findCommands whileTables is (lo + 1) = .ok ⟨mid, stop⟩)
    (hv : CondSays is (bind v (some cond)) v s.emitted false em s.fns) :
    ∃ M, Steps is lo v s (stop + 1) v
        { s with whileMeta := M, endTable := s.endTable.put (lineKey s stop) fullNameEndWhile,
                 emitted := em } ∧
      CacheOK is { s with whileMeta := M, endTable := s.endTable.put (lineKey s stop) fullNameEndWhile } := by
  obtain ⟨M, hmeta, hcache⟩ := whileMetaFor_ok is s lo mid stop hc hscan
  refine ⟨M, Steps.singleF (fun f hf3 p => ?_), hcache⟩
  have hev := hv.2 f hf3
    { s with whileMeta := M, endTable := s.endTable.put (lineKey s stop) fullNameEndWhile } rfl rfl
  apply runStep_cmd_goto _ is lo p v s mi none kw cond .whileC none _ v _ hi (resolve_kw .whileC hk s)
  simp only [runCmdF, runCmd, hv.1, Bool.false_eq_true, if_false, hmeta, hev]

/-! ### the `for` line -/

theorem step_for_first_some (is : List Instruction) (lo : Nat) (v : Vars) (s : Sdk) (mi : Meta)
    (kw x handle hv : Str) (mid : List Nat) (stop : Nat) (val : Str)
    (hi : is[lo]? = some ⟨mi, .script (mkInstr none kw [x, "in".toList, handle])⟩)
    (hk : isForKw kw = true)
    (hb : bind v (some [x, "in".toList, handle]) = [x, "in".toList, hv])
    (hc : CacheOK is s)
    (hscan : findCommands forTables is (lo + 1) = .ok ⟨mid, stop⟩)
    (habs : ∀ e ∈ s.forStack, e.start ≠ lo ∧ e.stop ≠ lo)
    (hval : (s.handles.get hv).bind (fun l => l[0]?) = some val) :
    ∃ M, Steps is lo v s (lo + 1) (v.set x val)
        { s with forMeta := M, endTable := s.endTable.put (lineKey s stop) fullNameEndForIn,
                 forStack := { iteration := 1, start := lo, stop := stop, ctx := s.lineCtx } :: s.forStack } ∧
      CacheOK is { s with forMeta := M, endTable := s.endTable.put (lineKey s stop) fullNameEndForIn } := by
  obtain ⟨M, hmeta, hcache⟩ := forMetaFor_ok is s lo mid stop hc hscan
  refine ⟨M, Steps.single (fun nested p => ?_), hcache⟩
  have hmeta' : forMetaFor is { s with forStack := s.forStack } lo = _ := hmeta
  apply runStep_cmd_continue nested is lo p v s mi none kw _ .forIn none _ _ hi (resolve_kw .forIn hk s)
  simp only [runCmdF, runCmd, hb, ne_eq, not_true_eq_false, if_false,
    popFor_absent lo s.lineCtx s.forStack habs, hmeta', hval]
  rfl

theorem step_for_first_none (is : List Instruction) (lo : Nat) (v : Vars) (s : Sdk) (mi : Meta)
    (kw x handle hv : Str) (mid : List Nat) (stop : Nat)
    (hi : is[lo]? = some ⟨mi, .script (mkInstr none kw [x, "in".toList, handle])⟩)
    (hk : isForKw kw = true)
    (hb : bind v (some [x, "in".toList, handle]) = [x, "in".toList, hv])
    (hc : CacheOK is s)
    (hscan : findCommands forTables is (lo + 1) = .ok ⟨mid, stop⟩)
    (habs : ∀ e ∈ s.forStack, e.start ≠ lo ∧ e.stop ≠ lo)
    (hval : (s.handles.get hv).bind (fun l => l[0]?) = none) :
    ∃ M, Steps is lo v s (stop + 1) v
        { s with forMeta := M, endTable := s.endTable.put (lineKey s stop) fullNameEndForIn } ∧
      CacheOK is { s with forMeta := M, endTable := s.endTable.put (lineKey s stop) fullNameEndForIn } := by
  obtain ⟨M, hmeta, hcache⟩ := forMetaFor_ok is s lo mid stop hc hscan
  refine ⟨M, Steps.single (fun nested p => ?_), hcache⟩
  have hmeta' : forMetaFor is { s with forStack := s.forStack } lo = _ := hmeta
  apply runStep_cmd_goto nested is lo p v s mi none kw _ .forIn none _ _ _ hi (resolve_kw .forIn hk s)
  simp only [runCmdF, runCmd, hb, ne_eq, not_true_eq_false, if_false,
    popFor_absent lo s.lineCtx s.forStack habs, hmeta', hval]

theorem step_for_next_some (is : List Instruction) (lo : Nat) (v : Vars) (s : Sdk) (mi : Meta)
    (kw x handle hv : Str) (own : ForCall) (K : List ForCall) (val : Str)
    (hi : is[lo]? = some ⟨mi, .script (mkInstr none kw [x, "in".toList, handle])⟩)
    (hk : isForKw kw = true)
    (hb : bind v (some [x, "in".toList, handle]) = [x, "in".toList, hv])
    (hst : s.forStack = own :: K) (ho : own.start = lo) (hctx : own.ctx = s.lineCtx)
    (hval : (s.handles.get hv).bind (fun l => l[own.iteration]?) = some val) :
    Steps is lo v s (lo + 1) (v.set x val)
      { s with forStack := { own with iteration := own.iteration + 1, ctx := s.lineCtx } :: K } := by
  refine Steps.single (fun nested p => ?_)
  apply runStep_cmd_continue nested is lo p v s mi none kw _ .forIn none _ _ hi (resolve_kw .forIn hk s)
  simp only [runCmdF, runCmd, hb, ne_eq, not_true_eq_false, if_false, hst,
    popFor_top lo s.lineCtx false own K (.inl ho) hctx, hval]
  rfl

theorem step_for_next_none (is : List Instruction) (lo : Nat) (v : Vars) (s : Sdk) (mi : Meta)
    (kw x handle hv : Str) (own : ForCall) (K : List ForCall)
    (hi : is[lo]? = some ⟨mi, .script (mkInstr none kw [x, "in".toList, handle])⟩)
    (hk : isForKw kw = true)
    (hb : bind v (some [x, "in".toList, handle]) = [x, "in".toList, hv])
    (hst : s.forStack = own :: K) (ho : own.start = lo) (hctx : own.ctx = s.lineCtx)
    (hval : (s.handles.get hv).bind (fun l => l[own.iteration]?) = none) :
    Steps is lo v s (own.stop + 1) v { s with forStack := K } := by
  refine Steps.single (fun nested p => ?_)
  apply runStep_cmd_goto nested is lo p v s mi none kw _ .forIn none _ _ _ hi (resolve_kw .forIn hk s)
  simp only [runCmdF, runCmd, hb, ne_eq, not_true_eq_false, if_false, hst,
    popFor_top lo s.lineCtx false own K (.inl ho) hctx, hval]

end Duck
