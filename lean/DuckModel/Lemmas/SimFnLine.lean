/-
  Simulation with functions — the context of a simulation (which function body or the
  main block we are in), the per-fuel statements, and the cases straight line / `return`.
-/
import DuckModel.Lemmas.SimFnCond

namespace Duck
open Duck.Spec Duck.Generated Duck.Fn

/-! ### context and statements -/

/-- where we are: the program, its function end lines, the function environment, the bound below
    which all callable functions end, who may be called, and whether `return` is allowed -/
structure Ctx where
  is : List Instruction
  E : Nat → Prop
  F : FEnv
  B : Nat
  callable : List Str
  rets : Bool

structure CtxOK (c : Ctx) : Prop where
  env : EnvOK c.is c.E c.F
  callee : ∀ n, c.callable.contains n = true → ∃ fd fi, lookupFn c.F.tf n = some fd ∧
    c.F.sf.get n = some fi ∧ fi.stop < c.B

/-- every registered function's end line carries the end command of functions -/
def EndFnOK (F : FEnv) (s : Sdk) : Prop :=
  ∀ n fi, F.sf.get n = some fi → s.endTable.get (lineKey s fi.stop) = some fullNameEndFunction

/-- what is assumed of the states before a piece on lines `[lo, hi)` runs -/
structure Pre (c : Ctx) (lo hi : Nat) (s : Sdk) (t : TState) : Prop where
  cache : CacheOK c.is s
  rel : RelF c.F s t
  forOK : ForOKF c.B lo hi s.forStack
  bound : c.B ≤ lo
  noEnd : ∀ k, lo ≤ k → k < hi → ¬ c.E k
  depth : c.rets = true → t.depth ≠ 0
  endFn : EndFnOK c.F s

theorem EnvOK.isEnd {is : List Instruction} {E : Nat → Prop} {F : FEnv} (h : EnvOK is E F) {n : Str}
    {fi : FnInfo} (hs : F.sf.get n = some fi) : E fi.stop := by
  cases hl : lookupFn F.tf n with
  | none => rw [(h.undef n hl).1] at hs; cases hs
  | some fd =>
    obtain ⟨_, fi', kw, kwEnd, cl, hok⟩ := h.defd n fd hl
    rw [hok.sf] at hs
    injection hs with hs
    subst hs
    exact hok.isEnd

theorem Pre.sub {c : Ctx} {lo hi lo' hi' : Nat} {s : Sdk} {t : TState} (h : Pre c lo hi s t)
    (h1 : lo ≤ lo') (h2 : hi' ≤ hi) : Pre c lo' hi' s t :=
  ⟨h.cache, h.rel, h.forOK.mono h1 h2, Nat.le_trans h.bound h1,
    fun k hk1 hk2 => h.noEnd k (by omega) (by omega), h.depth, h.endFn⟩

/-- the precondition for what runs after a piece of `[lo, hi)` ended in `(s', t')` -/
theorem Pre.after {c : Ctx} (hc : CtxOK c) {lo hi lo' hi' : Nat} {A : Str → Bool} {s s' : Sdk}
    {t t' : TState} (h : Pre c lo hi s t)
    (hcore : SimCoreF c.is c.E c.F c.B lo hi A s t t' s') (hfor : s'.forStack = s.forStack)
    (h1 : lo ≤ lo') (h2 : hi' ≤ hi) : Pre c lo' hi' s' t' := by
  refine ⟨hcore.cache, hcore.rel, by rw [hfor]; exact h.forOK.mono h1 h2, Nat.le_trans h.bound h1,
    fun k hk1 hk2 => h.noEnd k (by omega) (by omega), fun hr => by rw [hcore.depth]; exact h.depth hr,
    ?_⟩
  intro n fi hs
  have hE := hc.env.isEnd hs
  rw [lineKey_congr hcore.frame.ctx, hcore.frame.endT fi.stop ?_]
  · exact h.endFn n fi hs
  · rintro (⟨a, b⟩ | ⟨_, b⟩)
    · exact h.noEnd _ a b hE
    · exact b hE

/-- … when the piece is given as a `SimAt` -/
theorem Pre.afterAt {c : Ctx} (hc : CtxOK c) {lo hi lo' hi' tgt : Nat} {A : Str → Bool} {s s' : Sdk}
    {t t' : TState} (h : Pre c lo hi s t) (hat : SimAt c.is c.E c.F c.B lo hi A s t t' s' tgt)
    (h1 : lo ≤ lo') (h2 : hi' ≤ hi) : Pre c lo' hi' s' t' :=
  h.after hc hat.core hat.forS h1 h2

/-- only the stacks (not the for stack) differ -/
theorem Pre.core {c : Ctx} {lo hi : Nat} {s s' : Sdk} {t : TState} (h : Pre c lo hi s t)
    (he : coreOf s' = coreOf s) (hfor : s'.forStack = s.forStack) : Pre c lo hi s' t := by
  refine ⟨h.cache.core he, h.rel.core he, by rw [hfor]; exact h.forOK, h.bound, h.noEnd, h.depth, ?_⟩
  intro n fi hs
  have := h.endFn n fi hs
  simp only [coreOf, Prod.mk.injEq] at he
  obtain ⟨_, _, _, h4, _, _, _, h8, _⟩ := he
  rw [lineKey_congr h8, h4]
  exact this

def StmtSimF (c : Ctx) (fuel : Nat) : Prop :=
  ∀ (st : Stmt) (inFor : Bool) (lo : Nat) (s : Sdk) (t : TState) (o : TOut),
    st.wf = true → st.fnFrag c.F.names c.callable c.F.fa c.rets inFor = true →
    At c.is lo st.flatten → Pre c lo (lo + st.flatten.length) s t →
    fsafeStmt c.is fuel st t = true → execStmt c.is fuel st t = o →
    SimOut c.is c.E c.F c.B lo (lo + st.flatten.length) (fun x => Stmt.assignsF c.F.fa x st) inFor s t o

def BlockSimF (c : Ctx) (fuel : Nat) : Prop :=
  ∀ (b : Block) (inFor : Bool) (lo : Nat) (s : Sdk) (t : TState) (o : TOut),
    b.wf = true → b.fnFrag c.F.names c.callable c.F.fa c.rets inFor = true →
    At c.is lo b.flatten → Pre c lo (lo + b.flatten.length) s t →
    fsafeBlock c.is fuel b t = true → execBlock c.is fuel b t = o →
    SimOut c.is c.E c.F c.B lo (lo + b.flatten.length) (fun x => Block.assignsF c.F.fa x b) inFor s t o

/-! ### straight lines -/

theorem line_coreF (is : List Instruction) (E : Nat → Prop) (F : FEnv) (B lo hi : Nat) (A : Str → Bool)
    (s : Sdk) (t : TState)
    (V : Vars) (hd : KV (List Str)) (nx : Nat) (em : List (List Str))
    (hc : CacheOK is s) (hrel : RelF F s t)
    (hcases : (hd = t.sdk.handles ∧ nx = t.sdk.nextHandle) ∨
      (∃ items, hd = t.sdk.handles.put (handleName t.sdk.nextHandle) items ∧ nx = t.sdk.nextHandle + 1))
    (hV : ∀ x, A x = false → V.get x = t.vars.get x) :
    SimCoreF is E F B lo hi A s t
      { t with vars := V, sdk := { t.sdk with handles := hd, nextHandle := nx, emitted := em } }
      { s with handles := hd, nextHandle := nx, emitted := em } := by
  refine ⟨hc.of_eq rfl rfl rfl rfl, ⟨rfl, rfl, rfl, hrel.sfns, hrel.tsfns, hrel.tfns, ?_⟩,
    FrameF.of_eq rfl rfl, ?_, hV, rfl⟩
  · rcases hcases with ⟨rfl, rfl⟩ | ⟨items, rfl, rfl⟩
    · exact hrel.hok
    · exact hrel.hok.put items
  · intro k l hk
    rcases hcases with ⟨rfl, rfl⟩ | ⟨items, rfl, rfl⟩
    · exact hk
    · exact hrel.hok.put_mono items k l hk

/-- a plain command line -/
theorem stmt_lineF (c : Ctx) (hc : CtxOK c) (fuel : Nat) (l : Line) (inFor : Bool) (lo : Nat) (s : Sdk)
    (t : TState) (o : TOut) (hs : isSimpleCmd l.cmd = true)
    (hat : At c.is lo (Stmt.line l).flatten) (hpre : Pre c lo (lo + 1) s t)
    (hex : execStmt c.is (fuel + 1) (.line l) t = o) :
    SimOut c.is c.E c.F c.B lo (lo + 1) (fun x => Stmt.assignsF c.F.fa x (.line l)) inFor s t o := by
  obtain ⟨cm, hres, hsc⟩ := isSimpleCmd_resolve hs
  have hl : lookupFn t.fns l.cmd = none := by rw [hpre.rel.tfns]; exact hc.env.not_builtin hres
  simp only [Stmt.flatten] at hat
  have hi := At.head hat
  obtain ⟨r, hd, nx, em, hrun, hcases, hng, hne⟩ :=
    simple_cmd cm hsc (bind t.vars (some l.args)) t.sdk.handles t.sdk.nextHandle t.sdk.emitted
  have htree := hrun (evalInstrsF fuel) c.is l.out 0 t.vars t.sdk rfl rfl rfl
  have hmach := fun nested => hrun nested c.is l.out lo t.vars s hpre.rel.handles hpre.rel.next
    hpre.rel.emitted
  simp only [execStmt, hl, execLine, resolveCmd_of_empty t.sdk hres, bind_mkArgs, htree] at hex
  have hA : ∀ val x, (fun x => Stmt.assignsF c.F.fa x (.line l)) x = false →
      (Vars.updateOutput t.vars l.out val).get x = t.vars.get x := by
    intro val x hx
    apply Vars.get_updateOutput_ne
    simp only [Stmt.assignsF, Bool.or_eq_false_iff] at hx
    intro e
    rw [e] at hx
    simp at hx
  have hoe : ∀ s' : Sdk, s'.fns = s.fns → resolveCmd s' onErrorName = none := fun s' h =>
    resolveCmd_none_env (by rw [resolve_onError_empty]; rfl)
      (by rw [h, hpre.rel.sfns]; exact hc.env.onError)
  cases r with
  | «continue» val =>
    subst hex
    exact ⟨_, Steps.single (fun nested p =>
        runStep_cmd_continue nested c.is lo p t.vars s _ l.out l.cmd l.args cm val t.vars _ hi
          (resolveCmd_of_empty s hres) (hmach nested)),
      line_coreF c.is c.E c.F c.B lo (lo + 1) _ s t _ hd nx em hpre.cache hpre.rel hcases (hA val),
      GarbF.refl _ _ _ _ _, GarbF.refl _ _ _ _ _, rfl, rfl, rfl⟩
  | error e =>
    subst hex
    exact ⟨_, Steps.single (fun nested p =>
        runStep_cmd_error nested c.is lo p t.vars s _ l.out l.cmd l.args cm e t.vars _ hi
          (resolveCmd_of_empty s hres) (hmach nested) (hoe _ rfl)),
      line_coreF c.is c.E c.F c.B lo (lo + 1) _ s t _ hd nx em hpre.cache hpre.rel hcases (hA _),
      GarbF.refl _ _ _ _ _, GarbF.refl _ _ _ _ _, rfl, rfl, rfl⟩
  | crash e => subst hex; trivial
  | «exit» v => subst hex; trivial
  | goTo v g => subst hex; trivial

/-! ### `return` -/

theorem stmt_retF (c : Ctx) (fuel : Nat) (kw : Str) (value : Option Str) (lo : Nat) (s : Sdk)
    (t : TState) (o : TOut) (hwf : (Stmt.ret kw value).wf = true)
    (hat : At c.is lo (Stmt.ret kw value).flatten) (hpre : Pre c lo (lo + 1) s t)
    (hd : t.depth ≠ 0)
    (hex : execStmt c.is (fuel + 1) (.ret kw value) t = o) :
    SimOut c.is c.E c.F c.B lo (lo + 1) (fun x => Stmt.assignsF c.F.fa x (.ret kw value)) false s t o := by
  have ho : o = .returning (retVal t.vars value) t := by
    rw [← hex]
    simp only [execStmt, hd, if_false, retVal]
    cases value with
    | none => rfl
    | some w =>
      simp only
      generalize bind t.vars (some [w]) = L
      cases L <;> rfl
  subst ho
  simp only [Stmt.flatten] at hat
  refine ⟨rfl, s, lo, SimAt.refl hpre.cache hpre.rel, Nat.le_refl _, by omega, ?_⟩
  refine ⟨_, kw, value, At.head hat, hwf, rfl⟩

end Duck
