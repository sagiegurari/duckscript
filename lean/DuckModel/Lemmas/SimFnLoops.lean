/-
  Simulation with functions — while loops and for/in loops, with both outcomes.
-/
import DuckModel.Lemmas.SimFnIf

namespace Duck
open Duck.Spec Duck.Generated Duck.Fn

/-! ### while -/

theorem stmt_whileF (c : Ctx) (hc : CtxOK c) (fuel : Nat) (hB : BlockSimF c fuel) (hS : StmtSimF c fuel)
    (kw : Str) (cond : List Str) (body : Block) (kwEnd : Str) (inFor : Bool) (lo : Nat) (s : Sdk)
    (t : TState) (o : TOut)
    (hwf : (Stmt.whileLoop kw cond body kwEnd).wf = true)
    (hs : (Stmt.whileLoop kw cond body kwEnd).fnFrag c.F.names c.callable c.F.fa c.rets inFor = true)
    (hat : At c.is lo (Stmt.whileLoop kw cond body kwEnd).flatten)
    (hpre : Pre c lo (lo + (Stmt.whileLoop kw cond body kwEnd).flatten.length) s t)
    (hsafe : fsafeStmt c.is (fuel + 1) (.whileLoop kw cond body kwEnd) t = true)
    (hex : execStmt c.is (fuel + 1) (.whileLoop kw cond body kwEnd) t = o) :
    SimOut c.is c.E c.F c.B lo (lo + (Stmt.whileLoop kw cond body kwEnd).flatten.length)
      (fun x => Stmt.assignsF c.F.fa x (.whileLoop kw cond body kwEnd)) inFor s t o := by
  have hnf := Stmt.noFn_of_fnFrag _ _ _ _ _ _ hs
  have hat0 := hat
  have hwf0 := hwf
  have hs0 := hs
  rw [flatten_while] at hat
  rw [hi_while] at hpre ⊢
  simp only [Stmt.wf, Stmt.fnFrag, Bool.and_eq_true] at hwf hs
  obtain ⟨⟨hkw, hbwf⟩, hkend⟩ := hwf
  obtain ⟨⟨hcs, hcnf⟩, hbs⟩ := hs
  have hscan := scan_at (K := .kWhile) hat hkend hbwf hnf
  have hi := At.head hat
  have hat' := At.tail hat
  generalize hstopdef : lo + 1 + body.flatten.length = stop at hscan hpre ⊢
  have hBlo : c.B ≤ lo := hpre.bound
  have hA1 : ∀ x, Stmt.assignsF c.F.fa x (.whileLoop kw cond body kwEnd) = false →
      Block.assignsF c.F.fa x body = false := fun _ h => h
  cases fuel with
  | zero => simp only [execStmt, evalCond] at hex; subst hex; trivial
  | succ f =>
    simp only [execStmt] at hex
    simp only [fsafeStmt, Bool.and_eq_true] at hsafe
    obtain ⟨hcsafe, hsafe'⟩ := hsafe
    cases hec : evalCond c.is (f + 1) cond t with
    | none => rw [hec] at hex; simp only at hex; subst hex; trivial
    | some pr =>
      obtain ⟨bv, t1⟩ := pr
      rw [hec] at hex hsafe'
      obtain ⟨em, rfl, hv⟩ := cond_simF c.is c.E c.F hc.env f cond t t1 bv hcs hcnf hcsafe hpre.rel hec
      cases bv with
      | false =>
        simp only at hex
        subst hex
        obtain ⟨M, hstep1, hcache1⟩ := step_while_false c.is lo t.vars s _ kw cond [] stop em hi hkw
          hpre.cache hscan hv
        exact ⟨_, hstep1,
          SimCoreF.opener stop fullNameEndWhile (hcache1.of_eq rfl rfl rfl rfl) hpre.rel rfl rfl rfl rfl rfl
            rfl (by omega) (by omega),
          GarbF.refl _ _ _ _ _, GarbF.refl _ _ _ _ _, rfl, rfl, rfl⟩
      | true =>
        simp only [Bool.and_eq_true] at hex hsafe'
        obtain ⟨M, hstep1, hcache1⟩ := step_while_true c.is lo t.vars s _ kw cond [] stop em hi hkw
          hpre.cache hscan hv
        -- the opener, as a piece of the statement's window
        have h1 : SimAt c.is c.E c.F c.B lo (stop + 1)
            (fun x => Stmt.assignsF c.F.fa x (.whileLoop kw cond body kwEnd)) s t (withEm t em) _ (lo + 1) :=
          ⟨hstep1,
            SimCoreF.opener stop fullNameEndWhile (hcache1.of_eq rfl rfl rfl rfl) hpre.rel rfl rfl rfl rfl rfl
              rfl (by omega) (by omega),
            GarbF.refl _ _ _ _ _, GarbF.push _ _ (.inr ⟨by show lo ≤ stop; omega, Nat.lt_succ_self stop⟩),
            rfl, rfl, rfl⟩
        have S := hB body inFor (lo + 1) _ (withEm t em) _ hbwf hbs hat'.left
          (hpre.afterAt hc h1 (by omega) (by omega)) hsafe'.1 rfl
        cases hb : execBlock c.is (f + 1) body (withEm t em) with
        | returning v t1 =>
          rw [hb] at hex S
          simp only at hex
          subst hex
          exact ⟨S.1, SimRet.prefix h1.steps h1.core h1.ifS h1.whS h1.forS h1.fnS h1.scS S.2 (by omega) (by omega) hA1⟩
        | failed => rw [hb] at hex; simp only at hex; subst hex; trivial
        | outOfFuel => rw [hb] at hex; simp only at hex; subst hex; trivial
        | normal t1 =>
          rw [hb] at hex S
          have hsafe2 := hsafe'.2
          rw [hb] at hsafe2
          simp only at hex hsafe2
          obtain ⟨s2, hat2⟩ := S
          rw [hstopdef] at hat2
          have h12 := h1.trans hat2 (by omega) (by omega) hA1
          obtain ⟨G, hG1, hG2⟩ := hat2.whS
          have hend2 : s2.endTable.get (lineKey s2 stop) = some fullNameEndWhile := by
            rw [hat2.core.frame.keep stop (by omega) (by omega)]
            exact KV.get_put_self _ _ _
          have hiend := At.head hat'.right
          rw [hstopdef] at hiend
          have hstep3 := step_endWhile c.is stop t1.vars s2 _ kwEnd G
            { start := lo, stop := stop, ctx := s.lineCtx } s.whileStack hiend hkend hend2 hG1 rfl
            (hat2.core.frame.ctx).symm
            (fun e he => (hG2 e he).ne_hi (by omega))
          -- one full iteration: back on the `while` line, the loop's entry on the stack again
          obtain ⟨s3, hiter⟩ : ∃ s3, SimAt c.is c.E c.F c.B lo (stop + 1)
              (fun x => Stmt.assignsF c.F.fa x (.whileLoop kw cond body kwEnd)) s t t1 s3 lo :=
            ⟨_, h12.steps.trans hstep3, h12.core.core_right rfl, h12.ifS, h1.whS, h12.forS, h12.fnS, h12.scS⟩
          have hpre3 : Pre c lo (lo + (Stmt.whileLoop kw cond body kwEnd).flatten.length) s3 t1 := by
            rw [hi_while, hstopdef]
            exact hpre.afterAt hc hiter (Nat.le_refl _) (Nat.le_refl _)
          have S4 := hS (.whileLoop kw cond body kwEnd) inFor lo _ t1 o hwf0 hs0 hat0 hpre3 hsafe2 hex
          rw [hi_while, hstopdef] at S4
          exact OutAt.map S4 (Nat.le_refl _)
            fun _ _ _ hat4 => hiter.trans hat4 (Nat.le_refl _) (Nat.le_refl _) (fun _ h => h)

/-! ### for/in -/

/-- what has to be shown for an outcome of a for/in loop whose own entry is on the stack above `K`:
    a for/in body never lets a `return` through (it is not in the fragment) -/
def ForOut (c : Ctx) (st lo hi : Nat) (A : Str → Bool) (K : List ForCall) (s : Sdk) (t : TState) (o : TOut) :
    Prop :=
  match o with
  | .normal t' => ∃ s', Steps c.is st t.vars s hi t'.vars s' ∧
      SimCoreF c.is c.E c.F c.B lo hi A s t t' s' ∧
      GarbF IfCall.current c.B lo hi s.ifStack s'.ifStack ∧
      GarbF WhileCall.stop c.B lo hi s.whileStack s'.whileStack ∧
      s'.forStack = K ∧ s'.fnStack = s.fnStack ∧ s'.scopeStack = s.scopeStack
  | .returning _ _ => False
  | _ => True

/-- the machine stands on the `for` line `lo` with the loop's own entry `own` on top of the for stack
    and `items` = the elements not yet visited; it runs the remaining iterations like `execFor` and
    leaves with the entry popped -/
def ForSimF (c : Ctx) (fuel : Nat) : Prop :=
  ∀ (kw x handle hn : Str) (body : Block) (kwEnd : Str) (lo : Nat) (own : ForCall) (K : List ForCall)
    (L items : List Str) (s : Sdk) (t : TState) (o : TOut),
    isForKw kw = true → body.wf = true → isEndForKw kwEnd = true → isLiteral x = true →
    body.fnFrag c.F.names c.callable c.F.fa c.rets true = true → handleVar? handle = some hn → x ≠ hn →
    body.assignsF c.F.fa hn = false →
    At c.is lo (Stmt.forIn kw x handle body kwEnd).flatten →
    s.forStack = own :: K → own.start = lo → own.stop = lo + 1 + body.flatten.length →
    own.ctx = s.lineCtx →
    (t.sdk.handles.get ((t.vars.get hn).getD [])).getD [] = L → L.drop own.iteration = items →
    s.endTable.get (lineKey s (lo + 1 + body.flatten.length)) = some fullNameEndForIn →
    Pre c lo (lo + 1 + body.flatten.length + 1) { s with forStack := K } t →
    fsafeFor c.is fuel x items body t = true →
    execFor c.is fuel x items body t = o →
    ForOut c lo lo (lo + 1 + body.flatten.length + 1) (fun y => x == y || Block.assignsF c.F.fa y body) K s t o

/-- one pass through the body (the loop variable is already set), the end line, and the rest of
    the loop -/
theorem for_iterF (c : Ctx) (hc : CtxOK c) (f : Nat) (hB : BlockSimF c f) (hF : ForSimF c f)
    (kw x handle hn : Str) (body : Block) (kwEnd : Str) (lo : Nat) (own : ForCall) (K : List ForCall)
    (L rest : List Str) (s1 : Sdk) (t0 : TState) (o : TOut)
    (hkw : isForKw kw = true) (hbwf : body.wf = true) (hkend : isEndForKw kwEnd = true)
    (hx : isLiteral x = true) (hbs : body.fnFrag c.F.names c.callable c.F.fa c.rets true = true)
    (hh : handleVar? handle = some hn)
    (hxn : x ≠ hn) (hbn : body.assignsF c.F.fa hn = false)
    (hat : At c.is lo (Stmt.forIn kw x handle body kwEnd).flatten)
    (hst : s1.forStack = own :: K) (hos : own.start = lo)
    (hop : own.stop = lo + 1 + body.flatten.length) (hctx : own.ctx = s1.lineCtx)
    (hL : t0.sdk.handles.get ((t0.vars.get hn).getD []) = some L) (hdrop : L.drop own.iteration = rest)
    (hend : s1.endTable.get (lineKey s1 (lo + 1 + body.flatten.length)) = some fullNameEndForIn)
    (hpre : Pre c lo (lo + 1 + body.flatten.length + 1) { s1 with forStack := K } t0)
    (hsb : fsafeBlock c.is f body t0 = true)
    (hsr : ∀ t1, execBlock c.is f body t0 = .normal t1 → fsafeFor c.is f x rest body t1 = true)
    (hex : (match execBlock c.is f body t0 with
            | .normal t => execFor c.is f x rest body t
            | o => o) = o) :
    ForOut c (lo + 1) lo (lo + 1 + body.flatten.length + 1)
      (fun y => x == y || Block.assignsF c.F.fa y body) K s1 t0 o := by
  have hat0 := hat
  rw [flatten_for] at hat
  have hat' := At.tail hat
  have hBlo : c.B ≤ lo := hpre.bound
  have hpre1 : Pre c (lo + 1) (lo + 1 + body.flatten.length) s1 t0 := by
    refine ⟨hpre.cache.core rfl, hpre.rel.core rfl, ?_, by omega,
      fun k h1 h2 => hpre.noEnd k (by omega) (by omega), hpre.depth, ?_⟩
    · rw [hst]
      intro e he
      rcases List.mem_cons.mp he with rfl | he
      · omega
      · have := hpre.forOK e he; omega
    · exact hpre.endFn
  have S := hB body true (lo + 1) s1 t0 _ hbwf hbs hat'.left hpre1 hsb rfl
  cases hb : execBlock c.is f body t0 with
  | returning v t1 =>
    rw [hb] at S
    exact absurd S.1 (by simp)
  | failed => rw [hb] at hex; simp only at hex; subst hex; trivial
  | outOfFuel => rw [hb] at hex; simp only at hex; subst hex; trivial
  | normal t1 =>
    rw [hb] at hex S
    simp only at hex
    obtain ⟨s2, hat2⟩ := S
    have hend2 : s2.endTable.get (lineKey s2 (lo + 1 + body.flatten.length)) = some fullNameEndForIn := by
      rw [hat2.core.frame.keep _ (by omega) (by omega)]
      exact hend
    have hiend := At.head hat'.right
    have hstep3 := step_endFor c.is (lo + 1 + body.flatten.length) t1.vars s2 _ kwEnd own K hiend hkend hend2
      (hat2.forS.trans hst) hop (hctx.trans (hat2.core.frame.ctx).symm)
    rw [hos] at hstep3
    have hvar : t1.vars.get hn = t0.vars.get hn := hat2.core.varsF hn hbn
    have hcore2 : SimCoreF c.is c.E c.F c.B lo (lo + 1 + body.flatten.length + 1)
        (fun y => x == y || Block.assignsF c.F.fa y body) s1 t0 t1 s2 :=
      hat2.core.sub (by omega) (by omega) (fun y hy => by
        simp only [Bool.or_eq_false_iff] at hy
        exact hy.2)
    have hpre2 : Pre c lo (lo + 1 + body.flatten.length + 1) { s2 with forStack := K } t1 := by
      have := hpre.after hc (s' := { s2 with forStack := K })
        ((hcore2.core_left (s0 := { s1 with forStack := K }) rfl).core_right rfl) rfl
        (Nat.le_refl _) (Nat.le_refl _)
      exact this
    have S4 := hF kw x handle hn body kwEnd lo own K L rest s2 t1 o hkw hbwf hkend hx hbs hh hxn hbn hat0
      (hat2.forS.trans hst) hos hop (hctx.trans (hat2.core.frame.ctx).symm)
      (by rw [hvar, hat2.core.mono _ _ hL]; rfl) hdrop hend2 hpre2 (hsr t1 hb) hex
    cases o with
    | normal t' =>
      obtain ⟨s4, hst4, hcore4, hif4, hwh4, hfor4, hfn4, hsc4⟩ := S4
      exact ⟨s4, (hat2.steps.trans hstep3).trans hst4, hcore2.trans hcore4,
        (hat2.ifS.mono (fun _ h => h.sub (by omega) (by omega))).trans hif4,
        (hat2.whS.mono (fun _ h => h.sub (by omega) (by omega))).trans hwh4, hfor4,
        hfn4.trans hat2.fnS, hsc4.trans hat2.scS⟩
    | returning v t' => exact S4
    | failed => trivial
    | outOfFuel => trivial

theorem for_stepF (c : Ctx) (hc : CtxOK c) (f : Nat) (hB : BlockSimF c f) (hF : ForSimF c f) :
    ForSimF c (f + 1) := by
  intro kw x handle hn body kwEnd lo own K L items s t o hkw hbwf hkend hx hbs hh hxn hbn hat hst hos
    hop hctx hL hdrop hend hpre hsafe hex
  have hat0 := hat
  rw [flatten_for] at hat
  have hi := At.head hat
  have hbind := bind_for t.vars x handle hn hx hh
  have hidx : (s.handles.get ((t.vars.get hn).getD [])).bind (fun l => l[own.iteration]?) =
      L[own.iteration]? := by
    rw [get_bind_idx]
    have : s.handles = t.sdk.handles := hpre.rel.handles
    rw [this, hL]
  cases items with
  | nil =>
    simp only [execFor] at hex
    subst hex
    have hnone : L[own.iteration]? = none := by
      have := drop_nil_facts L own.iteration hdrop
      exact List.getElem?_eq_none (by omega)
    have hstep := step_for_next_none c.is lo t.vars s _ kw x handle _ own K hi hkw hbind hst hos hctx
      (hidx.trans hnone)
    rw [hop] at hstep
    exact ⟨_, hstep, (SimCoreF.refl (s := s) (hpre.cache.core rfl) (hpre.rel.core rfl)).core_right rfl,
      GarbF.refl _ _ _ _ _, GarbF.refl _ _ _ _ _, rfl, rfl, rfl⟩
  | cons val rest =>
    obtain ⟨hlt, hget, hdrop'⟩ := drop_cons_facts L own.iteration val rest hdrop
    have hLsome := drop_some_of_ne hL hdrop
    have hstep := step_for_next_some c.is lo t.vars s _ kw x handle _ own K val hi hkw hbind hst hos hctx
      (hidx.trans hget)
    simp only [execFor] at hex
    simp only [fsafeFor, Bool.and_eq_true] at hsafe
    have hvar0 : (t.vars.set x val).get hn = t.vars.get hn := Vars.get_set_ne _ _ _ _ hxn
    have hrel0 : RelF c.F { s with forStack := K } { t with vars := t.vars.set x val } :=
      hpre.rel.congr rfl rfl rfl rfl rfl rfl
    have hpre0 : Pre c lo (lo + 1 + body.flatten.length + 1)
        { ({ s with forStack := { own with iteration := own.iteration + 1, ctx := s.lineCtx } :: K } : Sdk)
            with forStack := K }
        { t with vars := t.vars.set x val } :=
      ⟨hpre.cache, hrel0, hpre.forOK, hpre.bound, hpre.noEnd, hpre.depth, hpre.endFn⟩
    have S := for_iterF c hc f hB hF kw x handle hn body kwEnd lo
      { own with iteration := own.iteration + 1, ctx := s.lineCtx } K L rest
      { s with forStack := { own with iteration := own.iteration + 1, ctx := s.lineCtx } :: K }
      { t with vars := t.vars.set x val } o hkw hbwf hkend hx hbs hh hxn hbn hat0 rfl hos hop rfl
      (by simp only; rw [hvar0]; exact hLsome) hdrop' hend hpre0 hsafe.1
      (fun t1 hb => by
        have := hsafe.2
        rw [hb] at this
        exact this) hex
    cases o with
    | normal t' =>
      obtain ⟨s4, hst4, hcore4, hif4, hwh4, hfor4, hfn4, hsc4⟩ := S
      refine ⟨s4, hstep.trans hst4, ?_, hif4, hwh4, hfor4, hfn4, hsc4⟩
      have h0 : SimCoreF c.is c.E c.F c.B lo (lo + 1 + body.flatten.length + 1)
          (fun y => x == y || Block.assignsF c.F.fa y body)
          s t { t with vars := t.vars.set x val }
          { s with forStack := { own with iteration := own.iteration + 1, ctx := s.lineCtx } :: K } := by
        refine ⟨hpre.cache.core rfl, hrel0.core rfl, FrameF.of_eq rfl rfl, fun _ _ h => h, ?_, rfl⟩
        intro y hy
        simp only [Bool.or_eq_false_iff, beq_eq_false_iff_ne] at hy
        exact Vars.get_set_ne _ _ _ _ hy.1
      exact h0.trans hcore4
    | returning v t' => exact S
    | failed => trivial
    | outOfFuel => trivial

theorem stmt_forF (c : Ctx) (hc : CtxOK c) (fuel : Nat)
    (hall : ∀ m, m < fuel + 1 → BlockSimF c m ∧ ForSimF c m)
    (kw x handle : Str) (body : Block) (kwEnd : Str) (inFor : Bool) (lo : Nat) (s : Sdk)
    (t : TState) (o : TOut)
    (hwf : (Stmt.forIn kw x handle body kwEnd).wf = true)
    (hs : (Stmt.forIn kw x handle body kwEnd).fnFrag c.F.names c.callable c.F.fa c.rets inFor = true)
    (hat : At c.is lo (Stmt.forIn kw x handle body kwEnd).flatten)
    (hpre : Pre c lo (lo + (Stmt.forIn kw x handle body kwEnd).flatten.length) s t)
    (hsafe : fsafeStmt c.is (fuel + 1) (.forIn kw x handle body kwEnd) t = true)
    (hex : execStmt c.is (fuel + 1) (.forIn kw x handle body kwEnd) t = o) :
    SimOut c.is c.E c.F c.B lo (lo + (Stmt.forIn kw x handle body kwEnd).flatten.length)
      (fun y => Stmt.assignsF c.F.fa y (.forIn kw x handle body kwEnd)) inFor s t o := by
  have hnf := Stmt.noFn_of_fnFrag _ _ _ _ _ _ hs
  have hat0 := hat
  rw [flatten_for] at hat
  rw [hi_for] at hpre ⊢
  simp only [Stmt.wf, Stmt.fnFrag, Bool.and_eq_true] at hwf hs
  obtain ⟨⟨hkw, hbwf⟩, hkend⟩ := hwf
  obtain ⟨⟨⟨hx, hxne⟩, hbs⟩, hhandle⟩ := hs
  have hscan := scan_at (K := .kFor) hat hkend hbwf hnf
  cases hh : handleVar? handle with
  | none => rw [hh] at hhandle; simp at hhandle
  | some hn =>
    rw [hh] at hhandle
    simp only [Bool.and_eq_true, bne_iff_ne, ne_eq, Bool.not_eq_true'] at hhandle
    obtain ⟨hxn, hbn⟩ := hhandle
    have hi := At.head hat
    have hbind := bind_for t.vars x handle hn hx hh
    have habs : ∀ e ∈ s.forStack, e.start ≠ lo ∧ e.stop ≠ lo := by
      intro e he
      have := hpre.forOK e he
      omega
    simp only [execStmt, bind_handle t.vars handle hn hh] at hex
    simp only [fsafeStmt, bind_handle t.vars handle hn hh] at hsafe
    generalize hLdef : (t.sdk.handles.get ((t.vars.get hn).getD [])).getD [] = L at hex hsafe
    have hidx : (s.handles.get ((t.vars.get hn).getD [])).bind (fun l => l[0]?) = L[0]? := by
      rw [get_bind_idx]
      have : s.handles = t.sdk.handles := hpre.rel.handles
      rw [this, hLdef]
    cases fuel with
    | zero => simp only [execFor] at hex; subst hex; trivial
    | succ f =>
      obtain ⟨hB, hF⟩ := hall f (by omega)
      cases L with
      | nil =>
        simp only [execFor] at hex
        subst hex
        obtain ⟨M, hstep1, hcache1⟩ := step_for_first_none c.is lo t.vars s _ kw x handle _ [] _ hi hkw
          hbind hpre.cache hscan habs (hidx.trans rfl)
        exact ⟨_, hstep1,
          SimCoreF.opener0 (lo + 1 + body.flatten.length) fullNameEndForIn hcache1 hpre.rel rfl rfl rfl
            rfl rfl rfl (by omega) (by omega),
          GarbF.refl _ _ _ _ _, GarbF.refl _ _ _ _ _, rfl, rfl, rfl⟩
      | cons val rest =>
        obtain ⟨M, hstep1, hcache1⟩ := step_for_first_some c.is lo t.vars s _ kw x handle _ [] _ val hi hkw
          hbind hpre.cache hscan habs (hidx.trans rfl)
        simp only [execFor] at hex
        simp only [fsafeFor, Bool.and_eq_true] at hsafe
        have hvar0 : (t.vars.set x val).get hn = t.vars.get hn := Vars.get_set_ne _ _ _ _ hxn
        have hLsome : t.sdk.handles.get ((t.vars.get hn).getD []) = some (val :: rest) :=
          drop_some_of_ne (k := 0) hLdef rfl
        have h0 : SimCoreF c.is c.E c.F c.B lo (lo + 1 + body.flatten.length + 1)
            (fun y => Stmt.assignsF c.F.fa y (.forIn kw x handle body kwEnd))
            s t { t with vars := t.vars.set x val }
            { s with forMeta := M,
                     endTable := s.endTable.put (lineKey s (lo + 1 + body.flatten.length)) fullNameEndForIn,
                     forStack := { iteration := 1, start := lo, stop := lo + 1 + body.flatten.length,
                                   ctx := s.lineCtx } :: s.forStack } := by
          refine ⟨hcache1.of_eq rfl rfl rfl rfl,
            hpre.rel.congr rfl rfl rfl rfl rfl rfl,
            ⟨fun l hl => ?_, rfl⟩, fun _ _ h => h, ?_, rfl⟩
          · refine endT_put_ne s _ l _ (fun e => hl ?_)
            subst e
            exact .inl ⟨by omega, by omega⟩
          · intro y hy
            simp only [Stmt.assignsF, Bool.or_eq_false_iff, beq_eq_false_iff_ne] at hy
            exact Vars.get_set_ne _ _ _ _ hy.1
        have hpre0 : Pre c lo (lo + 1 + body.flatten.length + 1)
            { s with forMeta := M,
                     endTable := s.endTable.put (lineKey s (lo + 1 + body.flatten.length)) fullNameEndForIn }
            { t with vars := t.vars.set x val } :=
          hpre.after hc (h0.core_right rfl) rfl (Nat.le_refl _) (Nat.le_refl _)
        have S := for_iterF c hc f hB hF kw x handle hn body kwEnd lo
          { iteration := 1, start := lo, stop := lo + 1 + body.flatten.length, ctx := s.lineCtx }
          s.forStack (val :: rest) rest
          { s with forMeta := M,
                   endTable := s.endTable.put (lineKey s (lo + 1 + body.flatten.length)) fullNameEndForIn,
                   forStack := { iteration := 1, start := lo, stop := lo + 1 + body.flatten.length,
                                 ctx := s.lineCtx } :: s.forStack }
          { t with vars := t.vars.set x val } o hkw hbwf hkend hx hbs hh hxn hbn hat0 rfl rfl rfl rfl
          (by simp only; rw [hvar0]; exact hLsome) rfl (KV.get_put_self _ _ _) hpre0 hsafe.1
          (fun t1 hb => by
            have := hsafe.2
            rw [hb] at this
            exact this) hex
        cases o with
        | normal t' =>
          obtain ⟨s4, hst4, hcore4, hif4, hwh4, hfor4, hfn4, hsc4⟩ := S
          exact ⟨s4, hstep1.trans hst4,
            h0.trans (hcore4.mono' (fun _ h => h) (fun y hy => by
              simp only [Stmt.assignsF] at hy
              exact hy)),
            hif4, hwh4, hfor4, hfn4, hsc4⟩
        | returning v t' => exact False.elim S
        | failed => trivial
        | outOfFuel => trivial

end Duck
