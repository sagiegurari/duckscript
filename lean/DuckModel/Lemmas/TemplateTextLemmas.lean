/-
  Helper lemmas for Props/C02Text.lean: a command line written by `Spec.capLine`
  (`Spec/TemplateText.lean`) against `parseLine`, and the composition with the binding lemmas
  of `ExpansionLemmas`.

  The scanner reads the body of an argument as a sequence of PIECES:
  an ordinary character | `\"` | `\n` | `\r` | `\t` | `\${`
  (`pvLoop_plain_char`, `pvLoop_esc_*`, `pvLoop_esc_var`), both inside quotes (`q = true`) and
  outside (`q = false`, where the written text must be free of the space character and `#`).
-/
import DuckModel.Parser
import DuckModel.Expansion
import DuckModel.Spec.TemplateText
import DuckModel.Lemmas.RenderLemmas
import DuckModel.Lemmas.ExpansionLemmas

namespace Duck
open Duck.Spec

/-! ### `TextOK` is inside the domain of the binding theorems -/

theorem nameTextOK_key {n : Str} (h : NameTextOK n) : KeyOK n := h.1

theorem segTextOK_ok {s : Seg} (h : s.TextOK) : s.OK := by
  cases s with
  | lit t => exact h
  | var n => exact h.1
  | escVar n => exact ⟨h.1.1, h.2⟩

/-! ### written text that may stand outside quotes -/

/-- outside quotes (`q = false`) the text has neither the space character nor `#` -/
def UnqText (q : Bool) (s : Str) : Prop := q = false → ∀ x ∈ s, x ≠ ' ' ∧ x ≠ '#'

theorem UnqText.nil (q : Bool) : UnqText q [] := by
  intro _ x hx; simp at hx

theorem UnqText.quoted (s : Str) : UnqText true s := by
  intro h; simp at h

theorem UnqText.append_left {q : Bool} {a b : Str} (h : UnqText q (a ++ b)) : UnqText q a :=
  fun hq x hx => h hq x (List.mem_append.mpr (Or.inl hx))

theorem UnqText.append_right {q : Bool} {a b : Str} (h : UnqText q (a ++ b)) : UnqText q b :=
  fun hq x hx => h hq x (List.mem_append.mpr (Or.inr hx))

theorem UnqText.tail {q : Bool} {c : Char} {s : Str} (h : UnqText q (c :: s)) : UnqText q s :=
  fun hq x hx => h hq x (by simp [hx])

theorem UnqText.head {q : Bool} {c : Char} {s : Str} (h : UnqText q (c :: s)) :
    q = false → c ≠ ' ' ∧ c ≠ '#' :=
  fun hq => h hq c (by simp)

/-! ### the pieces -/

/-- an ordinary character -/
theorem pvLoop_plain_char (q : Bool) (c : Char) (acc l : Str) (h1 : c ≠ '\\') (h2 : c ≠ '"')
    (hu : q = false → c ≠ ' ' ∧ c ≠ '#') :
    pvLoop (argFlags false) { arg := acc, inArg := true, usingQuotes := q } (c :: l) =
      pvLoop (argFlags false) { arg := acc ++ [c], inArg := true, usingQuotes := q } l := by
  cases q
  · obtain ⟨a, b⟩ := hu rfl
    simp [pvLoop, pvStep, argFlags, h1, h2, a, b]
  · simp [pvLoop, pvStep, argFlags, h1, h2]

/-- `\${` stays the three characters `\${` -/
theorem pvLoop_esc_var (q : Bool) (acc l : Str) :
    pvLoop (argFlags false) { arg := acc, inArg := true, usingQuotes := q }
        ('\\' :: '$' :: '{' :: l) =
      pvLoop (argFlags false) { arg := acc ++ ['\\', '$', '{'], inArg := true, usingQuotes := q } l := by
  cases q <;> simp [pvLoop, pvStep, argFlags]

/-- a run of ordinary characters -/
theorem pvLoop_plain (q : Bool) (s acc l : Str) (h : ∀ c ∈ s, c ≠ '\\' ∧ c ≠ '"')
    (hu : UnqText q s) :
    pvLoop (argFlags false) { arg := acc, inArg := true, usingQuotes := q } (s ++ l) =
      pvLoop (argFlags false) { arg := acc ++ s, inArg := true, usingQuotes := q } l := by
  induction s generalizing acc with
  | nil => simp
  | cons c t ih =>
    obtain ⟨h1, h2⟩ := h c (by simp)
    rw [List.cons_append, pvLoop_plain_char q c acc _ h1 h2 hu.head,
      ih _ (fun x hx => h x (by simp [hx])) hu.tail]
    simp

/-! ### literal text -/

/-- the characters of literal text that are written as an escape -/
def LitEsc (c : Char) : Prop := c = '"' ∨ c = '\n' ∨ c = '\r' ∨ c = '\t'

theorem litCharText_plain {c : Char} (h : ¬ LitEsc c) : litCharText c = [c] := by
  simp only [LitEsc, not_or] at h
  simp [litCharText, h]

theorem pvLoop_litChar (q : Bool) (c : Char) (acc l : Str) (h1 : c ≠ '\\')
    (hu : UnqText q (litCharText c)) :
    pvLoop (argFlags false) { arg := acc, inArg := true, usingQuotes := q } (litCharText c ++ l) =
      pvLoop (argFlags false) { arg := acc ++ [c], inArg := true, usingQuotes := q } l := by
  by_cases he : LitEsc c
  · rcases he with rfl | rfl | rfl | rfl <;> cases q <;> simp [litCharText, pvLoop, pvStep, argFlags]
  · rw [litCharText_plain he] at hu ⊢
    simp only [LitEsc, not_or] at he
    exact pvLoop_plain_char q c acc l h1 he.1 hu.head

theorem pvLoop_lit (q : Bool) (t acc l : Str) (h : LitOK t)
    (hu : UnqText q (t.flatMap litCharText)) :
    pvLoop (argFlags false) { arg := acc, inArg := true, usingQuotes := q }
        (t.flatMap litCharText ++ l) =
      pvLoop (argFlags false) { arg := acc ++ t, inArg := true, usingQuotes := q } l := by
  induction t generalizing acc with
  | nil => simp
  | cons c t ih =>
    rw [List.flatMap_cons] at hu ⊢
    rw [List.append_assoc, pvLoop_litChar q c acc _ (h c (by simp)).2.2 hu.append_left,
      ih _ (fun x hx => h x (by simp [hx])) hu.append_right]
    simp

/-! ### one segment, a whole body -/

theorem name_close_plain {n : Str} (h : NameTextOK n) :
    ∀ c ∈ n ++ ['}'], c ≠ '\\' ∧ c ≠ '"' := by
  intro c hc
  rcases List.mem_append.mp hc with hc | hc
  · obtain ⟨a, b⟩ := h.2 c hc
    exact ⟨b, a⟩
  · simp at hc; subst hc; exact ⟨by decide, by decide⟩

theorem pvLoop_seg (q : Bool) (s : Seg) (acc l : Str) (h : s.TextOK) (hu : UnqText q s.text) :
    pvLoop (argFlags false) { arg := acc, inArg := true, usingQuotes := q } (s.text ++ l) =
      pvLoop (argFlags false) { arg := acc ++ s.render, inArg := true, usingQuotes := q } l := by
  cases s with
  | lit t => exact pvLoop_lit q t acc l h hu
  | var n =>
    have hp : ∀ c ∈ '$' :: '{' :: (n ++ ['}']), c ≠ '\\' ∧ c ≠ '"' := by
      intro c hc
      rcases List.mem_cons.mp hc with rfl | hc
      · exact ⟨by decide, by decide⟩
      rcases List.mem_cons.mp hc with rfl | hc
      · exact ⟨by decide, by decide⟩
      exact name_close_plain h c hc
    exact pvLoop_plain q _ acc l hp hu
  | escVar n =>
    have hu' : UnqText q (n ++ ['}']) := hu.tail.tail.tail
    simp only [Seg.text, Seg.render, List.cons_append]
    rw [pvLoop_esc_var, pvLoop_plain q _ _ l (name_close_plain h.1) hu']
    simp

theorem pvLoop_body (q : Bool) (t : List Seg) (acc l : Str) (h : ∀ s ∈ t, s.TextOK)
    (hu : UnqText q (tmplBody t)) :
    pvLoop (argFlags false) { arg := acc, inArg := true, usingQuotes := q } (tmplBody t ++ l) =
      pvLoop (argFlags false) { arg := acc ++ renderTemplate t, inArg := true, usingQuotes := q } l := by
  induction t generalizing acc with
  | nil => simp [tmplBody, renderTemplate]
  | cons s t ih =>
    simp only [tmplBody, renderTemplate, List.flatMap_cons] at hu ih ⊢
    rw [List.append_assoc, pvLoop_seg q s acc _ (h s (by simp)) hu.append_left,
      ih _ (fun x hx => h x (by simp [hx])) hu.append_right]
    simp

/-! ### a quoted argument -/

theorem parseNextValue_quoted_body (t : List Seg) (tail : Str) (h : ∀ s ∈ t, s.TextOK) :
    parseNextValue (argFlags false) ('"' :: (tmplBody t ++ '"' :: tail)) =
      .ok (tail, some (renderTemplate t)) := by
  rw [parseNextValue_eq, pvLoop_open_quote, pvLoop_body true t [] _ h (UnqText.quoted _), pvLoop]
  cases renderTemplate t <;> simp [pvStep, pvFinish]

/-! ### an unquoted argument -/

/-- the first character of an unquoted argument: the scanner is in the same state as inside an
    argument that is still empty -/
theorem pvLoop_start_unquoted (c : Char) (l : Str) (h1 : c ≠ ' ') (h2 : c ≠ '#') (h3 : c ≠ '"') :
    pvLoop (argFlags false) {} (c :: l) =
      pvLoop (argFlags false) { arg := [], inArg := true, usingQuotes := false } (c :: l) := by
  by_cases hb : c = '\\'
  · subst hb; simp [pvLoop, pvStep, argFlags]
  · simp [pvLoop, pvStep, argFlags, h1, h2, h3, hb]

theorem bodyNeedsQuotes_false {first : Bool} {body : Str}
    (h : bodyNeedsQuotes first body = false) :
    body ≠ [] ∧ (∀ c ∈ body, isWs c = false ∧ c ≠ '#') ∧
      (first = true → body.head? ≠ some '=') := by
  unfold bodyNeedsQuotes at h
  simp only [Bool.or_eq_false_iff, Bool.and_eq_false_iff] at h
  obtain ⟨⟨h1, h2⟩, h3⟩ := h
  refine ⟨?_, ?_, ?_⟩
  · intro he; subst he; simp at h1
  · intro c hc
    have := List.any_eq_false.mp h2 c hc
    simpa using this
  · intro hf
    rcases h3 with h3 | h3
    · rw [hf] at h3; exact absurd h3 (by decide)
    · simpa using h3

theorem litCharText_head (c : Char) : ∃ x r, litCharText c = x :: r ∧ x ≠ '"' := by
  by_cases he : LitEsc c
  · rcases he with rfl | rfl | rfl | rfl <;> exact ⟨'\\', _, rfl, by decide⟩
  · exact ⟨c, [], litCharText_plain he, fun h => he (Or.inl h)⟩

/-- the first character of a concatenation of pieces is the first character of a piece -/
theorem head?_flatMap_ne {α β} (f : α → List β) (b : β) (l : List α)
    (h : ∀ a ∈ l, (f a).head? ≠ some b) : (l.flatMap f).head? ≠ some b := by
  induction l with
  | nil => simp
  | cons a t ih =>
    have ha := h a (by simp)
    have ht := ih fun x hx => h x (by simp [hx])
    rw [List.flatMap_cons]
    cases hf : f a with
    | nil => simpa using ht
    | cons x r => rw [hf] at ha; simpa using ha

theorem segText_head (s : Seg) : s.text.head? ≠ some '"' := by
  cases s with
  | lit t =>
    refine head?_flatMap_ne _ _ t fun c _ => ?_
    obtain ⟨x, r, hx, hq⟩ := litCharText_head c
    rw [hx]; simpa using hq
  | var n => simp [Seg.text]
  | escVar n => simp [Seg.text]

theorem tmplBody_head (t : List Seg) : (tmplBody t).head? ≠ some '"' :=
  head?_flatMap_ne _ _ t fun s _ => segText_head s

theorem segRender_ne_nil {s : Seg} (h : s.text ≠ []) : s.render ≠ [] := by
  cases s with
  | lit t => intro he; subst he; exact h rfl
  | var n => simp [Seg.render]
  | escVar n => simp [Seg.render]

theorem renderTemplate_ne_nil {t : List Seg} (h : tmplBody t ≠ []) : renderTemplate t ≠ [] := by
  intro he
  apply h
  rw [renderTemplate, List.flatMap_eq_nil_iff] at he
  rw [tmplBody, List.flatMap_eq_nil_iff]
  exact fun s hs => Classical.byContradiction fun hne => segRender_ne_nil hne (he s hs)

theorem parseNextValue_unquoted_body (first : Bool) (t : List Seg) (tail : Str)
    (h : ∀ s ∈ t, s.TextOK) (hn : bodyNeedsQuotes first (tmplBody t) = false) (ht : SpTail tail) :
    parseNextValue (argFlags false) (tmplBody t ++ tail) = .ok (tail, some (renderTemplate t)) := by
  obtain ⟨hne, hall, _⟩ := bodyNeedsQuotes_false hn
  have hu : UnqText false (tmplBody t) := fun _ x hx =>
    ⟨(isWs_false_ne (hall x hx).1).1, (hall x hx).2⟩
  have hhead := tmplBody_head t
  have hstart : pvLoop (argFlags false) {} (tmplBody t ++ tail) =
      pvLoop (argFlags false) { arg := [], inArg := true, usingQuotes := false }
        (tmplBody t ++ tail) := by
    cases hb : tmplBody t with
    | nil => exact absurd hb hne
    | cons c r =>
      rw [hb] at hu hhead
      obtain ⟨a, b⟩ := hu.head rfl
      exact pvLoop_start_unquoted c _ a b (by simpa using hhead)
  rw [parseNextValue_eq, hstart, pvLoop_body false t [] tail h hu, List.nil_append]
  have := pv_finish_at_bnd (argFlags false) (renderTemplate t) tail (renderTemplate_ne_nil hne) ht.bnd
  rw [ht.afterTok] at this
  exact this

/-! ### a spread -/

theorem spread_tok {n : Str} (h : WArg.OK (.spread n)) :
    ∀ x ∈ renderSpread n, TokChar (argFlags false) x := by
  obtain ⟨hn, hw⟩ := h
  have hst : (argFlags false).stopOnEquals = true → ∀ x : Char, x ≠ '=' := by
    intro h; simp [argFlags] at h
  intro x hx
  unfold renderSpread at hx
  rcases List.mem_cons.mp hx with rfl | hx
  · exact ⟨by decide, by decide, by decide, fun h => hst h _⟩
  rcases List.mem_cons.mp hx with rfl | hx
  · exact ⟨by decide, by decide, by decide, fun h => hst h _⟩
  rcases List.mem_append.mp hx with hx | hx
  · obtain ⟨a, b⟩ := hw x hx
    exact ⟨by simpa using a, b, (hn.2 x hx).2, fun h => hst h _⟩
  · simp at hx; subst hx
    exact ⟨by decide, by decide, by decide, fun h => hst h _⟩

theorem parseNextValue_spread (n tail : Str) (h : WArg.OK (.spread n)) (ht : SpTail tail) :
    parseNextValue (argFlags false) (renderSpread n ++ tail) = .ok (tail, some (renderSpread n)) := by
  have := parseNextValue_tok (argFlags false) (renderSpread n) tail (by simp [renderSpread])
    (spread_tok h) (by simp [renderSpread]) ht.bnd
  rw [ht.afterTok] at this
  exact this

/-! ### one written argument -/

/-- a template is written between quotes, or bare when its body can stand without them -/
theorem wargText_tmpl (first : Bool) (t : List Seg) (q : Bool) :
    WArg.text first (.tmpl t q) = '"' :: (tmplBody t ++ ['"']) ∨
    (WArg.text first (.tmpl t q) = tmplBody t ∧ bodyNeedsQuotes first (tmplBody t) = false) := by
  simp only [WArg.text]
  split
  · exact .inl rfl
  · rename_i hc
    exact .inr ⟨rfl, (by simpa using hc : _ ∧ _).2⟩


theorem parseNextValue_warg (first : Bool) (a : WArg) (tail : Str) (h : a.OK) (ht : SpTail tail) :
    parseNextValue (argFlags false) (a.text first ++ tail) = .ok (tail, some a.written) := by
  cases a with
  | spread n => exact parseNextValue_spread n tail h ht
  | tmpl t q =>
    rcases wargText_tmpl first t q with e | ⟨e, hn⟩ <;> rw [e]
    · simpa [WArg.written] using parseNextValue_quoted_body t tail h
    · exact parseNextValue_unquoted_body first t tail h hn ht

/-- first character of a written argument -/
theorem warg_text_head (a : WArg) :
    ∃ c r, a.text true = c :: r ∧ c ≠ ' ' ∧ c ≠ '=' := by
  cases a with
  | spread n => exact ⟨'%', _, rfl, by decide, by decide⟩
  | tmpl t q =>
    rcases wargText_tmpl true t q with e | ⟨e, hn⟩ <;> rw [e]
    · exact ⟨'"', _, rfl, by decide, by decide⟩
    · obtain ⟨hne, hall, hf⟩ := bodyNeedsQuotes_false hn
      cases hb : tmplBody t with
      | nil => exact absurd hb hne
      | cons c r =>
        rw [hb] at hall hf
        refine ⟨c, r, rfl, (isWs_false_ne (hall c (by simp)).1).1, ?_⟩
        simpa using hf rfl

theorem warg_text_ne_nil (first : Bool) (a : WArg) : a.text first ≠ [] := by
  cases a with
  | spread n => simp [WArg.text, renderSpread]
  | tmpl t q =>
    rcases wargText_tmpl first t q with e | ⟨e, hn⟩ <;> rw [e]
    · simp
    · exact (bodyNeedsQuotes_false hn).1

theorem noTrail_warg (first : Bool) (a : WArg) : NoTrail (a.text first) := by
  cases a with
  | spread n =>
    have : WArg.text first (.spread n) = ('%' :: '{' :: n) ++ ['}'] := by
      simp [WArg.text, renderSpread]
    rw [this]
    exact NoTrail.append_singleton _ _ (by decide)
  | tmpl t q =>
    rcases wargText_tmpl first t q with e | ⟨e, hn⟩ <;> rw [e]
    · exact NoTrail.append_singleton ('"' :: tmplBody t) _ (by decide)
    · exact NoTrail.of_all_nonws _ (fun c hc => ((bodyNeedsQuotes_false hn).2.1 c hc).1)

/-! ### the argument part of the line -/

theorem capLine_go_nil (first : Bool) : capLine.go first [] = [] := rfl

theorem capLine_go_cons (first : Bool) (a : WArg) (rest : List WArg) :
    capLine.go first (a :: rest) = ' ' :: (a.text first ++ capLine.go false rest) := rfl

theorem capLine_go_spTail (first : Bool) (args : List WArg) : SpTail (capLine.go first args) := by
  cases args with
  | nil => exact Or.inl rfl
  | cons a rest => exact Or.inr ⟨_, rfl⟩

theorem parseArgsLoop_capLine (args : List WArg) (h : ∀ a ∈ args, a.OK) :
    ∀ first, parseArgsLoop false (capLine.go first args) = .ok (args.map WArg.written) := by
  induction args with
  | nil =>
    intro first
    exact parseArgsLoop_none false _ [] (parseNextValue_eol _ EolTail.nil)
  | cons a rest ih =>
    intro first
    rw [capLine_go_cons, List.map_cons]
    refine parseArgsLoop_step false _ (capLine.go false rest) a.written _ ?_ ?_
      (ih (fun x hx => h x (by simp [hx])) false)
    · have := parseNextValue_spaces (argFlags false) 1 (a.text first ++ capLine.go false rest)
      rw [spaces_succ, spaces_zero] at this
      rw [List.cons_append, List.nil_append] at this
      rw [this]
      exact parseNextValue_warg first a _ (h a (by simp)) (capLine_go_spTail false rest)
    · simp only [List.length_cons, List.length_append]
      omega

theorem parseArguments_capLine (args : List WArg) (h : ∀ a ∈ args, a.OK) :
    parseArguments (capLine.go true args) =
      .ok (if args.isEmpty then none else some (args.map WArg.written)) := by
  apply parseArguments_of_loop
  · cases args <;> simp
  · rw [parseArgsLoop_capLine args h true]
    cases args <;> simp

theorem noEqAhead_capLine_go (args : List WArg) : NoEqAhead (capLine.go true args) := by
  cases args with
  | nil => exact noEqAhead_nil
  | cons a rest =>
    obtain ⟨c, r, hc, h1, h2⟩ := warg_text_head a
    rw [capLine_go_cons, hc, List.cons_append]
    exact noEqAhead_space (noEqAhead_cons c _ h1 h2)

theorem noTrail_capLine_go (args : List WArg) : ∀ first, NoTrail (capLine.go first args) := by
  induction args with
  | nil => intro first; exact NoTrail.nil
  | cons a rest ih =>
    intro first
    have e : capLine.go first (a :: rest) = [' '] ++ (a.text first ++ capLine.go false rest) := rfl
    rw [e]
    refine NoTrail.append _ _ (NoTrail.append' _ _ (noTrail_warg first a) (ih false)) ?_
    have := warg_text_ne_nil first a
    simp [this]

/-! ### the command name -/

theorem cmdTextOK_nameOK {cmd : Str} (h : CmdTextOK cmd) : NameOK cmd := by
  obtain ⟨hne, hall, _, _⟩ := h
  refine ⟨hne, ?_, ?_⟩
  · intro c hc
    obtain ⟨a, b, _, d, _⟩ := hall c hc
    exact ⟨by simpa using a, b, d⟩
  · cases cmd with
    | nil => exact absurd rfl hne
    | cons c t =>
      have := (hall c (by simp)).2.2.1
      simpa using this

theorem cmdTextOK_noEq {cmd : Str} (h : CmdTextOK cmd) : NoEq cmd :=
  fun c hc => (h.2.1 c hc).2.2.2.2.1

theorem cmdTextOK_firstOK {cmd : Str} (h : CmdTextOK cmd) : FirstOK cmd := ⟨h.2.2.1, h.2.2.2⟩

/-! ### the whole line -/

theorem parseCommandLine_capLine (cmd : Str) (args : List WArg) (hc : CmdTextOK cmd)
    (h : ∀ a ∈ args, a.OK) :
    parseCommandLine (capLine cmd args) =
      .ok (.script { label := none, output := none, command := some cmd,
                     args := if args.isEmpty then none else some (args.map WArg.written) }) := by
  have hsp := capLine_go_spTail true args
  have hgen := parseCommandLine_cmd_gen none 0 none 0 0 cmd (capLine.go true args)
    (by intro l hl; cases hl) (by intro o ho; cases ho)
    ⟨(cmdTextOK_nameOK hc), fun _ => ⟨(cmdTextOK_noEq hc), fun _ => (cmdTextOK_firstOK hc)⟩⟩ hsp.bnd
    (by rw [hsp.afterTok]; exact noEqAhead_capLine_go args)
  simp only [lblPart, outPart, List.nil_append] at hgen
  rw [hsp.afterTok, parseArguments_capLine args h] at hgen
  exact hgen

theorem trim_capLine (cmd : Str) (args : List WArg) (hc : CmdTextOK cmd) :
    trim (capLine cmd args) = capLine cmd args := by
  obtain ⟨x, r, rfl, hws, _⟩ := nameOK_head (cmdTextOK_nameOK hc)
  have hnt : NoTrail (capLine (x :: r) args) := by
    unfold capLine
    exact NoTrail.append' _ _ (noTrail_name (cmdTextOK_nameOK hc)) (noTrail_capLine_go args true)
  unfold trim
  have e : capLine (x :: r) args = x :: (r ++ capLine.go true args) := rfl
  rw [e, trimStart_cons_nonws x _ hws, ← e]
  exact hnt

theorem parseLine_capLine (cmd : Str) (args : List WArg) (hc : CmdTextOK cmd)
    (h : ∀ a ∈ args, a.OK) :
    parseLine (capLine cmd args) =
      .ok (.script { label := none, output := none, command := some cmd,
                     args := if args.isEmpty then none else some (args.map WArg.written) }) := by
  obtain ⟨x, r, hx, _, hh, _⟩ := nameOK_head (cmdTextOK_nameOK hc)
  have hbang : x ≠ '!' := by
    have := (cmdTextOK_firstOK hc).2
    rw [hx] at this
    simpa using this
  have e : capLine cmd args = x :: (r ++ capLine.go true args) := by
    unfold capLine; rw [hx]; rfl
  rw [parseLine_of_trim_cmd (capLine cmd args) x (r ++ capLine.go true args)
    (by rw [trim_capLine cmd args hc, e]) hh hbang, ← e]
  exact parseCommandLine_capLine cmd args hc h

/-! ### binding the written arguments -/

theorem bind_nil (vars : Vars) : bind vars (some []) = [] := rfl

theorem bind_cons (vars : Vars) (a : Str) (as : List Str) :
    bind vars (some (a :: as)) = bind vars (some [a]) ++ bind vars (some as) := by
  simp [bind]

theorem bind_written_tmpl (vars : Vars) (t : List Seg) (h : ∀ s ∈ t, s.TextOK) :
    bind vars (some [renderTemplate t]) = [tmplValue vars t] := by
  have := bind_templates vars [t] (by
    intro t' ht' s hs
    simp at ht'; subst ht'
    exact segTextOK_ok (h s hs))
  simpa using this

theorem bind_written (vars : Vars) (a : WArg) (h : a.OK)
    (hs : ∀ n, a = .spread n → SpreadPlain ((vars.get n).getD [])) :
    bind vars (some [a.written]) = a.expected vars := by
  cases a with
  | tmpl t q => exact bind_written_tmpl vars t h
  | spread n =>
    refine bind_spread vars n h.1.1 ?_
    intro v hv
    have := hs n rfl
    rw [hv] at this
    exact this

theorem bind_written_args (vars : Vars) (args : List WArg) (h : ∀ a ∈ args, a.OK)
    (hs : ∀ a ∈ args, ∀ n, a = .spread n → SpreadPlain ((vars.get n).getD [])) :
    bind vars (some (args.map WArg.written)) = args.flatMap (WArg.expected vars) := by
  induction args with
  | nil => rfl
  | cons a rest ih =>
    rw [List.map_cons, bind_cons, List.flatMap_cons,
      bind_written vars a (h a (by simp)) (hs a (by simp)),
      ih (fun x hx => h x (by simp [hx])) (fun x hx => hs x (by simp [hx]))]

theorem bind_written_opt (vars : Vars) (args : List WArg) (h : ∀ a ∈ args, a.OK)
    (hs : ∀ a ∈ args, ∀ n, a = .spread n → SpreadPlain ((vars.get n).getD [])) :
    bind vars (if args.isEmpty then none else some (args.map WArg.written)) =
      args.flatMap (WArg.expected vars) := by
  cases args with
  | nil => rfl
  | cons a rest => exact bind_written_args vars (a :: rest) h hs

end Duck
