/-
  The script-command wrapper `aliasRun` (Sdk/AliasCmd.lean): the variable map under `publish` and
  `clear`, `aliasRun` on its two paths, and for C19 the frame of a call (`SemFrame`, `NK`) and the
  table-wide check of the script texts (`scriptOK`).
-/
import DuckModel.Sdk.AliasCmd
import DuckModel.Generated.Scripts
import DuckModel.Lemmas.VarsLemmas

namespace Duck.Alias
open Duck

/-! ### lookups in the association list -/

theorem get_filter (m : Vars) (p : Str → Bool) (x : Str) :
    Vars.get (m.filter fun q => p q.1) x = if p x = true then Vars.get m x else none :=
  VarScope.get_filter m p x

theorem get_erase (m : Vars) (k x : Str) :
    Vars.get (Vars.erase m k) x = if x = k then none else Vars.get m x :=
  VarScope.get_erase m k x

theorem get_set (m : Vars) (k v x : Str) :
    Vars.get (Vars.set m k v) x = if x = k then some v else Vars.get m x :=
  VarScope.get_set m k v x

theorem get_clear (scope : Str) (m : Vars) (x : Str) :
    Vars.get (clear scope m) x = if underPrefix scope x = true then none else Vars.get m x := by
  have h := get_filter m (fun y => !underPrefix scope y) x
  have e : clear scope m = m.filter (fun q => (fun y => !underPrefix scope y) q.1) := rfl
  rw [e, h]
  cases underPrefix scope x <;> simp

/-! ### keys under the scope prefix -/

theorem underPrefix_append (scope rest : Str) :
    underPrefix scope (scope ++ rest) = sep.isPrefixOf rest := by
  unfold underPrefix scopePrefix
  rw [Bool.eq_iff_iff]
  simp only [List.isPrefixOf_iff_prefix]
  exact List.prefix_append_right_inj scope

theorem underPrefix_argKey (scope : Str) (i : Nat) : underPrefix scope (argKey scope i) = true := by
  unfold argKey
  rw [underPrefix_append]
  simp [sep, List.isPrefixOf]

theorem underPrefix_argsKey (scope : Str) : underPrefix scope (argsKey scope) = true := by
  unfold argsKey
  rw [underPrefix_append]
  simp [sep, List.isPrefixOf]

theorem get_publishArgs (scope : Str) (args : List Str) (i : Nat) (m : Vars) (x : Str)
    (hx : underPrefix scope x = false) :
    Vars.get (publishArgs scope i args m) x = Vars.get m x := by
  induction args generalizing i m with
  | nil => rfl
  | cons a rest ih =>
    simp only [publishArgs]
    rw [ih]
    rw [get_set]
    have : x ≠ argKey scope (i + 1) := by
      intro h; rw [h, underPrefix_argKey] at hx; cases hx
    simp [this]

/-- publication writes only keys under the prefix -/
theorem get_publish {σ : Type} (H : HandleOps σ) (scope : Str) (args : List Str) (m : Vars) (st : σ)
    (x : Str) (hx : underPrefix scope x = false) :
    Vars.get (publish H scope args m st).2.1 x = Vars.get m x := by
  unfold publish
  by_cases he : args.isEmpty = true
  · simp [he]
  · simp only [he]
    have : x ≠ argsKey scope := by
      intro h; rw [h, underPrefix_argsKey] at hx; cases hx
    simp only [Bool.false_eq_true, if_false]
    rw [get_set]
    simp [this, get_publishArgs scope args 0 m x hx]

/-! ### unique keys and the variable count -/

def keys (m : Vars) : List Str := m.map Prod.fst

/-- representation invariant of a `HashMap`: no key twice -/
def NK (m : Vars) : Prop := (keys m).Nodup

theorem mem_keys (m : Vars) (x : Str) : x ∈ keys m ↔ Vars.get m x ≠ none := by
  induction m with
  | nil => simp [keys, Vars.get]
  | cons q rest ih =>
    obtain ⟨k, v⟩ := q
    by_cases hx : k = x
    · subst hx; simp [keys, Vars.get]
    · have hx' : ¬ x = k := fun h => hx h.symm
      have ih' : x ∈ List.map Prod.fst rest ↔ Vars.get rest x ≠ none := ih
      simp only [keys, List.map_cons, List.mem_cons, Vars.get, hx, if_false, hx', false_or]
      exact ih'

theorem nk_nil : NK [] := List.nodup_nil

theorem nk_filter {m : Vars} (h : NK m) (f : Str × Str → Bool) : NK (m.filter f) :=
  List.Nodup.sublist ((List.filter_sublist (l := m)).map Prod.fst) h

theorem nk_erase {m : Vars} (h : NK m) (k : Str) : NK (Vars.erase m k) := nk_filter h _

theorem nk_clear {m : Vars} (h : NK m) (scope : Str) : NK (clear scope m) := nk_filter h _

theorem nk_set {m : Vars} (h : NK m) (k v : Str) : NK (Vars.set m k v) := by
  have h1 : NK (Vars.erase m k) := nk_erase h k
  have h2 : k ∉ keys (Vars.erase m k) := by
    rw [mem_keys, get_erase]; simp
  exact List.nodup_cons.mpr ⟨h2, h1⟩

theorem nk_updateOutput {m : Vars} (h : NK m) (out : Option Str) (v : Option Str) :
    NK (Vars.updateOutput m out v) := by
  cases out with
  | none => exact h
  | some o => cases v with
    | some w => exact nk_set h o w
    | none => exact nk_erase h o

theorem length_eq_keys (m : Vars) : m.length = (keys m).length := by simp [keys]

/-- every key of `a` is a key of `b` ⇒ `a` is not longer -/
theorem length_le_of_keys {a b : Vars} (ha : NK a)
    (h : ∀ x, Vars.get a x ≠ none → Vars.get b x ≠ none) : a.length ≤ b.length := by
  rw [length_eq_keys a, length_eq_keys b]
  apply List.Nodup.length_le_of_subset ha
  intro x hx
  rw [mem_keys] at hx ⊢
  exact h x hx

/-- … and if `b` has one more key, `a` is strictly shorter -/
theorem length_lt_of_keys {a b : Vars} (ha : NK a) (k : Str)
    (h : ∀ x, Vars.get a x ≠ none → Vars.get b x ≠ none)
    (hk : Vars.get a k = none) (hk' : Vars.get b k ≠ none) : a.length < b.length := by
  have hnk : (k :: keys a).Nodup := by
    refine List.nodup_cons.mpr ⟨?_, ha⟩
    rw [mem_keys]; simp [hk]
  have hle : (k :: keys a).length ≤ (keys b).length := by
    apply List.Nodup.length_le_of_subset hnk
    intro x hx
    rw [List.mem_cons] at hx
    rcases hx with rfl | hx
    · rw [mem_keys]; exact hk'
    · rw [mem_keys] at hx ⊢; exact h x hx
  rw [length_eq_keys a, length_eq_keys b]
  have : (k :: keys a).length = (keys a).length + 1 := rfl
  omega

theorem length_eq_of_get_eq {a b : Vars} (ha : NK a) (hb : NK b)
    (h : ∀ x, Vars.get a x = Vars.get b x) : a.length = b.length := by
  apply Nat.le_antisymm
  · exact length_le_of_keys ha (fun x hx => by rw [← h x]; exact hx)
  · exact length_le_of_keys hb (fun x hx => by rw [h x]; exact hx)

theorem nk_publishArgs (scope : Str) (args : List Str) (i : Nat) {m : Vars} (h : NK m) :
    NK (publishArgs scope i args m) := by
  induction args generalizing i m with
  | nil => exact h
  | cons a rest ih => exact ih (i + 1) (nk_set h _ _)

theorem nk_publish {σ : Type} (H : HandleOps σ) (scope : Str) (args : List Str) {m : Vars} (st : σ)
    (h : NK m) : NK (publish H scope args m st).2.1 := by
  unfold publish
  by_cases he : args.isEmpty = true
  · simp [he, h]
  · simp only [he, Bool.false_eq_true, if_false]
    exact nk_set (nk_publishArgs scope args 0 h) _ _

/-! ### a body that is a parsed script over a command semantics -/

/-- every registered command writes variables only under the prefix (for the native callees of the
    scripts this is the TRUSTED part of C19; `for`/`end` write the loop variable, which the
    per-script facts show to be under the prefix) -/
def SemFrame {σ : Type} (scope : Str) (sem : CmdSem σ) : Prop :=
  ∀ name args out line vars s r vars' s', sem name args out line vars s = some (r, vars', s') →
    ∀ k, underPrefix scope k = false → Vars.get vars' k = Vars.get vars k

/-- every output variable written in the script is under the prefix -/
def OutputsUnder (scope : Str) (is : List Instruction) : Prop :=
  ∀ i ∈ is, ∀ si, i.ty = .script si → ∀ o, si.output = some o → underPrefix scope o = true

theorem runInstruction_frame {σ : Type} {scope : Str} {sem : CmdSem σ} (hsem : SemFrame scope sem)
    (vars : Vars) (s : σ) (instr : Instruction) (line : Nat) (k : Str)
    (hk : underPrefix scope k = false) :
    Vars.get (runInstruction sem vars s instr line).2.2.1 k = Vars.get vars k := by
  unfold runInstruction
  cases hty : instr.ty with
  | empty => rfl
  | preProcess c a => rfl
  | script si =>
    simp only
    cases hc : si.command with
    | none => rfl
    | some c =>
      simp only
      cases hs : sem c (bind vars si.args) si.output line vars s with
      | none => rfl
      | some res =>
        obtain ⟨r, vars', s'⟩ := res
        exact hsem _ _ _ _ _ _ _ _ _ hs k hk

theorem get_updateOutput_frame (scope : Str) (m : Vars) (out : Option Str) (v : Option Str) (k : Str)
    (hout : ∀ o, out = some o → underPrefix scope o = true) (hk : underPrefix scope k = false) :
    Vars.get (Vars.updateOutput m out v) k = Vars.get m k := by
  cases out with
  | none => rfl
  | some o =>
    have hne : k ≠ o := by
      intro h; rw [h, hout o rfl] at hk; cases hk
    cases v with
    | some w => simp [Vars.updateOutput, get_set, hne]
    | none => simp [Vars.updateOutput, get_erase, hne]

theorem evalInstructions_frame {σ : Type} {scope : Str} {sem : CmdSem σ} {is : List Instruction}
    (halt : Nat → Bool) (hsem : SemFrame scope sem) (hout : OutputsUnder scope is) :
    ∀ (fuel line poll : Nat) (fo : Option Str) (vars : Vars) (s : σ) (res : BodyResult × Vars × σ),
      evalInstructions sem halt is fuel line poll fo vars s = some res →
      ∀ k, underPrefix scope k = false → Vars.get res.2.1 k = Vars.get vars k := by
  intro fuel
  induction fuel with
  | zero => intro line poll fo vars s res h; simp [evalInstructions] at h
  | succ fuel ih =>
    intro line poll fo vars s res h k hk
    unfold evalInstructions at h
    cases hh : halt poll with
    | true => rw [hh] at h; simp only [if_true, Option.some.injEq] at h; subst h; rfl
    | false =>
    rw [hh] at h
    simp only [Bool.false_eq_true, if_false] at h
    cases hl : is[line]? with
    | none => rw [hl] at h; simp only [Option.some.injEq] at h; subst h; rfl
    | some instr =>
      rw [hl] at h
      simp only at h
      have hmem : instr ∈ is := List.mem_of_getElem? hl
      have hrun := runInstruction_frame hsem vars s instr line k hk
      cases hty : instr.ty with
      | empty => rw [hty] at h; exact ih _ _ _ _ _ _ h k hk
      | preProcess c a => rw [hty] at h; exact ih _ _ _ _ _ _ h k hk
      | script si =>
        rw [hty] at h
        simp only at h
        cases hr : (runInstruction sem vars s instr line).1 with
        | exit v => rw [hr] at h; simp only [Option.some.injEq] at h; subst h; exact hrun
        | error m => rw [hr] at h; simp only [Option.some.injEq] at h; subst h; exact hrun
        | crash m => rw [hr] at h; simp only [Option.some.injEq] at h; subst h; exact hrun
        | goTo v g =>
          rw [hr] at h
          cases g with
          | label l => simp only [Option.some.injEq] at h; subst h; exact hrun
          | line n => simp only at h; rw [ih _ _ _ _ _ _ h k hk]; exact hrun
        | «continue» v =>
          rw [hr] at h
          simp only at h
          rw [ih _ _ _ _ _ _ h k hk,
            get_updateOutput_frame scope _ _ _ k (fun o ho => hout instr hmem si hty o ho) hk]
          exact hrun

/-! ### the concrete handle table is lawful -/

theorem le_maxLen (l : List (Str × List Str)) (p : Str × List Str) (hp : p ∈ l) :
    p.1.length ≤ maxLen l := by
  induction l with
  | nil => cases hp
  | cons q rest ih =>
    obtain ⟨k, v⟩ := q
    rw [List.mem_cons] at hp
    rcases hp with rfl | hp
    · simp only [maxLen]; omega
    · have := ih hp; simp only [maxLen]; omega

theorem freshName_not_live (l : List (Str × List Str)) :
    (l.any fun p => p.1 == freshName l) = false := by
  rw [Bool.eq_false_iff]
  intro h
  rw [List.any_eq_true] at h
  obtain ⟨p, hp, he⟩ := h
  have hlen := le_maxLen l p hp
  have : p.1 = freshName l := by simpa using he
  rw [this] at hlen
  simp [freshName] at hlen
  omega

theorem storeOps_lawful : storeOps.Lawful where
  live_put s v k := by
    simp only [storeOps, List.any_cons]
    rw [Bool.or_comm]
    have : (freshName s.handles == k) = (k == freshName s.handles) := by
      rw [Bool.eq_iff_iff]; simp only [beq_iff_eq]; exact eq_comm
    rw [this]
  fresh_put s v := freshName_not_live s.handles
  live_remove s h k := by
    simp only [storeOps]
    rw [Bool.eq_iff_iff]
    simp only [List.any_eq_true, List.mem_filter, Bool.and_eq_true, bne_iff_ne, ne_eq, beq_iff_eq]
    constructor
    · rintro ⟨p, ⟨hp, hne⟩, he⟩
      exact ⟨⟨p, hp, he⟩, by rw [← he]; exact hne⟩
    · rintro ⟨⟨p, hp, he⟩, hne⟩
      exact ⟨p, ⟨hp, by rw [he]; exact hne⟩, he⟩
  live_setCtx s c k := rfl
  ctx_setCtx s c := rfl
  ctx_remove s h := rfl

variable {σ : Type}

/-! ### `aliasRun` on its two paths -/

theorem aliasRun_few (H : HandleOps σ) (amount : Nat) (body : Vars → σ → BodyResult × Vars × σ)
    (scope : Str) (args : List Str) (vars : Vars) (st : σ) (h : args.length < amount) :
    aliasRun H amount body scope args vars st = (.error invalidArgsMsg, vars, st) := by
  simp [aliasRun, h]

theorem aliasRun_run (H : HandleOps σ) (amount : Nat) (body : Vars → σ → BodyResult × Vars × σ)
    (scope : Str) (args : List Str) (vars : Vars) (st : σ) (h : ¬ args.length < amount) :
    aliasRun H amount body scope args vars st =
      (let p := publish H scope args vars (H.setCtx st scope)
       let b := body p.2.1 p.2.2
       let c := cleanup H scope (H.getCtx st) p.1 b.2.1 b.2.2
       (if vars.length < c.1.length then .crash (leakMsg (c.1.length - vars.length)) else resultOf b.1,
        c.1, c.2)) := by
  unfold aliasRun
  simp only [h, if_false]
  split <;> rfl

/-! ### option/bool plumbing -/

theorem bne_eq_not_some_beq (k h : Str) : (k != h) = !(some h == some k) := by
  by_cases e : k = h
  · subst e; simp
  · have h1 : (k == h) = false := by simpa using e
    have h2 : (h == k) = false := by simpa using fun x : h = k => e x.symm
    simp [bne, h1, h2]

theorem beq_eq_some_beq (k h : Str) : (k == h) = (some h == some k) := by
  by_cases e : k = h
  · subst e; simp
  · have h1 : (k == h) = false := by simpa using e
    have h2 : (h == k) = false := by simpa using fun x : h = k => e x.symm
    simp [h1, h2]

/-! ### the per-script checker over the regenerated table -/

/-- Callees without any effect on variables other than through their output variable (which the
    script names, see `C19_scripts_prefix_discipline`) or - `for`/`end` - the loop variable.
    Their purity is TRUSTED (exercised by the harness on the real commands), not proved:
    flow control and conditions; pure values; handle allocation / mutation / release; file
    system, network and console effects. -/
def noVariableEffect : List Str :=
  (["for", "end", "if", "elif", "else", "while", "not", "trigger_error",
    "set", "equals", "calc", "strlen", "substring", "contains", "starts_with", "replace", "lowercase",
    "is_empty", "is_defined", "is_array", "array_length", "map_size", "set_size", "map_get",
    "os_family", "os_name", "os_release", "os_version", "is_file", "dirname", "basename", "digest",
    "base64_encode", "base64_decode", "map_to_properties",
    "array", "set_new", "map_keys", "env_to_map", "glob_array",
    "array_push", "array_pop", "set_put", "release",
    "echo", "cp", "chmod", "http_client"] : List String).map String.toList

/-- the documented exceptions: `unset` exists to remove the CALLER's variables whose names it is
    given, and does so through `set_by_name` -/
def documentedEffect (s : Generated.ScriptCmd) (callee : Str) : Bool :=
  s.scopeName == "scope::unset".toList && callee == "set_by_name".toList

/-- another script command of the table (covered by the same facts) -/
def isScriptCommand (callee : Str) : Bool :=
  Generated.scripts.any fun s => s.name == callee || s.aliases.contains callee

def calleeOK (s : Generated.ScriptCmd) (callee : Str) : Bool :=
  noVariableEffect.contains callee || isScriptCommand callee || documentedEffect s callee

/-- all three facts for one entry -/
def scriptOK (s : Generated.ScriptCmd) : Bool :=
  match parseText s.script with
  | .ok is => (writtenVars is).all (underPrefix s.scopeName) && (callees is).all (calleeOK s)
  | .error _ => false

theorem scripts_all_ok : Generated.scripts.all scriptOK = true := by decide +kernel

theorem scriptOK_of_mem {s : Generated.ScriptCmd} (hs : s ∈ Generated.scripts) : scriptOK s = true :=
  List.all_eq_true.mp scripts_all_ok s hs

end Duck.Alias
