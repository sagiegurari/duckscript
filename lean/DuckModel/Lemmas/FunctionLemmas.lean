/-
  Helper lemmas about the function-call commands of `Sdk/Flow.lean` (used by Props/C05Core.lean and the simulation):
  injectivity of the decimal parameter names, lookups in the parameter bindings, and the two
  shapes of `scopePop` that `end_fn` (copy list empty) and `return` (copy list = the output
  variable) use.
-/
import DuckModel.Sdk.Flow
import DuckModel.Spec.Tree
import DuckModel.Lemmas.VarsLemmas
import Std.Data.String.ToNat

namespace Duck.Fn
open Duck

/-! ### parameter names -/

theorem natToStr_inj {a b : Nat} (h : natToStr a = natToStr b) : a = b := by
  unfold natToStr at h
  have h3 : Nat.repr a = Nat.repr b := String.toList_inj.mp h
  exact Nat.repr_injective h3

/-- `k` is one of the parameter names "1" … "n" -/
def IsParam (n : Nat) (k : Str) : Prop := ∃ i, i < n ∧ k = natToStr (i + 1)

/-- the binding loop of `run_call` started at index `n` -/
def bindFrom (n : Nat) (m : Vars) (args : List Str) : Vars :=
  (args.zipIdx n).foldl (fun m (a, i) => m.set (natToStr (i + 1)) a) m

theorem bindParams_eq (m : Vars) (args : List Str) : Spec.bindParams m args = bindFrom 0 m args := rfl

theorem bindFrom_nil (n : Nat) (m : Vars) : bindFrom n m [] = m := rfl

theorem bindFrom_cons (n : Nat) (m : Vars) (a : Str) (as : List Str) :
    bindFrom n m (a :: as) = bindFrom (n + 1) (m.set (natToStr (n + 1)) a) as := rfl

theorem get_bindFrom_other (n : Nat) (m : Vars) (args : List Str) (k : Str)
    (h : ∀ i, i < args.length → k ≠ natToStr (n + i + 1)) :
    (bindFrom n m args).get k = m.get k := by
  induction args generalizing n m with
  | nil => rfl
  | cons a as ih =>
    rw [bindFrom_cons, ih]
    · rw [VarScope.get_set]
      have h0 := h 0 (by simp)
      simp only [Nat.add_zero] at h0
      simp [h0]
    · intro i hi
      have h1 := h (i + 1) (by simp only [List.length_cons]; omega)
      rwa [show n + (i + 1) + 1 = n + 1 + i + 1 by omega] at h1

theorem get_bindFrom_hit (n : Nat) (m : Vars) (args : List Str) (i : Nat) (h : i < args.length) :
    (bindFrom n m args).get (natToStr (n + i + 1)) = args[i]? := by
  induction args generalizing n m i with
  | nil => simp at h
  | cons a as ih =>
    rw [bindFrom_cons]
    cases i with
    | zero =>
      rw [get_bindFrom_other]
      · simp [VarScope.get_set]
      · intro j _ e
        have := natToStr_inj e
        omega
    | succ i =>
      have h' : i < as.length := by simpa using h
      have := ih (n + 1) (m.set (natToStr (n + 1)) a) i h'
      rw [show n + (i + 1) + 1 = n + 1 + i + 1 by omega]
      simpa using this

/-! ### `scopePush` / `scopePop` with the copy lists the function commands use -/

theorem scopePush_nil (vars : Vars) (s : Sdk) :
    scopePush vars s [] = ([], { s with scopeStack := vars :: s.scopeStack }) := rfl

theorem scopePop_empty (vars : Vars) (s : Sdk) (copy : List Str) (h : s.scopeStack = []) :
    scopePop vars s copy = none := by
  simp [scopePop, h]

theorem scopePop_nil (vars : Vars) (s : Sdk) (saved : Vars) (rest : List Vars)
    (h : s.scopeStack = saved :: rest) :
    scopePop vars s [] = some (saved, { s with scopeStack := rest }) := by
  simp [scopePop, h]

theorem scopePop_one (vars : Vars) (s : Sdk) (saved : Vars) (rest : List Vars) (n : Str)
    (h : s.scopeStack = saved :: rest) :
    scopePop vars s [n] =
      some ((match vars.get n with | some v => saved.set n v | none => saved),
            { s with scopeStack := rest }) := by
  unfold scopePop
  simp only [h, List.head?_cons, List.tail_cons, List.foldl_cons, List.foldl_nil]
  cases vars.get n <;> simp [Vars.set, Vars.erase]

end Duck.Fn
