/-
  Helper lemmas for C12: the handle table, the three take-out/put-back helpers, and the
  abstraction from the implementation model to the reference model.
-/
import DuckModel.Sdk.Collections
import DuckModel.Spec.Store
import Std.Data.String.ToNat

namespace Duck.Coll
open Duck
open Duck.Spec.Store (Coll Out Store upd)

/-! ## table -/

theorem tget_tremove (t : Table) (k h : Str) :
    tget (tremove t k) h = if h = k then none else tget t h := by
  induction t with
  | nil => simp [tremove, tget]
  | cons p r ih =>
    obtain ⟨a, v⟩ := p
    by_cases hak : a = k
    · subst hak
      simp only [tremove, if_true, ih, tget]
      by_cases hh : h = a
      · simp [hh]
      · have : ¬ a = h := fun e => hh e.symm
        simp [hh, this]
    · simp only [tremove, hak, if_false, tget, ih]
      by_cases hah : a = h
      · subst hah; simp [hak]
      · simp [hah]

theorem tget_tinsert (t : Table) (k h : Str) (v : Value) :
    tget (tinsert t k v) h = if h = k then some v else tget t h := by
  unfold tinsert
  simp only [tget, tget_tremove]
  by_cases hh : h = k
  · subst hh; simp
  · have : ¬ k = h := fun e => hh e.symm
    simp [hh, this]

theorem tremove_length_le (t : Table) (k : Str) : (tremove t k).length ≤ t.length := by
  induction t with
  | nil => simp [tremove]
  | cons p r ih =>
    obtain ⟨a, v⟩ := p
    by_cases hak : a = k <;> simp [tremove, hak] <;> omega

theorem tremove_length_lt (t : Table) (k : Str) (v : Value) (h : tget t k = some v) :
    (tremove t k).length < t.length := by
  induction t with
  | nil => simp [tget] at h
  | cons p r ih =>
    obtain ⟨a, w⟩ := p
    by_cases hak : a = k
    · have := tremove_length_le r k
      simp [tremove, hak]; omega
    · simp [tget, hak] at h
      have := ih h
      simp [tremove, hak]; omega

theorem LookupEq.rfl' (t : Table) : LookupEq t t := fun _ => rfl
theorem LookupEq.symm {t t' : Table} (h : LookupEq t t') : LookupEq t' t := fun k => (h k).symm
theorem LookupEq.trans {a b c : Table} (h : LookupEq a b) (g : LookupEq b c) : LookupEq a c :=
  fun k => (h k).trans (g k)

/-- taking a value out and putting the same value back is invisible to every lookup -/
theorem lookupEq_reinsert (t : Table) (k : Str) (v : Value) (h : tget t k = some v) :
    LookupEq (tinsert (tremove t k) k v) t := by
  intro x
  rw [tget_tinsert, tget_tremove]
  by_cases hx : x = k
  · subst hx; simp [h]
  · simp [hx]

/-- removing an absent key is invisible to every lookup -/
theorem lookupEq_remove_absent (t : Table) (k : Str) (h : tget t k = none) :
    LookupEq (tremove t k) t := by
  intro x
  rw [tget_tremove]
  by_cases hx : x = k
  · subst hx; simp [h]
  · simp [hx]

/-- lookups after replacing the value under a key -/
theorem tget_replace (t : Table) (k x : Str) (v : Value) :
    tget (tinsert (tremove t k) k v) x = if x = k then some v else tget t x := by
  rw [tget_tinsert, tget_tremove]
  by_cases hx : x = k <;> simp [hx]

/-! ## the three helpers, characterised -/

theorem mutateList_list (t : Table) (k : Str) (f) (l : List Item) (h : tget t k = some (.list l)) :
    mutateList t k f = (tinsert (tremove t k) k (.list (f l).1), (f l).2) := by
  simp [mutateList, h]

theorem mutateMap_map (t : Table) (k : Str) (f) (m : List (Str × Item)) (h : tget t k = some (.map m)) :
    mutateMap t k f = (tinsert (tremove t k) k (.map (f m).1), (f m).2) := by
  simp [mutateMap, h]

theorem mutateSet_set (t : Table) (k : Str) (f) (s : List Str) (h : tget t k = some (.set s)) :
    mutateSet t k f = (tinsert (tremove t k) k (.set (f s).1), (f s).2) := by
  simp [mutateSet, h]

def Value.isList : Value → Bool | .list _ => true | _ => false
def Value.isMap : Value → Bool | .map _ => true | _ => false
def Value.isSet : Value → Bool | .set _ => true | _ => false

/-- the remove-then-reinsert identity: `mutate_list` on a key that holds no list (any of the
    other 12 kinds, or nothing) reports an error and leaves every lookup as it was -/
theorem mutateList_wrong (t : Table) (k : Str) (f)
    (h : ∀ v, tget t k = some v → v.isList = false) :
    (mutateList t k f).2 = .err ∧ LookupEq (mutateList t k f).1 t := by
  cases hv : tget t k with
  | none => simp [mutateList, hv]; exact lookupEq_remove_absent t k hv
  | some v =>
    cases v with
    | list l => have := h _ hv; simp [Value.isList] at this
    | _ => simp [mutateList, hv]; exact lookupEq_reinsert t k _ hv

theorem mutateMap_wrong (t : Table) (k : Str) (f)
    (h : ∀ v, tget t k = some v → v.isMap = false) :
    (mutateMap t k f).2 = .err ∧ LookupEq (mutateMap t k f).1 t := by
  cases hv : tget t k with
  | none => simp [mutateMap, hv]; exact lookupEq_remove_absent t k hv
  | some v =>
    cases v with
    | map m => have := h _ hv; simp [Value.isMap] at this
    | _ => simp [mutateMap, hv]; exact lookupEq_reinsert t k _ hv

theorem mutateSet_wrong (t : Table) (k : Str) (f)
    (h : ∀ v, tget t k = some v → v.isSet = false) :
    (mutateSet t k f).2 = .err ∧ LookupEq (mutateSet t k f).1 t := by
  cases hv : tget t k with
  | none => simp [mutateSet, hv]; exact lookupEq_remove_absent t k hv
  | some v =>
    cases v with
    | set s => have := h _ hv; simp [Value.isSet] at this
    | _ => simp [mutateSet, hv]; exact lookupEq_reinsert t k _ hv

/-- a handler that gives the list back unchanged leaves every lookup as it was -/
theorem mutateList_same (t : Table) (k : Str) (f) (hf : ∀ l, (f l).1 = l) :
    LookupEq (mutateList t k f).1 t := by
  cases hv : tget t k with
  | none => simp [mutateList, hv]; exact lookupEq_remove_absent t k hv
  | some v =>
    cases v with
    | list l => rw [mutateList_list t k f l hv, hf]; exact lookupEq_reinsert t k _ hv
    | _ => simp [mutateList, hv]; exact lookupEq_reinsert t k _ hv

/-! ## agreement of the auxiliary functions of model and reference model -/

theorem sTrue_eq : sTrue = Spec.Store.yes := rfl
theorem sFalse_eq : sFalse = Spec.Store.no := rfl
theorem boolStr_eq (b : Bool) : boolStr b = Spec.Store.bool b := by cases b <;> rfl
theorem natStr_eq (n : Nat) : natStr n = Spec.Store.nat n := rfl
theorem isRecFlag_eq (a : Str) : isRecFlag a = Spec.Store.recFlag a := rfl

theorem handleName_eq (k : Nat) : handleName k = Spec.Store.handleName k := rfl

theorem handleName_inj {a b : Nat} (h : handleName a = handleName b) : a = b := by
  unfold handleName at h
  have h2 := List.append_cancel_left h
  have h3 : Nat.repr a = Nat.repr b := String.toList_inj.mp h2
  exact Nat.repr_injective h3

theorem parseDigits_eq (s : List Char) (acc : Nat) : parseDigits s acc = Spec.Store.digits s acc := by
  induction s generalizing acc with
  | nil => rfl
  | cons c r ih =>
    have e : digitVal c = Spec.Store.digit c := rfl
    simp only [parseDigits, Spec.Store.digits, e]
    cases Spec.Store.digit c <;> simp [ih]

theorem parseUsize_eq (s : Str) : parseUsize s = Spec.Store.index s := by
  unfold parseUsize Spec.Store.index
  simp only [parseDigits_eq]
  rfl

theorem parseI64_eq (s : Str) : parseI64 s = Spec.Store.int64 s := by
  unfold parseI64 Spec.Store.int64
  simp only [parseDigits_eq]
  rfl

theorem strLe_eq (a b : Str) : strLe a b = Spec.Store.le a b := by
  induction a generalizing b with
  | nil => cases b <;> rfl
  | cons x r ih =>
    cases b with
    | nil => rfl
    | cons y q => simp [strLe, Spec.Store.le, ih]

theorem insertSorted_eq (x : Str) (l : List Str) : insertSorted x l = Spec.Store.ins x l := by
  induction l with
  | nil => rfl
  | cons y r ih => simp [insertSorted, Spec.Store.ins, strLe_eq, ih]

theorem sortStr_eq (l : List Str) : sortStr l = Spec.Store.ascending l := by
  induction l with
  | nil => rfl
  | cons y r ih => simp [sortStr, Spec.Store.ascending, insertSorted_eq, ih]

theorem sinsert_eq (s : List Str) (x : Str) : sinsert s x = Spec.Store.add s x := rfl

theorem sinsertAll_eq (s xs : List Str) : sinsertAll s xs = Spec.Store.addAll s xs := by
  unfold sinsertAll Spec.Store.addAll
  induction xs generalizing s with
  | nil => rfl
  | cons y r ih => simp [List.foldl, sinsert_eq, ih]

theorem indexOfStr_eq (v : Str) (l : List Str) (i : Nat) :
    indexOfStr v l i = Spec.Store.firstIndex v l i := by
  induction l generalizing i with
  | nil => rfl
  | cons y r ih => simp [indexOfStr, Spec.Store.firstIndex, ih]

theorem joinStr_eq (sep : Str) (l : List Str) : joinStr sep l = Spec.Store.join sep l := by
  induction l with
  | nil => rfl
  | cons x r ih =>
    cases r with
    | nil => rfl
    | cons y q => simp [joinStr, Spec.Store.join, ih]

/-! ## abstraction -/

def absM (m : List (Str × Item)) : List (Str × Str) := m.map fun kv => (kv.1, kv.2.render)

/-- what the reference store sees of a table value: the ten non-collection kinds (`other`) are
    invisible to it — a handle of such a kind is, for the reference, not a live handle -/
def absV : Value → Option Coll
  | .list l => some (.vec (l.map Item.render))
  | .map m => some (.map (absM m))
  | .set s => some (.set s)
  | .other _ => none

def absR : Res → Out
  | .val o => .val o
  | .err => .err

theorem absM_length (m : List (Str × Item)) : (absM m).length = m.length := by simp [absM]
theorem absM_keys (m : List (Str × Item)) : (absM m).map Prod.fst = m.map Prod.fst := by
  simp [absM, Function.comp_def]
theorem absM_vals (m : List (Str × Item)) : (absM m).map Prod.snd = m.map fun kv => kv.2.render := by
  simp [absM, Function.comp_def]
theorem absM_isEmpty (m : List (Str × Item)) : (absM m).isEmpty = m.isEmpty := by
  cases m <;> simp [absM]

theorem absM_lookup (m : List (Str × Item)) (k : Str) :
    Spec.Store.lookup (absM m) k = (mget m k).map Item.render := by
  induction m with
  | nil => rfl
  | cons p r ih =>
    obtain ⟨a, v⟩ := p
    simp only [absM, List.map, Spec.Store.lookup, mget] at *
    split <;> simp_all

theorem absM_put (m : List (Str × Item)) (k v : Str) :
    absM (minsert m k (.str v)) = Spec.Store.put (absM m) k v := by
  induction m with
  | nil => rfl
  | cons p r ih =>
    obtain ⟨a, w⟩ := p
    simp only [absM, List.map, Spec.Store.put, minsert] at *
    split <;> simp_all [Item.render]

theorem absM_del (m : List (Str × Item)) (k : Str) :
    absM (mremove m k) = Spec.Store.del (absM m) k := by
  induction m with
  | nil => rfl
  | cons p r ih =>
    obtain ⟨a, w⟩ := p
    simp only [absM, List.map, Spec.Store.del, mremove] at *
    split <;> simp_all

/-- the refinement relation: same counter, every lookup abstracts to the store's answer,
    and every live key was handed out by the allocator -/
structure R (m : St) (s : Spec.Store.St) : Prop where
  next : m.next = s.next
  look : ∀ h, (tget m.tbl h).map absV = (s.store h).map some
  fresh : ∀ h, tget m.tbl h ≠ none → ∃ k, k < m.next ∧ h = handleName k

theorem R_empty : R {} Spec.Store.empty :=
  ⟨rfl, fun _ => rfl, fun h hh => by simp [tget] at hh⟩

/-- what `R` says about one handle -/
theorem R.cases {m : St} {s : Spec.Store.St} (hR : R m s) (h : Str) :
    (tget m.tbl h = none ∧ s.store h = none) ∨
    (∃ l, tget m.tbl h = some (.list l) ∧ s.store h = some (.vec (l.map Item.render))) ∨
    (∃ mm, tget m.tbl h = some (.map mm) ∧ s.store h = some (.map (absM mm))) ∨
    (∃ x, tget m.tbl h = some (.set x) ∧ s.store h = some (.set x)) := by
  have := hR.look h
  cases hv : tget m.tbl h with
  | none =>
    rw [hv] at this
    cases hs : s.store h with
    | none => exact Or.inl ⟨rfl, rfl⟩
    | some c => rw [hs] at this; simp at this
  | some v =>
    rw [hv] at this
    cases hs : s.store h with
    | none => rw [hs] at this; simp at this
    | some c =>
      rw [hs] at this
      simp only [Option.map_some, Option.some.injEq] at this
      cases v with
      | list l => simp [absV] at this; exact Or.inr (Or.inl ⟨l, rfl, by rw [this]⟩)
      | map mm => simp [absV] at this; exact Or.inr (Or.inr (Or.inl ⟨mm, rfl, by rw [this]⟩))
      | set x => simp [absV] at this; exact Or.inr (Or.inr (Or.inr ⟨x, rfl, by rw [this]⟩))
      | other g => simp [absV] at this

theorem R.of_lookupEq {m : St} {s : Spec.Store.St} (hR : R m s) {t : Table}
    (h : LookupEq t m.tbl) : R { m with tbl := t } s :=
  ⟨hR.next, fun k => by simp only [h k]; exact hR.look k, fun k hk => by
    simp only [h k] at hk; exact hR.fresh k hk⟩

theorem R.spec_ext {m : St} {s s' : Spec.Store.St} (hR : R m s)
    (h : ∀ k, s'.store k = s.store k) (hn : s'.next = s.next) : R m s' :=
  ⟨hR.next.trans hn.symm, fun k => by rw [h k]; exact hR.look k, hR.fresh⟩

/-- replacing the value under a live handle on both sides -/
theorem R.update {m : St} {s : Spec.Store.St} (hR : R m s) (h : Str) (v : Value) (c : Coll)
    (hl : tget m.tbl h ≠ none) (hv : absV v = some c) :
    R { m with tbl := tinsert (tremove m.tbl h) h v } { s with store := upd s.store h (some c) } := by
  refine ⟨hR.next, fun k => ?_, fun k hk => ?_⟩
  · simp only [tget_replace, upd]
    by_cases hk : k = h
    · simp [hk, hv]
    · simp [hk]; exact hR.look k
  · simp only [tget_replace] at hk
    by_cases hkh : k = h
    · subst hkh; exact hR.fresh k hl
    · simp [hkh] at hk; exact hR.fresh k hk

/-- releasing one handle on both sides -/
theorem R.remove {m : St} {s : Spec.Store.St} (hR : R m s) (h : Str) :
    R { m with tbl := tremove m.tbl h } { s with store := upd s.store h none } := by
  refine ⟨hR.next, fun k => ?_, fun k hk => ?_⟩
  · simp only [tget_tremove, upd]
    by_cases hk : k = h
    · simp [hk]
    · simp [hk]; exact hR.look k
  · simp only [tget_tremove] at hk
    by_cases hkh : k = h
    · simp [hkh] at hk
    · simp [hkh] at hk; exact hR.fresh k hk

/-- when every live key was handed out below the counter, the counter's next handle is not live -/
theorem next_free_of_fresh {t : Table} {n : Nat}
    (h : ∀ k, tget t k ≠ none → ∃ j, j < n ∧ k = handleName j) : tget t (handleName n) = none := by
  cases hv : tget t (handleName n) with
  | none => rfl
  | some v =>
    obtain ⟨k, hk, e⟩ := h _ (by rw [hv]; simp)
    have := handleName_inj e
    omega

theorem R.next_free {m : St} {s : Spec.Store.St} (hR : R m s) : tget m.tbl (handleName m.next) = none :=
  next_free_of_fresh hR.fresh

/-- allocation on both sides -/
theorem R.alloc {m : St} {s : Spec.Store.St} (hR : R m s) (v : Value) (c : Coll) (hv : absV v = some c) :
    R (putHandle m v).1 (Spec.Store.alloc s c).1 ∧
      absR (.val (some (putHandle m v).2)) = (Spec.Store.alloc s c).2 := by
  refine ⟨⟨?_, fun k => ?_, fun k hk => ?_⟩, ?_⟩
  · simp [putHandle, Spec.Store.alloc, hR.next]
  · simp only [putHandle, Spec.Store.alloc, tget_tinsert, upd, ← handleName_eq, ← hR.next]
    by_cases hk : k = handleName m.next
    · simp [hk, hv]
    · simp [hk]; exact hR.look k
  · simp only [putHandle, tget_tinsert] at hk
    by_cases hkh : k = handleName m.next
    · exact ⟨m.next, by simp [putHandle], hkh⟩
    · simp [hkh] at hk
      obtain ⟨j, hj, e⟩ := hR.fresh k hk
      exact ⟨j, by simp [putHandle]; omega, e⟩
  · simp [putHandle, Spec.Store.alloc, absR, ← handleName_eq, hR.next]

/-! ## inner map, recursive release -/

theorem mget_minsert (mm : List (Str × Item)) (k k' : Str) (v : Item) :
    mget (minsert mm k v) k' = if k' = k then some v else mget mm k' := by
  induction mm with
  | nil =>
    by_cases e : k' = k
    · subst e; simp [minsert, mget]
    · have : ¬ k = k' := fun x => e x.symm
      simp [minsert, mget, e, this]
  | cons p r ih =>
    obtain ⟨a, w⟩ := p
    by_cases e : a = k
    · subst e
      by_cases e2 : k' = a
      · subst e2; simp [minsert, mget]
      · have : ¬ a = k' := fun x => e2 x.symm
        simp [minsert, mget, e2, this]
    · simp only [minsert, e, if_false, mget, ih]
      by_cases e2 : a = k'
      · subst e2
        have : ¬ a = k := e
        simp [this]
      · simp [e2]


/-- every lookup answers as in `t` or is gone -/
def Thinned (t' t : Table) : Prop := ∀ h, tget t' h = tget t h ∨ tget t' h = none

theorem Thinned.trans {a b c : Table} (h1 : Thinned a b) (h2 : Thinned b c) : Thinned a c := by
  intro h
  rcases h1 h with e | e
  · exact (h2 h).imp e.trans e.trans
  · exact Or.inr e

theorem thinned_tremove (t : Table) (k : Str) : Thinned (tremove t k) t := by
  intro h
  rw [tget_tremove]
  by_cases e : h = k <;> simp [e]

theorem removeAll_ok (fuel : Nat)
    (ih : ∀ t k, t.length ≤ fuel →
      ∃ t' b, removeRec fuel t k = some (t', b) ∧ t'.length ≤ t.length ∧ Thinned t' t)
    (cs : List Str) (t : Table) (ht : t.length ≤ fuel) :
    ∃ t', removeAll (removeRec fuel) cs t = some t' ∧ t'.length ≤ t.length ∧ Thinned t' t := by
  induction cs generalizing t with
  | nil => exact ⟨t, rfl, Nat.le_refl _, fun _ => Or.inl rfl⟩
  | cons c r ihc =>
    obtain ⟨t1, b, e1, l1, g1⟩ := ih t c ht
    obtain ⟨t2, e2, l2, g2⟩ := ihc t1 (Nat.le_trans l1 ht)
    exact ⟨t2, by simp [removeAll, e1, e2], Nat.le_trans l2 l1, g2.trans g1⟩

theorem removeRec_total (fuel : Nat) (t : Table) (k : Str) (hf : t.length ≤ fuel) :
    ∃ t' b, removeRec fuel t k = some (t', b) ∧ t'.length ≤ t.length ∧ Thinned t' t := by
  induction fuel generalizing t k with
  | zero =>
    have : t = [] := List.eq_nil_of_length_eq_zero (Nat.le_zero.mp hf)
    subst this
    exact ⟨[], false, by simp [removeRec, tget, tremove], Nat.le_refl _, fun _ => Or.inl rfl⟩
  | succ n ih =>
    cases hv : tget t k with
    | none =>
      exact ⟨tremove t k, false, by simp [removeRec, hv], tremove_length_le t k, thinned_tremove t k⟩
    | some v =>
      have hlt := tremove_length_lt t k v hv
      obtain ⟨t', e, l, g⟩ := removeAll_ok n ih (children v) (tremove t k) (by omega)
      exact ⟨t', true, by simp [removeRec, hv, e], by omega, g.trans (thinned_tremove t k)⟩

end Duck.Coll
