/-
  The generated case tables `lowerMap` / `upperMap` (Sdk/CaseMap.lean) are good tables.
  `GoodTable` (with `entryOk`, `validCp`, `maskOf`, `keysOf`, `targetsOf`) is defined here: every
  entry has one to three targets, all scalar values, the first different from the key, and no
  target is a key.  Hence a character of `mapChar m c` is not mapped again (`GoodTable.mapChar`),
  which is what idempotence and the length bounds of Props/C16Case.lean rest on.  Also here: both
  tables below 128, the two sigma entries, and the keys of `lowerMap` against the table of
  UnicodeLower.lean (`lower_key_iff`).

  The facts about the two tables are evaluated.  A question that is quadratic over a table ("no
  target is a key") is asked of bit masks: a set of code points is the natural number with exactly
  those bits set, so that disjointness is one `&&&` of two numbers; `testBit_maskOf` /
  `testBit_rangeMask` tie the masks back to list membership.  The tables are given as runs
  (`expandRuns`), so masks, entry checks and look-ups are stated for runs (`runsMask`, `runOk`,
  `lookup_expandRuns`), and it is the run-level statements that are evaluated.
-/
import DuckModel.Sdk.CaseMap
import DuckModel.Sdk.Strings
import DuckModel.UnicodeLower
import DuckModel.Lemmas.CharCodeLemmas

namespace Duck.UCase
open Duck

/-! ### characters and code points -/

/-- `Nat.isValidChar` as a Boolean test, for `entryOk`; spelt with `Nat.blt` like `runOk`, the
    check that is evaluated on the literals of the tables -/
def validCp (n : Nat) : Bool := Nat.blt n 0xD800 || (Nat.blt 0xDFFF n && Nat.blt n 0x110000)

theorem toNat_ofNat_valid (n : Nat) (h : validCp n = true) : (Char.ofNat n).toNat = n :=
  toNat_ofNat (by simpa [validCp, Nat.isValidChar] using h)

theorem char_eq_of_toNat_eq {a b : Char} (h : a.toNat = b.toNat) : a = b := by
  rw [← Char.ofNat_toNat a, ← Char.ofNat_toNat b, h]

/-! ### bit masks -/

/-- the number whose set bits are the members of the list -/
def maskOf : List Nat → Nat
  | [] => 0
  | k :: r => (1 <<< k) ||| maskOf r

theorem testBit_maskOf (l : List Nat) (k : Nat) : (maskOf l).testBit k = decide (k ∈ l) := by
  induction l with
  | nil => simp [maskOf]
  | cons a r ih =>
    simp [maskOf, Nat.testBit_or, ih, Nat.one_shiftLeft, Nat.testBit_two_pow, eq_comm]

/-- the number whose set bits are the members of the inclusive ranges -/
def rangeMask : List (Nat × Nat) → Nat
  | [] => 0
  | r :: rest => ((2 ^ (r.2 + 1 - r.1) - 1) <<< r.1) ||| rangeMask rest

theorem testBit_rangeMask (rs : List (Nat × Nat)) (k : Nat) :
    (rangeMask rs).testBit k = inRanges rs k := by
  induction rs with
  | nil => simp [rangeMask, inRanges]
  | cons r rest ih =>
    rw [inRanges] at ih ⊢
    simp only [rangeMask, Nat.testBit_or, ih, Nat.testBit_shiftLeft, Nat.testBit_two_pow_sub_one,
      List.any_cons]
    congr 1
    -- bit `k` of `2 ^ (r.2 + 1 - r.1) - 1` shifted by `r.1`: `r.1 ≤ k ∧ k - r.1 < r.2 + 1 - r.1`
    rw [Bool.eq_iff_iff]
    simp only [Bool.and_eq_true, decide_eq_true_eq]
    omega

/-! ### association lists -/

def keysOf (m : List (Nat × List Nat)) : List Nat := m.map (·.1)
def targetsOf (m : List (Nat × List Nat)) : List Nat := m.flatMap (·.2)

theorem lookup_eq_none_iff_not_key {m : List (Nat × List Nat)} {n : Nat} :
    m.lookup n = none ↔ n ∉ keysOf m := by
  simp only [List.lookup_eq_none_iff, keysOf, List.mem_map, bne_iff_ne, ne_eq, not_exists, not_and]
  exact ⟨fun h p hp e => h p hp e.symm, fun h p hp e => h p hp e.symm⟩

theorem key_of_lookup_some {m : List (Nat × List Nat)} {n : Nat} {l : List Nat}
    (h : m.lookup n = some l) : (n, l) ∈ m := by
  obtain ⟨l₁, l₂, rfl, _⟩ := List.lookup_eq_some_iff.mp h
  simp

/-! ### what is checked of a table entry: targets are scalar values, one to three of them, and
    the first one differs from the key -/

def entryOk (e : Nat × List Nat) : Bool :=
  e.2.all validCp && Nat.ble 1 e.2.length && Nat.ble e.2.length 3 &&
    (match e.2 with | [] => false | h :: _ => !Nat.beq h e.1)

/-- a table whose entries are well formed and none of whose targets is a key -/
structure GoodTable (m : List (Nat × List Nat)) : Prop where
  entries : m.all entryOk = true
  disjoint : maskOf (keysOf m) &&& maskOf (targetsOf m) = 0

theorem GoodTable.entry {m} (g : GoodTable m) {n : Nat} {l : List Nat} (h : m.lookup n = some l) :
    (∀ t ∈ l, validCp t = true) ∧ 1 ≤ l.length ∧ l.length ≤ 3 ∧
      ∃ a r, l = a :: r ∧ a ≠ n := by
  have he := List.all_eq_true.mp g.entries _ (key_of_lookup_some h)
  simp only [entryOk, Bool.and_eq_true, List.all_eq_true, Nat.ble_eq] at he
  obtain ⟨⟨⟨h1, h2⟩, h3⟩, h4⟩ := he
  refine ⟨h1, h2, h3, ?_⟩
  cases l with
  | nil => simp at h4
  | cons a r => exact ⟨a, r, rfl, fun e => by simp [e, Nat.beq_refl] at h4⟩

theorem GoodTable.target_not_key {m} (g : GoodTable m) {n : Nat} {l : List Nat}
    (h : m.lookup n = some l) {t : Nat} (ht : t ∈ l) : m.lookup t = none := by
  rw [lookup_eq_none_iff_not_key]
  intro hk
  have h3 := congrArg (Nat.testBit · t) g.disjoint
  simp only [Nat.testBit_and, testBit_maskOf, Nat.zero_testBit, hk, decide_true, Bool.true_and,
    decide_eq_false_iff_not] at h3
  exact h3 (List.mem_flatMap.mpr ⟨(n, l), key_of_lookup_some h, ht⟩)

/-! ### `mapChar` over a good table -/

theorem mapChar_none {m} {c : Char} (h : m.lookup c.toNat = none) : mapChar m c = [c] := by
  simp [mapChar, h]

theorem mapChar_some {m} {c : Char} {l} (h : m.lookup c.toNat = some l) :
    mapChar m c = l.map Char.ofNat := by
  simp [mapChar, h]

/-- what a good table guarantees of the image `l` of a character `c`: no character of `l` is
    mapped again, and a character the table changes is changed at the very first character -/
structure GoodImage (m : List (Nat × List Nat)) (c : Char) (l : List Char) : Prop where
  fixed : ∀ d ∈ l, m.lookup d.toNat = none
  length : 1 ≤ l.length ∧ l.length ≤ 3
  head_ne : m.lookup c.toNat ≠ none → ∃ a r, l = a :: r ∧ a ≠ c

theorem GoodTable.mapChar {m} (g : GoodTable m) (c : Char) : GoodImage m c (mapChar m c) := by
  cases h : m.lookup c.toNat with
  | none =>
    rw [mapChar_none h]
    exact ⟨by simpa using h, by simp, fun e => absurd h e⟩
  | some l =>
    obtain ⟨hv, h1, h3, a, r, rfl, hne⟩ := g.entry h
    rw [mapChar_some h]
    refine ⟨?_, by rw [List.length_map]; exact ⟨h1, h3⟩,
      fun _ => ⟨_, _, rfl, fun e => hne ?_⟩⟩
    · intro d hd
      obtain ⟨t, ht, rfl⟩ := List.mem_map.mp hd
      rw [toNat_ofNat_valid t (hv t ht)]
      exact g.target_not_key h ht
    · rw [← toNat_ofNat_valid a (hv a (by simp)), e]

theorem flatMap_eq_map {g : Char → List Char} {f : Char → Char} (s : Str)
    (h : ∀ c ∈ s, g c = [f c]) : s.flatMap g = s.map f := by
  rw [List.map_eq_flatMap, List.flatMap_def, List.flatMap_def, List.map_congr_left h]

/-- a text of characters the table leaves alone is left alone -/
theorem flatMap_mapChar_fixed {m} (s : Str) (h : ∀ c ∈ s, m.lookup c.toNat = none) :
    s.flatMap (mapChar m) = s := by
  simpa using flatMap_eq_map (f := id) s fun c hc => mapChar_none (h c hc)

/-! ### the masks and the entry checks of a table given by runs, run by run -/

theorem maskOf_append (a b : List Nat) : maskOf (a ++ b) = maskOf a ||| maskOf b := by
  induction a with
  | nil => simp [maskOf]
  | cons x a ih => simp [maskOf, ih, Nat.or_assoc]

theorem maskOf_map_add (l : List Nat) (d : Nat) : maskOf (l.map (· + d)) = maskOf l <<< d := by
  induction l with
  | nil => simp [maskOf]
  | cons x l ih =>
    simp only [List.map_cons, maskOf, ih, Nat.shiftLeft_or_distrib, Nat.shiftLeft_add]

/-- the bits of `M` and of its shifts by `s, 2 * s, …, (n - 1) * s` -/
def strideMask (M s : Nat) : Nat → Nat
  | 0 => 0
  | n + 1 => strideMask M s n ||| M <<< (n * s)

theorem maskOf_stride (l : List Nat) (s n : Nat) :
    maskOf ((List.range n).flatMap fun i => l.map (· + i * s)) = strideMask (maskOf l) s n := by
  induction n with
  | zero => rfl
  | succ n ih =>
    simp [List.range_succ, List.flatMap_append, maskOf_append, ih, maskOf_map_add, strideMask]

/-- the code points `sel` takes from the first entry `(lo, targets)` of each run
    `(lo, hi, step, targets)`, repeated along the run -/
def runsMask (sel : Nat × List Nat → List Nat) (rs : List (Nat × Nat × Nat × List Nat)) : Nat :=
  rs.foldr (fun r m =>
    strideMask (maskOf (sel (r.1, r.2.2.2))) r.2.2.1 ((r.2.1 - r.1) / r.2.2.1 + 1) ||| m) 0

/-- a selection of code points that moves with the entry (its key, its targets) is taken from
    the runs -/
theorem maskOf_flatMap_expandRuns {sel : Nat × List Nat → List Nat}
    (hsel : ∀ k l d, sel (k + d, l.map (· + d)) = (sel (k, l)).map (· + d)) (rs) :
    maskOf ((expandRuns rs).flatMap sel) = runsMask sel rs := by
  induction rs with
  | nil => rfl
  | cons r rs ih =>
    rw [expandRuns, List.flatMap_cons, List.flatMap_append, maskOf_append, ← expandRuns, ih,
      expandRun, List.flatMap_map]
    simp only [hsel, maskOf_stride]
    rfl

theorem maskOf_keysOf_expandRuns (rs) :
    maskOf (keysOf (expandRuns rs)) = runsMask (fun e => [e.1]) rs := by
  rw [keysOf, List.map_eq_flatMap, maskOf_flatMap_expandRuns fun _ _ _ => rfl]

/-- what is checked of a run: one to three targets, the first differs from the first key, and no
    target crosses the surrogate gap or the end of the code space on its way through the run -/
def runOk (r : Nat × Nat × Nat × List Nat) : Bool :=
  r.2.2.2.all (fun t => Nat.blt (t + (r.2.1 - r.1) / r.2.2.1 * r.2.2.1) 0xD800 ||
    (Nat.blt 0xDFFF t && Nat.blt (t + (r.2.1 - r.1) / r.2.2.1 * r.2.2.1) 0x110000)) &&
  Nat.ble 1 r.2.2.2.length && Nat.ble r.2.2.2.length 3 &&
    (match r.2.2.2 with | [] => false | h :: _ => !Nat.beq h r.1)

theorem all_entryOk_expandRuns {rs} (h : rs.all runOk = true) :
    (expandRuns rs).all entryOk = true := by
  simp only [expandRuns, expandRun, List.all_flatMap, List.all_map, List.all_eq_true,
    List.mem_range, Function.comp] at h ⊢
  intro r hr i hi
  have hok := h r hr
  obtain ⟨lo, hi', s, ts⟩ := r
  -- entry `i` is shifted by `i * s`, at most the shift of the last entry, which `runOk` tests
  have hle : i * s ≤ (hi' - lo) / s * s := Nat.mul_le_mul_right _ (Nat.le_of_lt_succ hi)
  simp only [runOk, entryOk, validCp, Bool.and_eq_true, List.all_eq_true, Nat.ble_eq, Nat.blt_eq,
    Bool.or_eq_true, List.length_map, List.mem_map, forall_exists_index, and_imp,
    forall_apply_eq_imp_iff₂] at hok ⊢
  refine ⟨⟨⟨fun t ht => ?_, hok.1.1.2⟩, hok.1.2⟩, ?_⟩
  · have := hok.1.1.1 t ht
    omega
  · cases ts with
    | nil => exact hok.2
    | cons t ts =>
      have := hok.2
      simp only [List.map_cons, Bool.not_eq_true', ← Bool.not_eq_true, Nat.beq_eq] at this ⊢
      omega

theorem GoodTable.of_runs {rs} (hok : rs.all runOk = true)
    (hd : runsMask (fun e => [e.1]) rs &&& runsMask (·.2) rs = 0) : GoodTable (expandRuns rs) :=
  ⟨all_entryOk_expandRuns hok,
    by rw [maskOf_keysOf_expandRuns, targetsOf, maskOf_flatMap_expandRuns fun _ _ _ => rfl, hd]⟩

/-! ### the runs behind a table: only those whose span contains `n` matter to the look-up of `n` -/

/-- the keys of a run lie from `lo` to `hi`; a run with `hi < lo` still has the key `lo`, whence
    `max` -/
theorem lookup_expandRun_none {r : Nat × Nat × Nat × List Nat} {n : Nat}
    (h : ¬ (r.1 ≤ n ∧ n ≤ max r.1 r.2.1)) : (expandRun r).lookup n = none := by
  simp only [List.lookup_eq_none_iff, expandRun, List.mem_map, List.mem_range, bne_iff_ne, ne_eq]
  rintro _ ⟨i, hi, rfl⟩
  have h1 := Nat.mul_le_mul_right r.2.2.1 (Nat.le_of_lt_succ hi)
  have h2 := Nat.div_mul_le_self (r.2.1 - r.1) r.2.2.1
  omega

theorem lookup_expandRuns_filter (p : Nat × Nat × Nat × List Nat → Bool) (rs) (n : Nat)
    (h : ∀ r ∈ rs, r.1 ≤ n → n ≤ max r.1 r.2.1 → p r = true) :
    (expandRuns rs).lookup n = (expandRuns (rs.filter p)).lookup n := by
  induction rs with
  | nil => rfl
  | cons r rs ih =>
    have ih := ih fun r hr => h r (List.mem_cons_of_mem _ hr)
    by_cases hp : p r = true
    · simp only [expandRuns, List.filter_cons_of_pos hp, List.flatMap_cons, List.lookup_append]
        at ih ⊢
      rw [ih]
    · have hn := lookup_expandRun_none fun hn => hp (h r List.mem_cons_self hn.1 hn.2)
      simp only [expandRuns, List.filter_cons_of_neg hp, List.flatMap_cons, List.lookup_append, hn]
        at ih ⊢
      simpa using ih

/-- the form in which single look-ups are evaluated: the filter compares `n` with the ends of each
    run, and only the runs it keeps are expanded -/
theorem lookup_expandRuns (rs) (n : Nat) :
    (expandRuns rs).lookup n =
      (expandRuns (rs.filter fun r => r.1 ≤ n && n ≤ max r.1 r.2.1)).lookup n :=
  lookup_expandRuns_filter _ rs n fun _ _ h1 h2 => by simp [h1, h2]

theorem mapChar_expandRuns (rs) : mapChar (expandRuns rs) = fun c =>
    mapChar (expandRuns (rs.filter fun r => r.1 ≤ c.toNat && c.toNat ≤ max r.1 r.2.1)) c := by
  funext c; simp only [mapChar, ← lookup_expandRuns]

/-- below 128 a table whose only run starting there is `lo … hi` (step 1), mapping by `g`, is
    that run -/
theorem mapChar_ascii {rs} {lo hi t : Nat} (g : Nat → Nat)
    (hrs : rs.filter (fun r => r.1 < 128) = [(lo, hi, 1, [t])]) (hle : lo ≤ hi)
    (hev : (List.range' lo (hi + 1 - lo)).all
      (fun n => (expandRun (lo, hi, 1, [t])).lookup n == some [g n]) = true)
    (c : Char) (h : c.toNat < 128) :
    mapChar (expandRuns rs) c =
      [if lo ≤ c.toNat ∧ c.toNat ≤ hi then Char.ofNat (g c.toNat) else c] := by
  rw [mapChar, lookup_expandRuns_filter (fun r => r.1 < 128) rs _ (fun r _ h1 _ => by simp; omega),
    hrs]
  simp only [expandRuns, List.flatMap_cons, List.flatMap_nil, List.append_nil]
  by_cases hc : lo ≤ c.toNat ∧ c.toNat ≤ hi
  · have := List.all_eq_true.mp hev c.toNat (by rw [List.mem_range'_1]; omega)
    rw [beq_iff_eq] at this
    rw [this, if_pos hc]
    rfl
  · rw [lookup_expandRun_none (r := (lo, hi, 1, [t])) (by simp only; omega), if_neg hc]

/-! ### the two tables of the toolchain -/

theorem lowerGood : GoodTable lowerMap := GoodTable.of_runs (by decide +kernel) (by decide +kernel)
theorem upperGood : GoodTable upperMap := GoodTable.of_runs (by decide +kernel) (by decide +kernel)

theorem lower_sigma : lowerMap.lookup 0x3A3 = some [0x3C3] := by
  rw [lowerMap, lookup_expandRuns]; decide +kernel
theorem lower_final_sigma_fixed : lowerMap.lookup 0x3C2 = none := by
  rw [lowerMap, lookup_expandRuns]; decide +kernel

/-- the keys of `lowerMap` are the ASCII capitals and the table of UnicodeLower.lean (the table
    the linter model of C20 uses): the two generated tables agree -/
theorem lower_key_iff (n : Nat) :
    n ∈ keysOf lowerMap ↔ inRanges ((65, 90) :: notLowerRanges) n = true := by
  have hm : maskOf (keysOf lowerMap) = rangeMask ((65, 90) :: notLowerRanges) := by
    rw [lowerMap, maskOf_keysOf_expandRuns]; decide +kernel
  rw [← testBit_rangeMask, ← hm, testBit_maskOf, decide_eq_true_iff]

theorem isAscii_iff {s : Str} : Strings.isAscii s = true ↔ ∀ c ∈ s, c.toNat < 128 := by
  simp only [Strings.isAscii, List.all_eq_true, decide_eq_true_eq]

theorem lowerChar_ascii (c : Char) (h : c.toNat < 128) : lowerChar c = [asciiLowerChar c] :=
  mapChar_ascii (· + 32) (lo := 65) (hi := 90) (t := 97) (by decide +kernel) (by decide)
    (by decide +kernel) c h

theorem upperChar_ascii (c : Char) (h : c.toNat < 128) : upperChar c = [Strings.asciiUpperChar c] :=
  mapChar_ascii (· - 32) (lo := 97) (hi := 122) (t := 65) (by decide +kernel) (by decide)
    (by decide +kernel) c h

end Duck.UCase
