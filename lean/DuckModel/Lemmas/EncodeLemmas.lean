/-
  C17 — lemmas about the encodings model (`Sdk/Encode.lean`): base64 and radix-16/10 digit
  round trips, and the invariant of `json_parse --collection` followed by
  `json_encode --collection` (handles only ever get added, document texts are never handles).
-/
import DuckModel.Sdk.Encode

namespace Duck.Enc

/-! ## base64 -/

theorem b64Val_char : ∀ n, n < 64 → b64Val (b64Char n) = some n := by decide +kernel
theorem b64Char_ne : ∀ n, n < 64 → b64Char n ≠ '=' := by decide +kernel

/-- a bit field `y` below a field `x`: both are read back -/
theorem div_mod_of_lt (x : Nat) {y m : Nat} (h : y < m) :
    (x * m + y) / m = x ∧ (x * m + y) % m = y := by
  have hm : 0 < m := by omega
  rw [Nat.mul_comm, Nat.mul_add_div hm, Nat.mul_add_mod, Nat.div_eq_of_lt h, Nat.mod_eq_of_lt h]
  exact ⟨rfl, rfl⟩

theorem b64_roundtrip : ∀ bs : List Nat, (∀ b ∈ bs, b < 256) → b64Decode (b64Encode bs) = some bs
  | [], _ => by simp [b64Encode, b64Decode]
  | [a], h => by
    have ha : a < 256 := h a (by simp)
    simp only [b64Encode, b64Decode]
    simp (disch := omega) [b64Val_char, Nat.div_add_mod']
  | [a, b], h => by
    have ha : a < 256 := h a (by simp)
    have hb : b < 256 := h b (by simp)
    have h1 := div_mod_of_lt (a % 4) (show b / 16 < 16 by omega)
    simp only [b64Encode, b64Decode]
    simp (disch := omega) [b64Val_char, b64Char_ne, h1, Nat.div_add_mod']
  | a :: b :: c :: rest, h => by
    have ha : a < 256 := h a (by simp)
    have hb : b < 256 := h b (by simp)
    have hc : c < 256 := h c (by simp)
    have ih := b64_roundtrip rest (fun x hx => h x (by simp [hx]))
    -- the symbols are `a / 4`, `a % 4 * 16 + b / 16`, `b % 16 * 4 + c / 64`, `c % 64`: `h1` reads
    -- the two fields of the second back, `h2` those of the third, and the decoder puts each byte
    -- together as `x / m * m + x % m` (in the padded cases the field of the absent byte is 0)
    have h1 := div_mod_of_lt (a % 4) (show b / 16 < 16 by omega)
    have h2 := div_mod_of_lt (b % 16) (show c / 64 < 4 by omega)
    simp only [b64Encode, b64Decode]
    simp (disch := omega) [b64Val_char, b64Char_ne, ih, h1, h2, Nat.div_add_mod']

/-! ## numbers -/

theorem digitVal_lower16 : ∀ d, d < 16 → digitVal 16 (lowerHexDigit d) = some d := by
  decide +kernel
theorem digitVal_lower10 : ∀ d, d < 10 → digitVal 10 (lowerHexDigit d) = some d := by
  decide +kernel
theorem lower_ne_x : ∀ d, d < 16 → lowerHexDigit d ≠ 'x' ∧ lowerHexDigit d ≠ '+' := by
  decide +kernel

/-- every character is one of `acc` or a digit the encoder produces -/
theorem digitsAux_mem (radix : Nat) (hr : 0 < radix) (fuel n : Nat) (acc : List Char) (c : Char)
    (h : c ∈ digitsAux radix fuel n acc) : c ∈ acc ∨ ∃ d, d < radix ∧ c = lowerHexDigit d := by
  fun_induction digitsAux radix fuel n acc with
  | case1 => exact .inl h
  | case2 f n acc hlt =>
    rcases List.mem_cons.1 h with h | h
    · exact .inr ⟨n, hlt, h⟩
    · exact .inl h
  | case3 f n acc hlt ih =>
    rcases ih h with h | h
    · rcases List.mem_cons.1 h with h | h
      · exact .inr ⟨n % radix, Nat.mod_lt _ hr, h⟩
      · exact .inl h
    · exact .inr h

theorem digitsAux_ne_nil (radix fuel n acc) : digitsAux radix (fuel + 1) n acc ≠ [] := by
  induction fuel generalizing n acc with
  | zero => unfold digitsAux; split <;> simp [digitsAux]
  | succ f ih =>
    unfold digitsAux
    split
    · simp
    · exact ih _ _

/-- folding the produced digits gives the number back (radix 16 / 10) -/
theorem foldDigits_digitsAux (radix : Nat) (hr : 1 < radix)
    (hd : ∀ d, d < radix → digitVal radix (lowerHexDigit d) = some d) (fuel n : Nat)
    (acc : List Char) (h : n < radix ^ fuel) :
    foldDigits radix 0 (digitsAux radix fuel n acc) = foldDigits radix n acc := by
  fun_induction digitsAux radix fuel n acc with
  | case1 n acc =>
    have : n = 0 := by simpa using h
    rw [this]
  | case2 f n acc hlt => simp [foldDigits, hd n hlt]
  | case3 f n acc hlt ih =>
    have h' : n / radix < radix ^ f := by
      rw [Nat.div_lt_iff_lt_mul (by omega)]
      rw [Nat.pow_succ] at h; exact h
    rw [ih h']
    simp only [foldDigits, hd _ (Nat.mod_lt _ (by omega))]
    rw [Nat.div_add_mod']

theorem stripHexPrefix_id : ∀ s : List Char, (∀ c ∈ s, c ≠ 'x') → stripHexPrefix s = s
  | [], _ => by simp [stripHexPrefix]
  | [_], _ => by simp [stripHexPrefix]
  | c0 :: c1 :: r, h => by
    have : c1 ≠ 'x' := h c1 (by simp)
    simp [stripHexPrefix, this]

theorem digitsAux_ne (radix : Nat) (hr : 0 < radix ∧ radix ≤ 16) (fuel n : Nat) :
    ∀ c ∈ digitsAux radix fuel n [], c ≠ 'x' ∧ c ≠ '+' := by
  intro c hc
  rcases digitsAux_mem radix hr.1 fuel n [] c hc with h | ⟨d, hd, rfl⟩
  · cases h
  · exact lower_ne_x d (by omega)

/-- the digits the encoder produces are read back (radix 10 / 16) -/
theorem parseU64_digitsAux (radix : Nat) (hr : radix = 10 ∨ radix = 16) (fuel n : Nat)
    (hn : n < radix ^ (fuel + 1)) (h64 : n < u64Bound) :
    parseU64 radix (digitsAux radix (fuel + 1) n []) = some n := by
  have hd : ∀ d, d < radix → digitVal radix (lowerHexDigit d) = some d := by
    rcases hr with rfl | rfl
    · exact digitVal_lower10
    · exact digitVal_lower16
  have hx := digitsAux_ne radix (by omega) (fuel + 1) n
  have hfold := foldDigits_digitsAux radix (by omega) hd (fuel + 1) n [] hn
  unfold parseU64
  cases hds : digitsAux radix (fuel + 1) n [] with
  | nil => exact absurd hds (digitsAux_ne_nil radix fuel n [])
  | cons c r =>
    have hplus : c ≠ '+' := (hx c (by rw [hds]; simp)).2
    rw [hds] at hfold
    simp only [hplus, hfold, foldDigits, if_false, List.isEmpty_cons, Bool.false_eq_true]
    simp [h64]

theorem dec_roundtrip (n : Nat) (h : n < 2 ^ 64) : parseU64 10 (decEncode n) = some n :=
  parseU64_digitsAux 10 (Or.inl rfl) 19 n (by omega) h

theorem hex_roundtrip (n : Nat) (h : n < 2 ^ 64) : hexDecode (hexEncode n) = some n := by
  have hstrip : stripHexPrefix (hexEncode n) = digitsAux 16 16 n [] := by
    rw [hexEncode, stripHexPrefix]
    simpa using stripHexPrefix_id _ fun c hc => (digitsAux_ne 16 (by omega) 16 n c hc).1
  rw [hexDecode, hstrip]
  exact parseU64_digitsAux 16 (Or.inr rfl) 15 n h h

/-! ## JSON -/

theorem lookup_put (k k' : Str) (v : SVal) : ∀ e : Entries,
    lookup k' (put k v e) = if k = k' then some v else lookup k' e
  | [] => by simp [put, lookup]
  | (k0, v0) :: r => by
    simp only [put]
    by_cases h : k0 = k
    · subst h
      by_cases h2 : k0 = k' <;> simp [lookup, h2]
    · simp only [if_neg h, lookup]
      by_cases h2 : k0 = k'
      · subst h2; simp [Ne.symm h]
      · simp [h2, lookup_put k k' v r]

/-- all handles of the store were drawn from the supply -/
def Inv (key : Nat → Str) (st : Store) : Prop :=
  ∀ k v, lookup k st.entries = some v → ∃ i, i < st.next ∧ k = key i

/-- `st'` still has every handle of `st`, with the same value -/
def Ext (st st' : Store) : Prop :=
  ∀ k v, lookup k st.entries = some v → lookup k st'.entries = some v

theorem Ext.refl (st : Store) : Ext st st := fun _ _ h => h
theorem Ext.trans {a b c : Store} (h1 : Ext a b) (h2 : Ext b c) : Ext a c :=
  fun k v h => h2 k v (h1 k v h)

def Injective (key : Nat → Str) : Prop := ∀ i j, key i = key j → i = j

/-- a text that is none of the names drawn so far is not a handle of the store -/
theorem lookup_none {key : Nat → Str} {st : Store} (hinv : Inv key st) (k : Str)
    (h : ∀ i, i < st.next → k ≠ key i) : lookup k st.entries = none := by
  cases hl : lookup k st.entries with
  | none => rfl
  | some v =>
    obtain ⟨i, hi, e⟩ := hinv _ _ hl
    exact absurd e (h i hi)

theorem fresh {key : Nat → Str} (hinj : Injective key) {st : Store} (hinv : Inv key st) :
    lookup (key st.next) st.entries = none :=
  lookup_none hinv _ fun _ hi e => Nat.ne_of_lt hi (hinj _ _ e).symm

theorem alloc_spec {key : Nat → Str} (hinj : Injective key) {st : Store} (hinv : Inv key st) (v : SVal) :
    Inv key (alloc key st v).2 ∧ Ext st (alloc key st v).2 ∧
      lookup (alloc key st v).1 (alloc key st v).2.entries = some v := by
  have hf := fresh hinj hinv
  refine ⟨?_, ?_, ?_⟩
  · intro k w h
    simp only [alloc, lookup_put] at h
    split at h
    · rename_i e; exact ⟨st.next, by simp [alloc], e.symm⟩
    · obtain ⟨i, hi, e⟩ := hinv _ _ h
      exact ⟨i, by simp [alloc]; omega, e⟩
  · intro k w h
    simp only [alloc, lookup_put]
    split
    · rename_i e; subst e; rw [hf] at h; cases h
    · exact h
  · simp [alloc, lookup_put]

mutual
  /-- no text of the document is a handle name of the supply -/
  def NoHandle (key : Nat → Str) : Json → Prop
    | .null => True
    | .bool b => ∀ i, boolText b ≠ key i
    | .num t => ∀ i, t ≠ key i
    | .str s => ∀ i, s ≠ key i
    | .arr items => NoHandleL key items
    | .obj fields => NoHandleF key fields
  def NoHandleL (key : Nat → Str) : JList → Prop
    | .nil => True
    | .cons h t => NoHandle key h ∧ NoHandleL key t
  def NoHandleF (key : Nat → Str) : JFields → Prop
    | .nil => True
    | .cons _ v t => NoHandle key v ∧ NoHandleF key t
end

/-- what a parsed value denotes in every later store -/
def Denotes (key : Nat → Str) (st : Store) (n : Nat) (v : Str) (j : Json) : Prop :=
  ∀ st'', Inv key st'' → Ext st st'' → ∀ f, n ≤ f → encodeVal f st''.entries (.str v) = .ok j

theorem leaf_denotes {key : Nat → Str} (st : Store) (t : Str) (h : ∀ i, t ≠ key i) :
    Denotes key st 1 t (.str t) := by
  intro st'' hinv _ f hf
  cases f with
  | zero => omega
  | succ f =>
    simp [encodeVal, lookup_none hinv t fun i _ => h i]

mutual
  theorem parseJ_spec {key : Nat → Str} (hinj : Injective key) :
      ∀ (d : Json) (st : Store), Inv key st → NoHandle key d →
        Inv key (parseJ key d st).2 ∧ Ext st (parseJ key d st).2 ∧
        (match (parseJ key d st).1 with
         | none => norm d = none
         | some v => ∃ j, norm d = some j ∧ Denotes key (parseJ key d st).2 (need d) v j)
    | .null, st, hinv, _ => by simp [parseJ, norm, hinv, Ext.refl]
    | .bool _, st, hinv, hno | .num _, st, hinv, hno | .str _, st, hinv, hno => by
      simp only [parseJ, norm, need]
      exact ⟨hinv, Ext.refl _, _, rfl, leaf_denotes st _ hno⟩
    | .arr items, st, hinv, hno => by
      obtain ⟨h1, h2, h3⟩ := parseL_spec hinj items st hinv hno
      obtain ⟨a1, a2, a3⟩ := alloc_spec hinj h1 (.list (parseL key items st).1)
      simp only [parseJ, norm, need]
      refine ⟨a1, h2.trans a2, _, rfl, ?_⟩
      intro st'' hinv'' hext f hf
      obtain ⟨f, rfl⟩ : ∃ g, f = g + 2 := ⟨f - 2, by omega⟩
      have hl := hext _ _ a3
      have := h3 st'' hinv'' (a2.trans hext) f (by omega)
      simp only [encodeVal, hl, this]
    | .obj fields, st, hinv, hno => by
      obtain ⟨h1, h2, h3⟩ := parseF_spec hinj fields st hinv hno
      obtain ⟨a1, a2, a3⟩ := alloc_spec hinj h1 (.map (parseF key fields st).1)
      simp only [parseJ, norm, need]
      refine ⟨a1, h2.trans a2, _, rfl, ?_⟩
      intro st'' hinv'' hext f hf
      obtain ⟨f, rfl⟩ : ∃ g, f = g + 2 := ⟨f - 2, by omega⟩
      have hl := hext _ _ a3
      have := h3 st'' hinv'' (a2.trans hext) f (by omega)
      simp only [encodeVal, hl, this]
  theorem parseL_spec {key : Nat → Str} (hinj : Injective key) :
      ∀ (l : JList) (st : Store), Inv key st → NoHandleL key l →
        Inv key (parseL key l st).2 ∧ Ext st (parseL key l st).2 ∧
        ∀ st'', Inv key st'' → Ext (parseL key l st).2 st'' → ∀ f, needL l ≤ f →
          encItems (fun s => encodeVal f st''.entries (.str s)) (parseL key l st).1 = .ok (normL l)
    | .nil, st, hinv, _ => by simp [parseL, normL, encItems, hinv, Ext.refl]
    | .cons h t, st, hinv, hno => by
      obtain ⟨hnh, hnt⟩ := hno
      obtain ⟨h1, h2, h3⟩ := parseJ_spec hinj h st hinv hnh
      obtain ⟨t1, t2, t3⟩ := parseL_spec hinj t (parseJ key h st).2 h1 hnt
      simp only [parseL, normL, needL]
      refine ⟨t1, h2.trans t2, ?_⟩
      intro st'' hinv'' hext f hf
      have ht := t3 st'' hinv'' hext f (by omega)
      cases hr : (parseJ key h st).1 with
      | none =>
        rw [hr] at h3
        simp only [h3, ht]
      | some v =>
        rw [hr] at h3
        obtain ⟨j, hj, hd⟩ := h3
        have := hd st'' hinv'' (t2.trans hext) f (by omega)
        simp only [hj, encItems, this, ht]
  theorem parseF_spec {key : Nat → Str} (hinj : Injective key) :
      ∀ (l : JFields) (st : Store), Inv key st → NoHandleF key l →
        Inv key (parseF key l st).2 ∧ Ext st (parseF key l st).2 ∧
        ∀ st'', Inv key st'' → Ext (parseF key l st).2 st'' → ∀ f, needF l ≤ f →
          encFields (fun s => encodeVal f st''.entries (.str s)) (parseF key l st).1 = .ok (normF l)
    | .nil, st, hinv, _ => by simp [parseF, normF, encFields, hinv, Ext.refl]
    | .cons k h t, st, hinv, hno => by
      obtain ⟨hnh, hnt⟩ := hno
      obtain ⟨h1, h2, h3⟩ := parseJ_spec hinj h st hinv hnh
      obtain ⟨t1, t2, t3⟩ := parseF_spec hinj t (parseJ key h st).2 h1 hnt
      simp only [parseF, normF, needF]
      refine ⟨t1, h2.trans t2, ?_⟩
      intro st'' hinv'' hext f hf
      have ht := t3 st'' hinv'' hext f (by omega)
      cases hr : (parseJ key h st).1 with
      | none =>
        rw [hr] at h3
        simp only [h3, ht]
      | some v =>
        rw [hr] at h3
        obtain ⟨j, hj, hd⟩ := h3
        have := hd st'' hinv'' (t2.trans hext) f (by omega)
        simp only [hj, encFields, this, ht]
end


/-! ## JSON: one handle per container, the fuel bound, the model's handle supply -/

theorem put_length_fresh (k : Str) (v : SVal) (e : Entries) (h : lookup k e = none) :
    (put k v e).length = e.length + 1 := by
  fun_induction put k v e <;> simp_all [lookup]

theorem alloc_length {key : Nat → Str} (hinj : Injective key) {st : Store} (hinv : Inv key st) (v : SVal) :
    (alloc key st v).2.entries.length = st.entries.length + 1 := by
  simp [alloc, put_length_fresh _ _ _ (fresh hinj hinv)]

mutual
  theorem parseJ_length {key : Nat → Str} (hinj : Injective key) :
      ∀ (d : Json) (st : Store), Inv key st → NoHandle key d →
        (parseJ key d st).2.entries.length = st.entries.length + containers d
    | .null, st, _, _ | .bool _, st, _, _ | .num _, st, _, _ | .str _, st, _, _ => by
      simp [parseJ, containers]
    | .arr items, st, hinv, hno => by
      have h1 := (parseL_spec hinj items st hinv hno).1
      have := parseL_length hinj items st hinv hno
      simp only [parseJ, containers, alloc_length hinj h1, this]; omega
    | .obj fields, st, hinv, hno => by
      have h1 := (parseF_spec hinj fields st hinv hno).1
      have := parseF_length hinj fields st hinv hno
      simp only [parseJ, containers, alloc_length hinj h1, this]; omega
  theorem parseL_length {key : Nat → Str} (hinj : Injective key) :
      ∀ (l : JList) (st : Store), Inv key st → NoHandleL key l →
        (parseL key l st).2.entries.length = st.entries.length + containersL l
    | .nil, st, _, _ => by simp [parseL, containersL]
    | .cons h t, st, hinv, hno => by
      have h1 := (parseJ_spec hinj h st hinv hno.1).1
      have a := parseJ_length hinj h st hinv hno.1
      have b := parseL_length hinj t _ h1 hno.2
      simp only [parseL, containersL, b, a]; omega
  theorem parseF_length {key : Nat → Str} (hinj : Injective key) :
      ∀ (l : JFields) (st : Store), Inv key st → NoHandleF key l →
        (parseF key l st).2.entries.length = st.entries.length + containersF l
    | .nil, st, _, _ => by simp [parseF, containersF]
    | .cons _ h t, st, hinv, hno => by
      have h1 := (parseJ_spec hinj h st hinv hno.1).1
      have a := parseJ_length hinj h st hinv hno.1
      have b := parseF_length hinj t _ h1 hno.2
      simp only [parseF, containersF, b, a]; omega
end

mutual
  theorem need_le : ∀ d : Json, need d ≤ 2 * containers d + 1
    | .null | .bool _ | .num _ | .str _ => by simp [need]
    | .arr items => by have := needL_le items; simp only [need, containers]; omega
    | .obj fields => by have := needF_le fields; simp only [need, containers]; omega
  theorem needL_le : ∀ l : JList, needL l ≤ 2 * containersL l + 1
    | .nil => by simp [needL]
    | .cons h t => by
      have := need_le h; have := needL_le t; simp only [needL, containersL]; omega
  theorem needF_le : ∀ l : JFields, needF l ≤ 2 * containersF l + 1
    | .nil => by simp [needF]
    | .cons _ h t => by
      have := need_le h; have := needF_le t; simp only [needF, containersF]; omega
end

theorem handleKey_injective : Injective handleKey := by
  intro i j h
  have := congrArg List.length h
  simpa [handleKey] using this

theorem inv_empty (key : Nat → Str) : Inv key {} := by
  intro k v h; simp [lookup] at h

/-- a text that does not start with `handle:` is not a model handle name -/
theorem not_handle_of_prefix (t : Str) (h : (handlePrefix.isPrefixOf t) = false) :
    ∀ i, t ≠ handleKey i := by
  intro i e
  subst e
  simp [handleKey, handlePrefix] at h

end Duck.Enc
