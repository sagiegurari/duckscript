/-
  Lemmas about `findLabel`, `findOutputAndCommand`, `parseCommandLine` on rendered lines.
-/
import DuckModel.Lemmas.ArgLemmas

namespace Duck
open Duck.Spec

theorem tokChar_of_nameOK {n : Str} {fl : PVFlags} (h : NameOK n)
    (he : fl.stopOnEquals = true → NoEq n) : ∀ x ∈ n, TokChar fl x :=
  fun x hx => ⟨(h.2.1 x hx).1, (h.2.1 x hx).2.1, (h.2.1 x hx).2.2, fun hs => he hs x hx⟩

theorem parseNextValue_name (n tail : Str) (h : NameOK n) (hb : Bnd false tail) :
    parseNextValue nameFlags (n ++ tail) = .ok (afterTok tail, some n) :=
  parseNextValue_tok nameFlags n tail h.1 (tokChar_of_nameOK h (by simp [nameFlags])) h.2.2 hb

theorem parseNextValue_output (n tail : Str) (h : NameOK n) (he : NoEq n) (hb : Bnd true tail) :
    parseNextValue outputFlags (n ++ tail) = .ok (afterTok tail, some n) :=
  parseNextValue_tok outputFlags n tail h.1 (tokChar_of_nameOK h fun _ => he) h.2.2 hb

theorem nameOK_head {n : Str} (h : NameOK n) :
    ∃ c t, n = c :: t ∧ isWs c = false ∧ c ≠ '#' ∧ c ≠ '\\' ∧ c ≠ '"' ∧ c ≠ ' ' := by
  obtain ⟨hne, hall, hq⟩ := h
  cases n with
  | nil => exact absurd rfl hne
  | cons c t =>
    obtain ⟨a, b, d⟩ := hall c (by simp)
    exact ⟨c, t, rfl, a, b, d, by simpa using hq, (isWs_false_ne a).1⟩

theorem findLabel_label (n tail : Str) (h : NameOK n) (hb : Bnd false tail) :
    findLabel (':' :: (n ++ tail)) = .ok (afterTok tail, some (':' :: n)) := by
  rw [findLabel]
  have hne : n.isEmpty = false := by
    cases n with
    | nil => exact absurd rfl h.1
    | cons _ _ => rfl
  simp [parseNextValue_name n tail h hb, hne]

theorem findLabel_none (c : Char) (rest : Str) (h1 : c ≠ ':') (h2 : c ≠ ' ') :
    findLabel (c :: rest) = .ok (c :: rest, none) := by
  rw [findLabel]; simp [h1, h2]

theorem skipToEquals_spaces (k : Nat) (l : Str) : skipToEquals (spaces k ++ l) = skipToEquals l := by
  induction k with
  | zero => simp [spaces]
  | succ k ih => rw [spaces_succ, List.cons_append, skipToEquals]; simpa using ih

theorem skipToEquals_eq (l : Str) : skipToEquals ('=' :: l) = (true, l) := by
  simp [skipToEquals]

/-- the next non-space character is not `=` -/
def NoEqAhead (l : Str) : Prop := (skipToEquals l).1 = false

theorem noEqAhead_nil : NoEqAhead [] := by simp [NoEqAhead, skipToEquals]

theorem noEqAhead_cons (c : Char) (l : Str) (h1 : c ≠ ' ') (h2 : c ≠ '=') : NoEqAhead (c :: l) := by
  simp [NoEqAhead, skipToEquals, h1, h2]

theorem noEqAhead_space {l : Str} (h : NoEqAhead l) : NoEqAhead (' ' :: l) := by
  unfold NoEqAhead at *
  rw [skipToEquals]; simpa using h

theorem noEqAhead_spaces (k : Nat) {l : Str} (h : NoEqAhead l) : NoEqAhead (spaces k ++ l) := by
  unfold NoEqAhead at *
  rw [skipToEquals_spaces]; exact h

theorem noEqAhead_eol {t : Str} (h : EolTail t) : NoEqAhead t := by
  induction h with
  | nil => exact noEqAhead_nil
  | hash t => exact noEqAhead_cons _ _ (by decide) (by decide)
  | space _ ih => exact noEqAhead_space ih

theorem noEqAhead_renderArgs (ch : List (Nat × Bool)) (k : Nat) (as : List Str) (j : Str)
    (h : NoEqAhead j) : NoEqAhead (renderArgs ch k as ++ j) := by
  cases as with
  | nil => simpa [renderArgs_nil] using h
  | cons a as =>
    rw [renderArgs_cons]
    obtain ⟨c, r, hr, h1, h2, _⟩ := renderArg_head (argChoice ch k).2 a
    rw [hr]
    simp only [List.cons_append, List.append_assoc]
    exact noEqAhead_space (noEqAhead_spaces _ (noEqAhead_cons c _ h1 h2))

theorem findOAC_eol {t : Str} (h : EolTail t) :
    findOutputAndCommand t = .ok ([], none, none) := by
  rw [findOutputAndCommand, parseNextValue_eol _ h]

theorem bnd_spaces_eq (a : Nat) (x : Str) : Bnd true (spaces a ++ '=' :: x) := by
  cases a with
  | zero => exact Bnd.equals x rfl
  | succ a => rw [spaces_succ]; exact Bnd.space _

theorem afterTok_spaces_eq (a : Nat) (x : Str) :
    afterTok (spaces a ++ '=' :: x) = spaces a ++ '=' :: x := by
  cases a with
  | zero => simp [spaces, afterTok]
  | succ a => rw [spaces_succ]; exact afterTok_space _

theorem findOAC_output_only (m : Nat) (o : Str) (a : Nat) {t : Str} (ho : NameOK o) (he : NoEq o)
    (ht : EolTail t) :
    findOutputAndCommand (spaces m ++ (o ++ (spaces a ++ '=' :: t))) = .ok (t, some o, none) := by
  unfold findOutputAndCommand
  rw [parseNextValue_spaces, parseNextValue_output o _ ho he (bnd_spaces_eq a t)]
  simp only [afterTok_spaces_eq, skipToEquals_spaces, skipToEquals_eq]
  rw [parseNextValue_eol _ ht]

theorem findOAC_output_cmd (m : Nat) (o : Str) (a b : Nat) (c tail : Str) (ho : NameOK o)
    (he : NoEq o) (hc : NameOK c) (hb : Bnd false tail) :
    findOutputAndCommand (spaces m ++ (o ++ (spaces a ++ '=' :: (spaces b ++ (c ++ tail))))) =
      .ok (afterTok tail, some o, some c) := by
  unfold findOutputAndCommand
  rw [parseNextValue_spaces, parseNextValue_output o _ ho he (bnd_spaces_eq a _)]
  simp only [afterTok_spaces_eq, skipToEquals_spaces, skipToEquals_eq]
  rw [parseNextValue_spaces, parseNextValue_name c tail hc hb]

theorem findOAC_cmd (m : Nat) (c tail : Str) (hc : NameOK c) (he : NoEq c) (hb : Bnd false tail)
    (hn : NoEqAhead (afterTok tail)) :
    findOutputAndCommand (spaces m ++ (c ++ tail)) = .ok (afterTok tail, none, some c) := by
  unfold findOutputAndCommand
  rw [parseNextValue_spaces, parseNextValue_output c tail hc he hb.mono]
  simp only []
  rw [show skipToEquals (afterTok tail) = (false, (skipToEquals (afterTok tail)).2)
    from Prod.ext hn rfl]

theorem parseArguments_eol {t : Str} (h : EolTail t) : parseArguments t = .ok none := by
  unfold parseArguments parseArgumentsWith
  rw [parseArgsLoop_eol false h]

theorem parseArguments_of_loop (l : Str) (args : Option (List Str)) (hargs : args ≠ some [])
    (h : parseArgsLoop false l = .ok (args.getD [])) : parseArguments l = .ok args := by
  unfold parseArguments parseArgumentsWith
  rw [h]
  cases args with
  | none => rfl
  | some as =>
    cases as with
    | nil => exact absurd rfl hargs
    | cons a as => rfl

/-- the label with the spaces that separate it from what follows: the first piece of
    `Spec.renderBody` when something follows the label -/
def lblPart (label : Option Str) (al : Nat) : Str :=
  match label with
  | some l => l ++ spaces (al + 1)
  | none => []

/-- the output variable with its `=`: the first piece of `Spec.renderCore` -/
def outPart (output : Option Str) (a b : Nat) : Str :=
  match output with
  | some o => o ++ (spaces a ++ '=' :: spaces b)
  | none => []

/-- the conditions of `InstrOK` on the label, on the output variable and on the command, each
    as a predicate of the fields it speaks of -/
def LabelOK (label : Option Str) : Prop := ∀ l, label = some l → ∃ n, l = ':' :: n ∧ NameOK n

def OutputOK (label output : Option Str) : Prop :=
  ∀ o, output = some o → NameOK o ∧ NoEq o ∧ (label = none → FirstOK o)

def CommandOK (label output : Option Str) (c : Str) : Prop :=
  NameOK c ∧ (output = none → NoEq c ∧ (label = none → FirstOK c))

theorem findLabel_lblPart_name (label : Option Str) (al : Nat) (nm rest : Str) (hl : LabelOK label)
    (hn : NameOK nm) (hf : label = none → FirstOK nm) :
    ∃ m, findLabel (lblPart label al ++ (nm ++ rest)) = .ok (spaces m ++ (nm ++ rest), label) := by
  cases label with
  | none =>
    obtain ⟨x, t, rfl, hx⟩ := nameOK_head hn
    exact ⟨0, by simpa [lblPart, spaces_zero] using
      findLabel_none x (t ++ rest) (by simpa [FirstOK] using (hf rfl).1) hx.2.2.2.2⟩
  | some l =>
    obtain ⟨n, rfl, hn'⟩ := hl l rfl
    refine ⟨al + 1, ?_⟩
    have := findLabel_label n (spaces (al + 1) ++ (nm ++ rest)) hn'
      (by rw [spaces_succ]; exact Bnd.space _)
    rw [spaces_succ] at this ⊢
    simpa [lblPart, afterTok_space, spaces_succ] using this

/-- a command line is assembled from its label, its output variable and command, and its
    arguments -/
theorem parseCommandLine_of_parts {l r1 r2 : Str} {label output command : Option Str}
    (hne : l ≠ []) (h1 : findLabel l = .ok (r1, label))
    (h2 : findOutputAndCommand r1 = .ok (r2, output, command))
    (hsome : ¬(label.isNone ∧ output.isNone ∧ command.isNone)) :
    parseCommandLine l =
      match parseArguments r2 with
      | .error e => .error e
      | .ok args =>
        .ok (.script { label := label, output := output, command := command, args := args }) := by
  rw [parseCommandLine_eq l hne, h1]
  simp only []
  rw [h2]
  simp only []
  cases parseArguments r2 with
  | error e => rfl
  | ok args => exact if_neg hsome

/-- a line whose first value cannot be scanned fails with the scanner's error -/
theorem parseCommandLine_error_of_first {l r1 : Str} {lab : Option Str} {e : PErr} (hne : l ≠ [])
    (hl : findLabel l = .ok (r1, lab)) (h : parseNextValue outputFlags r1 = .error e) :
    parseCommandLine l = .error e := by
  rw [parseCommandLine_eq l hne, hl]
  simp only []
  rw [findOutputAndCommand, h]

/-- … and so does a line whose label name cannot be scanned -/
theorem parseCommandLine_error_of_label {rest : Str} {e : PErr}
    (h : parseNextValue nameFlags rest = .error e) : parseCommandLine (':' :: rest) = .error e := by
  rw [parseCommandLine_eq _ (by simp), findLabel]
  simp [h]

theorem parseCommandLine_label_only (n : Str) {t : Str} (hn : NameOK n) (ht : EolTail t) :
    parseCommandLine (':' :: (n ++ t)) =
      .ok (.script { label := some (':' :: n), output := none, command := none, args := none }) := by
  rw [parseCommandLine_of_parts (by simp) (findLabel_label n t hn ht.bnd)
    (findOAC_eol ht.afterTok) (by simp), parseArguments_eol EolTail.nil]

/-- output variable without a command: `[label] out =` -/
theorem parseCommandLine_output_only (label : Option Str) (al : Nat) (o : Str) (a : Nat) {t : Str}
    (hl : LabelOK label) (ho : NameOK o) (he : NoEq o) (hf : label = none → FirstOK o)
    (ht : EolTail t) :
    parseCommandLine (lblPart label al ++ (o ++ (spaces a ++ '=' :: t))) =
      .ok (.script { label := label, output := some o, command := none, args := none }) := by
  obtain ⟨m, hm⟩ := findLabel_lblPart_name label al o (spaces a ++ '=' :: t) hl ho hf
  rw [parseCommandLine_of_parts (by simp [ho.1]) hm (findOAC_output_only m o a ho he ht) (by simp),
    parseArguments_eol ht]

/-- a command (with or without output variable); whatever follows it is handed to
    `parseArguments` -/
theorem parseCommandLine_cmd_gen (label : Option Str) (al : Nat) (output : Option Str) (a b : Nat)
    (c tail : Str)
    (hl : LabelOK label)
    (ho : OutputOK label output)
    (hc : CommandOK label output c)
    (hb : Bnd false tail) (hn : NoEqAhead (afterTok tail)) :
    parseCommandLine (lblPart label al ++ (outPart output a b ++ (c ++ tail))) =
      match parseArguments (afterTok tail) with
      | .error e => .error e
      | .ok args =>
        .ok (.script { label := label, output := output, command := some c, args := args }) := by
  cases output with
  | some o =>
    obtain ⟨ho1, ho2, ho3⟩ := ho o rfl
    obtain ⟨m, hm⟩ := findLabel_lblPart_name label al o
      (spaces a ++ '=' :: (spaces b ++ (c ++ tail))) hl ho1 ho3
    have heq : outPart (some o) a b ++ (c ++ tail) =
        o ++ (spaces a ++ '=' :: (spaces b ++ (c ++ tail))) := by simp [outPart]
    rw [heq]
    exact parseCommandLine_of_parts (by simp [ho1.1]) hm
      (findOAC_output_cmd m o a b c _ ho1 ho2 hc.1 hb) (by simp)
  | none =>
    obtain ⟨hc1, hc2, hc3⟩ := hc.1, hc.2 rfl
    obtain ⟨m, hm⟩ := findLabel_lblPart_name label al c tail hl hc1 hc3
    rw [outPart, List.nil_append]
    exact parseCommandLine_of_parts (by simp [hc1.1]) hm (findOAC_cmd m c _ hc1 hc2 hb hn) (by simp)

/-- a command (with or without output variable) and its arguments -/
theorem parseCommandLine_cmd (label : Option Str) (al : Nat) (output : Option Str) (a b : Nat)
    (c : Str) (chs : List (Nat × Bool)) (args : Option (List Str)) {t : Str}
    (hl : LabelOK label)
    (ho : OutputOK label output)
    (hc : CommandOK label output c)
    (hargs : args ≠ some []) (ht : EolTail t) :
    parseCommandLine (lblPart label al ++
        (outPart output a b ++ (c ++ (renderArgs chs 0 (args.getD []) ++ t)))) =
      .ok (.script { label := label, output := output, command := some c, args := args }) := by
  -- what the command's scan leaves of the arguments is the arguments again, before another
  -- end-of-line tail
  obtain ⟨t', ht', heq⟩ := afterTok_renderArgs chs 0 (args.getD []) ht
  rw [parseCommandLine_cmd_gen label al output a b c _ hl ho hc (renderArgs_bnd chs 0 _ ht)
    (by rw [heq]; exact noEqAhead_renderArgs chs 0 _ t' (noEqAhead_eol ht')), heq,
    parseArguments_of_loop _ args hargs (parseArgsLoop_render chs _ 0 t' ht')]

/-! ### a malformed argument after well-formed ones -/

/-- a command line whose well-formed arguments are followed by ` junk` fails with the error of
    the junk -/
theorem parseCommandLine_cmd_err (label : Option Str) (al : Nat) (output : Option Str) (a b : Nat)
    (c : Str) (chs : List (Nat × Bool)) (args : List Str) (j : Str) (e : PErr)
    (hl : LabelOK label)
    (ho : OutputOK label output)
    (hc : CommandOK label output c)
    (hj : NoEqAhead j) (he : parseArgsLoop false (' ' :: j) = .error e) :
    parseCommandLine (lblPart label al ++ (outPart output a b ++
        (c ++ (renderArgs chs 0 args ++ ' ' :: j)))) = .error e := by
  have hs : SpTail (renderArgs chs 0 args ++ ' ' :: j) := renderArgs_spTail chs 0 args (Or.inr ⟨j, rfl⟩)
  rw [parseCommandLine_cmd_gen label al output a b c _ hl ho hc hs.bnd
    (by rw [hs.afterTok]; exact noEqAhead_renderArgs chs 0 args _ (noEqAhead_space hj)), hs.afterTok]
  unfold parseArguments parseArgumentsWith
  rw [parseArgsLoop_renderArgs chs args (Bnd.space j) (by rw [afterTok_space]) 0, he]

end Duck
