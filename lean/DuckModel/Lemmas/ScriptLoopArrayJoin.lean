/-
  `array_join` (std/collections/array_join/script.ds) run from source, for every input: the three
  command conditions (`not is_array`, `not array_is_empty` - a SCRIPT command inside `not` inside
  `if` -, `not is_empty`), the loop that appends `${item}${separator}`, the block that cuts the
  trailing separator at the byte offset `strlen` and `calc` compute, one call.
  Exports `aj_call` (one call, for every budget from `3·cells + 16` on) with what it leaves,
  `JCallPost`; `aj_size`, `aj_entry`, `aj_keys`.  Conventions: Lemmas/ScriptLoopShared.lean.
-/
import DuckModel.Lemmas.ScriptLoopShared
import DuckModel.Lemmas.ScriptStringLemmas

namespace Duck.ScriptRun
open Duck Duck.Alias Duck.Coll Duck.Spec Duck.Generated Duck.Reser

attribute [local irreducible] tremove tinsert

def jScope : Str := "scope::array_join".toList
def aieScope : Str := "scope::array_is_empty".toList
def jArg1 : Str := "scope::array_join::argument::1".toList
def jArg2 : Str := "scope::array_join::argument::2".toList
def jString : Str := "scope::array_join::string".toList
def jItem : Str := "scope::array_join::item".toList
def jSepLen : Str := "scope::array_join::separatorlen".toList
def jStrLen : Str := "scope::array_join::stringlen".toList
def jOffset : Str := "scope::array_join::offset".toList

inductive AjVar | arg1 | arg2 | string | item | sepLen | strLen | offset
deriving DecidableEq

@[reducible] def AjVar.name : AjVar → Str
  | .arg1 => jArg1 | .arg2 => jArg2 | .string => jString | .item => jItem | .sepLen => jSepLen
  | .strLen => jStrLen | .offset => jOffset

def AjVar.all : List AjVar := [.arg1, .arg2, .string, .item, .sepLen, .strLen, .offset]

def ajIs : List Instruction :=
  [emptyI 1,
   mkI 2 none "if" (some [[.lit "not".toList], [.lit "is_array".toList], [.var jArg1]]),
   mkI 3 none "trigger_error" (some [[.lit sMsg]]),
   mkI 4 none "end" none,
   emptyI 5,
   mkI 6 none "if" (some [[.lit "not".toList], [.lit "array_is_empty".toList], [.var jArg1]]),
   mkI 7 none "for" (some [[.lit jItem], [.lit "in".toList], [.var jArg1]]),
   mkI 8 (some jString) "set" (some [[.var jString, .var jItem, .var jArg2]]),
   mkI 9 none "end" none,
   emptyI 10,
   mkI 11 none "if" (some [[.lit "not".toList], [.lit "is_empty".toList], [.var jArg2]]),
   mkI 12 (some jSepLen) "strlen" (some [[.var jArg2]]),
   mkI 13 (some jStrLen) "strlen" (some [[.var jString]]),
   mkI 14 (some jOffset) "calc" (some [[.var jStrLen], [.lit "-".toList], [.var jSepLen]]),
   mkI 15 (some jString) "substring" (some [[.var jString], [.lit "0".toList], [.var jOffset]]),
   mkI 16 none "end" none,
   mkI 17 none "end" none,
   emptyI 18,
   mkI 19 none "set" (some [[.var jString]])]

def jKey (n : Nat) : Str := jScope ++ "::".toList ++ natToStr n

theorem jKey_eq (n : Nat) : jKey n = lineKey jScope n := rfl

theorem aj_table :
    parsesTo cmd_collections_array_join.script ajIs = true ∧
    findsTo ifTables ajIs (1 + 1) [] 3 = true ∧ findsTo ifTables ajIs (5 + 1) [] 16 = true ∧
    findsTo forTables ajIs (6 + 1) [] 8 = true ∧ findsTo ifTables ajIs (10 + 1) [] 15 = true ∧
    ((AjVar.all.map AjVar.name).Pairwise (· ≠ ·) ∧
      ∀ a ∈ AjVar.all, underPrefix jScope a.name = true ∧ ∀ o ∈ [aieScope], underPrefix o a.name = false) ∧
    (jKey 1 = "scope::array_join::1".toList ∧ jKey 5 = "scope::array_join::5".toList ∧
      jKey 10 = "scope::array_join::10".toList ∧ jKey 6 = "scope::array_join::6".toList) ∧
    jArg1 = argKey jScope 1 ∧ jArg2 = argKey jScope 2 ∧ (LitOK jItem ∧ KeyOK jArg1) ∧
    jString ≠ argsKey jScope ∧ jString = jScope ++ ':' :: ':' :: 's' :: "tring".toList := by
  decide +kernel

theorem aj_parses : parseText cmd_collections_array_join.script = .ok ajIs := parsesTo_eq aj_table.1
theorem aj_findIf1 : findCommands ifTables ajIs (1 + 1) = .ok ⟨[], 3⟩ := findsTo_eq aj_table.2.1
theorem aj_findIf5 : findCommands ifTables ajIs (5 + 1) = .ok ⟨[], 16⟩ := findsTo_eq aj_table.2.2.1
theorem aj_findFor : findCommands forTables ajIs (6 + 1) = .ok ⟨[], 8⟩ := findsTo_eq aj_table.2.2.2.1
theorem aj_findIf10 : findCommands ifTables ajIs (10 + 1) = .ok ⟨[], 15⟩ := findsTo_eq aj_table.2.2.2.2.1
theorem ajVars : Names jScope [aieScope] AjVar.name :=
  Names.of_list _ _ _ AjVar.all (fun a => by cases a <;> decide) aj_table.2.2.2.2.2.1

theorem jNe (a b : AjVar) (h : a ≠ b := by decide) : a.name ≠ b.name := ajVars.ne h

theorem jOut (a : AjVar) : underPrefix aieScope a.name = false := ajVars.outside _ (.head _) a

theorem aj_keys : jKey 1 = "scope::array_join::1".toList ∧ jKey 5 = "scope::array_join::5".toList ∧
    jKey 10 = "scope::array_join::10".toList ∧ jKey 6 = "scope::array_join::6".toList :=
  aj_table.2.2.2.2.2.2.1

/-- the argument templates of the lines 1, 2, 5, 7, 10, 11, 12 (and 18), 13, 14, in that order, are
    in the class the expansion lemmas cover -/
theorem aj_args :
    ArgsOK [[.lit "not".toList], [.lit "is_array".toList], [.var jArg1]] ∧ ArgsOK [[.lit sMsg]] ∧
    ArgsOK [[.lit "not".toList], [.lit "array_is_empty".toList], [.var jArg1]] ∧
    ArgsOK [[.var jString, .var jItem, .var jArg2]] ∧
    ArgsOK [[.lit "not".toList], [.lit "is_empty".toList], [.var jArg2]] ∧
    ArgsOK [[.var jArg2]] ∧ ArgsOK [[.var jString]] ∧
    ArgsOK [[.var jStrLen], [.lit "-".toList], [.var jSepLen]] ∧
    ArgsOK [[.var jString], [.lit "0".toList], [.var jOffset]] := by
  decide +kernel

theorem jArg1_eq : jArg1 = argKey jScope 1 := aj_table.2.2.2.2.2.2.2.1
theorem jArg2_eq : jArg2 = argKey jScope 2 := aj_table.2.2.2.2.2.2.2.2.1

/-- `string` is none of the variables the wrapper publishes -/
theorem get_pubVars_jString (args : List Str) (vars : Vars) (st : ScriptSt) :
    Vars.get (pubVars jScope args vars st) jString = vars.get jString :=
  get_pubVars_other jScope vars st args jString aj_table.2.2.2.2.2.2.2.2.2.2.1
    (ne_argKey jScope jString "tring".toList 's' (by decide) aj_table.2.2.2.2.2.2.2.2.2.2.2)

theorem aj_block : ForBlock ajIs 6 8 jItem jArg1 :=
  ⟨⟨_, rfl⟩, ⟨_, rfl⟩, aj_table.2.2.2.2.2.2.2.2.2.1, jNe .arg1 .item, aj_findFor⟩

theorem aj_entry (depth fuel : Nat) (args : List Str) (vars : Vars) (st : ScriptSt) :
    runScriptCmdF depth fuel "array_join".toList args vars st =
      aliasRun handleOps 2 (scriptBody (bodySem fuel depth ajIs) (fun _ => false) fuel ajIs) jScope args vars st :=
  runScriptCmdF_entry depth fuel _ _ _ (findScript_of_resolve rs_array_join) aj_parses args vars st

theorem get_endTable_jKey (s : ScriptSt) (hctx : s.ctx = jScope) (n : Nat) (v : Str)
    (h : s.endTable.get (jKey n) = some v) : s.endTable.get (flowKey s n) = some v := by
  rw [flowKey_lineKey hctx]; exact h

/-! ### `array_is_empty`, nested -/

theorem aie_run (d G : Nat) (X : Str) (vars : Vars) (s : ScriptSt)
    (hne : X ≠ Coll.handleName s.coll.next) :
    runScriptCmdF d (G + 2 + 2) "array_is_empty".toList [X] vars s =
      (match (tget s.coll.tbl X).bind aieLen with
        | some n => .continue (some (boolStr (n = 0)))
        | none => .error (collErrMsg .arrayLength (pubSt aieScope [X] s).coll.tbl [X]),
       clear aieScope vars, mieSt s X) :=
  isEmptyScript_run arrayIsEmpty_sizeScript d G X vars s (congrArg (·.bind aieLen) (tget_pubSt_ne _ s [X] hne))

/-- `if not array_is_empty X` on a live array (no else branches) -/
theorem runIf_not_aie (G d : Nat) (is : List Instruction) (line stop : Nat) (s : ScriptSt) (vars : Vars) (X : Str)
    (l : List Item) (hX : ArgOK X = true)
    (hfind : findCommands ifTables is (line + 1) = .ok ⟨[], stop⟩)
    (hcI : IfCacheOK s.ifMeta (flowKey s line) stop)
    (hT : tget s.coll.tbl X = some (.list l)) (hne : X ≠ Coll.handleName s.coll.next) :
    runFlowF (nestedOf (bodySem (G + 2 + 2) (d + 2)) (G + 2 + 2)) is 2 .ifC ["not".toList, "array_is_empty".toList, X] line vars s =
      if l = [] then (.goTo none (.line (stop + 1)), clear aieScope vars, mieSt (ifSt s line stop) X)
      else (.continue none, clear aieScope vars,
        { mieSt (ifSt s line stop) X with ifStack := ifEntry line stop s.ctx :: s.ifStack }) := by
  obtain ⟨h1, h2, h3⟩ := argOK_parts hX
  have hrun := aie_run d G X vars (ifSt s line stop) hne
  have hb : (tget (ifSt s line stop).coll.tbl X).bind aieLen = some l.length := by
    show (tget s.coll.tbl X).bind aieLen = _
    rw [hT]; rfl
  rw [hb] at hrun
  have hcond := evalCond_not_script (G + 2) d is "array_is_empty".toList [X] cmd_collections_array_is_empty
    (by decide +kernel) (by decide +kernel) (by intro v hv; simp at hv; subst hv; exact h1)
    (by simp [positionOK, h3]; decide) (by simp [positionOK, h2, h3]) (findScript_of_resolve rs_array_is_empty) vars (ifSt s line stop) _ _ _ hrun
  rw [isTrue_boolStr] at hcond
  rw [runIf_simple _ is 1 "not".toList ["array_is_empty".toList, X] line stop vars s hfind hcI _ _ _ hcond]
  cases l with
  | nil => simp
  | cons x r =>
    have e1 : (!decide ((x :: r).length = 0)) = true := by simp
    have e2 : ¬ (x :: r) = [] := by simp
    simp only [e1, e2, if_true, if_false]
    rfl

/-! ### what the body keeps of the flow-control state -/

/-- what every state of an `array_join` body keeps true of the block-position caches and the `end`
    table, relative to the state `st0` the body started in: untouched outside the command's own
    prefix, the cached block ends of its four flow lines right -/
structure JInv (st0 : ScriptSt) (IM : KV (Nat × List Nat)) (FM : KV Nat) (ET : KV Str) : Prop where
  ifMeta : ∀ k, underPrefix jScope k = false → IM.get k = st0.ifMeta.get k
  forMeta : ∀ k, underPrefix jScope k = false → FM.get k = st0.forMeta.get k
  endTable : ∀ k, underPrefix jScope k = false → ET.get k = st0.endTable.get k
  c1 : IfCacheOK IM (jKey 1) 3
  c5 : IfCacheOK IM (jKey 5) 16
  c10 : IfCacheOK IM (jKey 10) 15
  c6 : CacheOK FM (jKey 6) 8

theorem JInv.frame {st0 : ScriptSt} {IM : KV (Nat × List Nat)} {FM : KV Nat} {ET : KV Str} (h : JInv st0 IM FM ET) :
    FlowFrame jScope st0 IM FM ET :=
  ⟨h.ifMeta, h.forMeta, h.endTable⟩

theorem JInv.afterIf {st0 : ScriptSt} {IM : KV (Nat × List Nat)} {FM : KV Nat} {ET : KV Str}
    (h : JInv st0 IM FM ET) (line stop : Nat)
    (hl : line = 1 ∧ stop = 3 ∨ line = 5 ∧ stop = 16 ∨ line = 10 ∧ stop = 15) :
    JInv st0 (ifMetaAfter IM (jKey line) stop) FM (ET.put (jKey stop) fullNameEndIf) :=
  have f := h.frame.afterIf line stop
  ⟨f.ifMeta, f.forMeta, f.endTable, ifCacheOK_after h.c1 (by omega), ifCacheOK_after h.c5 (by omega),
    ifCacheOK_after h.c10 (by omega), h.c6⟩

theorem JInv.afterFor {st0 : ScriptSt} {IM : KV (Nat × List Nat)} {FM : KV Nat} {ET : KV Str}
    (h : JInv st0 IM FM ET) : JInv st0 IM (forMetaAfter FM (jKey 6) 8) (ET.put (jKey 8) fullNameEndForIn) :=
  have f := h.frame.afterFor 6 8
  ⟨f.ifMeta, f.forMeta, f.endTable, h.c1, h.c5, h.c10, cacheOK_forMetaAfter _ _ _ h.c6⟩

/-- what a body leaves, relative to the state `s` it started in -/
structure JBodyPost (s s' : ScriptSt) (alloc : Nat) (pushed : List IfCall) : Prop where
  inv : JInv s s'.ifMeta s'.forMeta s'.endTable
  forStack : s'.forStack = s.forStack
  ifStack : s'.ifStack = pushed ++ s.ifStack
  next : s'.coll.next = s.coll.next + alloc
  tbl : LookupEq s'.coll.tbl s.coll.tbl

/-- a state of the body: `JBodyPost` but for the for-in stack, which the loop changes -/
structure JSt (s0 s : ScriptSt) (alloc : Nat) (pushed : List IfCall) : Prop where
  inv : JInv s0 s.ifMeta s.forMeta s.endTable
  ifStack : s.ifStack = pushed ++ s0.ifStack
  next : s.coll.next = s0.coll.next + alloc
  tbl : LookupEq s.coll.tbl s0.coll.tbl
  ctx : s.ctx = jScope

theorem JSt.post {s0 s : ScriptSt} {alloc : Nat} {pushed : List IfCall} (h : JSt s0 s alloc pushed)
    (hf : s.forStack = s0.forStack) : JBodyPost s0 s alloc pushed :=
  ⟨h.inv, hf, h.ifStack, h.next, h.tbl⟩

theorem JSt.ifP {s0 s : ScriptSt} {alloc : Nat} {pushed : List IfCall} (h : JSt s0 s alloc pushed) (line stop : Nat)
    (hl : line = 1 ∧ stop = 3 ∨ line = 5 ∧ stop = 16 ∨ line = 10 ∧ stop = 15) (b : Bool) :
    JSt s0 (ifStP s line stop b) alloc ((if b then [ifEntry line stop jScope] else []) ++ pushed) := by
  rw [ifStP_eq h.ctx]
  exact ⟨h.inv.afterIf line stop hl, by cases b <;> simp [h.ifStack], h.next, h.tbl, h.ctx⟩

theorem JSt.forSt {s0 s : ScriptSt} {alloc : Nat} {pushed : List IfCall} (h : JSt s0 s alloc pushed) :
    JSt s0 (forSt s 6 8) alloc pushed := by
  rw [forSt_eq h.ctx]
  exact ⟨h.inv.afterFor, h.ifStack, h.next, h.tbl, h.ctx⟩

/-- the state after the nested `array_is_empty a` of line 5 -/
def aieSt (s : ScriptSt) (a : Str) (b : Bool) : ScriptSt := { ifStP s 5 16 b with coll := (mieSt s a).coll }

theorem JSt.aie {s0 s : ScriptSt} {alloc : Nat} {pushed : List IfCall} (h : JSt s0 s alloc pushed) (a : Str) (b : Bool)
    (hfree : tget s.coll.tbl (Coll.handleName s.coll.next) = none) :
    JSt s0 (aieSt s a b) (alloc + 1) ((if b then [ifEntry 5 16 jScope] else []) ++ pushed) :=
  have h' := h.ifP 5 16 (Or.inr (Or.inl ⟨rfl, rfl⟩)) b
  ⟨h'.inv, h'.ifStack, by show s.coll.next + 1 = _; rw [h.next]; omega,
   fun k => (tget_mieSt s a k hfree).trans (h.tbl k), h'.ctx⟩

/-! ### the blocks of the body -/

section blocks
variable {G d : Nat} {s : ScriptSt} {vars : Vars} {fo : Option Str}

/-- the arguments of line 1, `if not is_array ${argument::1}` -/
theorem aj_if1_args {a : Str} (hv : vars.get jArg1 = some a) :
    bind vars ((some [[Seg.lit "not".toList], [.lit "is_array".toList], [.var jArg1]]).map fun a => a.map renderTemplate) =
      ["not".toList, "is_array".toList, a] :=
  bind_eq aj_args.1 (by simp only [List.map, tmplValue_lit, tmplValue_var, hv, Option.getD_some])

/-- line 5, `if not array_is_empty ${argument::1}`, on a live array: the nested script command
    draws an allocator name and clears its own variables -/
theorem aj_if5 {a : Str} {l : List Item} (hX : ArgOK a = true) (hctx : s.ctx = jScope)
    (hv : vars.get jArg1 = some a) (hc : IfCacheOK s.ifMeta (jKey 5) 16) (hT : tget s.coll.tbl a = some (.list l))
    (hne : a ≠ Coll.handleName s.coll.next) :
    Steps (G + 2 + 2) (d + 3) ajIs 1 ⟨5, fo, vars, s⟩
      ⟨if l = [] then 17 else 6, none, clear aieScope vars, aieSt s a (decide (l ≠ []))⟩ := by
  have hif := runIf_not_aie G d ajIs 5 16 s vars a l hX aj_findIf5 (by rw [flowKey_lineKey hctx]; exact hc) hT hne
  have hb : bind vars ((some [[Seg.lit "not".toList], [.lit "array_is_empty".toList], [.var jArg1]]).map
      fun a => a.map renderTemplate) = ["not".toList, "array_is_empty".toList, a] :=
    bind_eq aj_args.2.2.1 (by simp only [List.map, tmplValue_lit, tmplValue_var, hv, Option.getD_some])
  by_cases hl : l = []
  · rw [if_pos hl] at hif
    simp only [hl, if_true, ne_eq, not_true_eq_false, decide_false]
    exact Steps.flow_goto rfl rs_if hb hif
  · rw [if_neg hl] at hif
    simp only [hl, if_false, ne_eq, not_false_eq_true, decide_true]
    exact Steps.flow rfl rs_if hb hif

/-- line 10, `if not is_empty ${argument::2}` -/
theorem aj_if10 {sep : Str} (hS : ArgOK sep = true) (hctx : s.ctx = jScope)
    (hv : vars.get jArg2 = some sep) (hc : IfCacheOK s.ifMeta (jKey 10) 15) :
    Steps (G + 2 + 2) (d + 3) ajIs 1 ⟨10, fo, vars, s⟩
      ⟨if sep = [] then 16 else 11, none, vars, ifStP s 10 15 (decide (sep ≠ []))⟩ := by
  have hif := runIf_not_is_empty (G + 2) (d + 1) ajIs 10 15 s vars sep hS aj_findIf10
    (by rw [flowKey_lineKey hctx]; exact hc)
  have hb : bind vars ((some [[Seg.lit "not".toList], [.lit "is_empty".toList], [.var jArg2]]).map
      fun a => a.map renderTemplate) = ["not".toList, "is_empty".toList, sep] :=
    bind_eq aj_args.2.2.2.2.1 (by simp only [List.map, tmplValue_lit, tmplValue_var, hv, Option.getD_some])
  by_cases hs : sep = []
  · rw [if_pos hs] at hif
    simp only [hs, if_true, ne_eq, not_true_eq_false, decide_false]
    exact Steps.flow_goto rfl rs_if hb hif
  · rw [if_neg hs] at hif
    simp only [hs, if_false, ne_eq, not_false_eq_true, decide_true]
    exact Steps.flow rfl rs_if hb hif

/-- lines 17-19: the result is `string` (empty when it was never set) -/
theorem aj_tail : Ends G d ajIs 3 ⟨17, fo, vars, s⟩ (.finished (some ((vars.get jString).getD [])), vars, s) := by
  refine Ends.step (Steps.skip rfl) ?_
  refine Ends.step (Steps.native (vals := [(vars.get jString).getD []]) rfl rs_set (bind_eq aj_args.2.2.2.2.2.2.1
    (by simp only [List.map, tmplValue_var])) rfl) ?_
  exact Ends.last rfl

/-- lines 11-14: the trailing separator is cut off at the byte offset `strlen` and `calc` compute -/
theorem aj_trim {J sep : Str} (hsep : sep ≠ []) (hv2 : vars.get jArg2 = some sep) (hstr : vars.get jString = some (J ++ sep))
    (hsize : (utf8Encode (J ++ sep)).length < Calc.two53) :
    Steps G d ajIs 4 ⟨11, fo, vars, s⟩ ⟨15, some J,
      (((vars.set jSepLen (natStr (utf8Encode sep).length)).set jStrLen (natStr (utf8Encode (J ++ sep)).length)).set
        jOffset (natStr (utf8Encode J).length)).set jString J, s⟩ := by
  have hlenJ : (utf8Encode (J ++ sep)).length = (utf8Encode J).length + (utf8Encode sep).length := by
    rw [utf8Encode_append, List.length_append]
  have hcalc : runCalc [natStr (utf8Encode (J ++ sep)).length, "-".toList, natStr (utf8Encode sep).length] =
      .continue (some (natStr (utf8Encode J).length)) := by
    have e : (utf8Encode (J ++ sep)).length - (utf8Encode sep).length = (utf8Encode J).length := by omega
    rw [runCalc_sub _ _ hsize (by omega), e]
  refine Steps.step (Steps.native (vals := [sep]) rfl rs_strlen (bind_eq aj_args.2.2.2.2.2.1
    (by simp only [List.map, tmplValue_var, hv2, Option.getD_some])) (congrArg (·, vars, s) (runLength_one sep))) ?_
  refine Steps.step (Steps.native (vals := [J ++ sep]) rfl rs_strlen (bind_eq aj_args.2.2.2.2.2.2.1
    (by simp only [List.map, tmplValue_var, Vars.updateOutput]; rw [get_set, if_neg (jNe .string .sepLen), hstr]; rfl))
    (congrArg (·, _, s) (runLength_one (J ++ sep)))) ?_
  refine Steps.step (Steps.native (vals := [natStr (utf8Encode (J ++ sep)).length, "-".toList, natStr (utf8Encode sep).length])
    rfl rs_calc (bind_eq aj_args.2.2.2.2.2.2.2.1
      (by simp only [List.map, tmplValue_var, tmplValue_lit, Vars.updateOutput]
          rw [get_set, if_pos rfl, get_set, if_neg (jNe .sepLen .strLen), get_set, if_pos rfl]; rfl))
    (congrArg (·, _, s) hcalc)) ?_
  refine Steps.step (Steps.native (vals := [J ++ sep, "0".toList, natStr (utf8Encode J).length]) rfl rs_substring
    (bind_eq aj_args.2.2.2.2.2.2.2.2
      (by simp only [List.map, tmplValue_var, tmplValue_lit, Vars.updateOutput]
          rw [get_set, if_neg (jNe .string .offset), get_set, if_neg (jNe .string .strLen), get_set,
            if_neg (jNe .string .sepLen), hstr, get_set, if_pos rfl]; rfl))
    (congrArg (·, _, s) (runSubstring_prefix J sep hsep (by unfold Calc.two53 at hsize; omega)))) ?_
  exact Steps.refl _

end blocks

/-! ### the loop -/

/-- what the loop appends: every cell followed by the separator -/
def joinAll (sep : Str) : List Str → Str
  | [] => []
  | x :: r => x ++ sep ++ joinAll sep r

theorem joinAll_eq (sep : Str) : ∀ (xs : List Str), xs ≠ [] → joinAll sep xs = joinStr sep xs ++ sep
  | [], h => absurd rfl h
  | [x], _ => by simp [joinAll, joinStr]
  | x :: y :: r, _ => by
    have ih := joinAll_eq sep (y :: r) (by simp)
    simp only [joinAll] at ih ⊢
    simp only [joinStr, ih, List.append_assoc]

theorem joinAll_nil_sep : ∀ (xs : List Str), joinAll [] xs = xs.flatten
  | [] => rfl
  | x :: r => by simp [joinAll, joinAll_nil_sep r]

theorem joinStr_nil_sep : ∀ (xs : List Str), joinStr [] xs = xs.flatten
  | [] => rfl
  | [x] => by simp [joinStr]
  | x :: y :: r => by
    have := joinStr_nil_sep (y :: r)
    simp only [joinStr, List.append_nil, this, List.flatten_cons]

/-- the script's invariant at the start of iteration `i`: `string` holds what the cells before
    `i` contribute (`getD`: the script never initialises `string`, so it is unset until the first
    iteration has run and reads as empty there) -/
structure JIter (s0 : ScriptSt) (vars0 : Vars) (sep : Str) (L : List Item) (i : Nat) (vars : Vars) (s : ScriptSt) :
    Prop where
  arg2 : vars.get jArg2 = some sep
  str : (vars.get jString).getD [] ++ joinAll sep ((L.drop i).map Item.render) = joinAll sep (L.map Item.render)
  clr : clear jScope vars = clear jScope vars0
  st : JSt s0 s 1 [ifEntry 5 16 jScope]
  e16 : s.endTable.get (lineKey jScope 16) = some fullNameEndIf

/-- what the loop (and the lines after it) leave -/
structure JLoopPost (s0 : ScriptSt) (vars0 : Vars) (sep : Str) (L : List Item) (r : BodyResult × Vars × ScriptSt) : Prop where
  res : r.1 = .finished (some (joinStr sep (L.map Item.render)))
  post : JBodyPost s0 r.2.2 1 ((if sep = [] then [] else [ifEntry 10 15 jScope]) ++ [ifEntry 5 16 jScope])
  clr : clear jScope r.2.1 = clear jScope vars0

/-- the loop from its `for` line to the END OF THE BODY, over the cells `L` (at least one) of the
    array `a`; `string` is still unset -/
theorem aj_loop (d : Nat) (s0 s : ScriptSt) (a sep : Str) (L : List Item) (vars0 vars : Vars) (fo : Option Str)
    (hS : ArgOK sep = true) (hL : L ≠ []) (hsize : (utf8Encode (joinAll sep (L.map Item.render))).length < Calc.two53)
    (hst : JSt s0 s 1 [ifEntry 5 16 jScope]) (hfs : s.forStack = s0.forStack) (hstale : NoStaleFor jScope s.forStack)
    (he16 : s.endTable.get (lineKey jScope 16) = some fullNameEndIf)
    (hv1 : vars.get jArg1 = some a) (hT : tget s.coll.tbl a = some (.list L)) (hv2 : vars.get jArg2 = some sep)
    (hstr : vars.get jString = none) (hclr : clear jScope vars = clear jScope vars0) :
    ∃ r, (∀ G, Ends (G + 2 + 2) (d + 3) ajIs (3 * L.length + 12) ⟨6, fo, vars, s⟩ r) ∧ JLoopPost s0 vars0 sep L r := by
  refine aj_block.run_ends (JIter s0 vars0 sep L) (2 + 2) 1 11 14 (by omega) ?_ ?_ ?_ ?_ hst.ctx
    (popFor_noStale 6 jScope _ hstale) hst.inv.c6 (by rw [hv1]; rfl) hT
    ⟨hv2, by rw [hstr]; rfl, hclr, hst.forSt,
      by rw [forSt_eq hst.ctx]; exact (get_put_lineKey_ne _ _ (by omega)).trans he16⟩
  · exact fun i vars s y h => ⟨by rw [get_set, if_neg (jNe .arg2 .item)]; exact h.arg2,
      by rw [get_set, if_neg (jNe .string .item)]; exact h.str,
      by rw [clear_set_under _ _ _ _ (ajVars.under .item)]; exact h.clr, h.st, h.e16⟩
  · exact fun i vars s st h => ⟨h.arg2, h.str, h.clr, ⟨h.st.inv, h.st.ifStack, h.st.next, h.st.tbl, h.st.ctx⟩, h.e16⟩
  · intro i x vars' s' fo' hx hS' _ hvI hJ
    right
    have hstr := hJ.str
    rw [drop_of_getElem? hx] at hstr
    simp only [List.map_cons, joinAll, ← List.append_assoc] at hstr
    refine ⟨some ((vars'.get jString).getD [] ++ x.render ++ sep),
      vars'.set jString ((vars'.get jString).getD [] ++ x.render ++ sep), s', fun G => ?_,
      ⟨hS'.ctx, hS'.endT, by rw [get_set, if_neg (jNe .arg1 .string)]; exact hS'.handle, hS'.cells⟩, rfl,
      by rw [get_set, if_neg (jNe .arg2 .string)]; exact hJ.arg2,
      by rw [get_set, if_pos rfl]; exact hstr,
      by rw [clear_set_under _ _ _ _ (ajVars.under .string)]; exact hJ.clr, hJ.st, hJ.e16⟩
    refine Steps.step (Steps.native (vals := [(vars'.get jString).getD [] ++ x.render ++ sep]) rfl rs_set
      (bind_eq aj_args.2.2.2.1 (by simp [tmplValue, Seg.value, hvI, hJ.arg2])) rfl) ?_
    exact Steps.refl _
  · intro vars' s' hS' hfs' hJ
    have hstr := hJ.str
    rw [List.drop_length] at hstr
    simp only [List.map_nil, joinAll, List.append_nil] at hstr
    have hne : L.map Item.render ≠ [] := by simpa using hL
    have he16' : ∀ b, (ifStP s' 10 15 b).endTable.get (lineKey jScope 16) = some fullNameEndIf := by
      intro b
      rw [ifStP_eq hS'.ctx]
      exact (get_put_lineKey_ne _ _ (by omega)).trans hJ.e16
    have hpost : ∀ b, JBodyPost s0 (ifStP s' 10 15 b) 1 ((if b then [ifEntry 10 15 jScope] else []) ++ [ifEntry 5 16 jScope]) :=
      fun b => (hJ.st.ifP 10 15 (Or.inr (Or.inr ⟨rfl, rfl⟩)) b).post (hfs'.trans hfs)
    have hif := fun G => aj_if10 (G := G) (d := d) (fo := none) hS hS'.ctx hJ.arg2 hJ.st.inv.c10
    by_cases hsep : sep = []
    · subst hsep
      simp only [if_true, ne_eq, not_true_eq_false, decide_false] at hif
      rw [joinAll_nil_sep] at hstr
      refine ⟨(.finished (some ((vars'.get jString).getD [])), vars', ifStP s' 10 15 false), fun G => ?_,
        by rw [hstr, joinStr_nil_sep], by simpa using hpost false, hJ.clr⟩
      refine Ends.mono (a := 6) ?_ (by omega)
      refine Ends.step (Steps.skip rfl) ?_
      refine Ends.step (hif G) ?_
      refine Ends.step (Steps.end_if rfl hS'.ctx (he16' false)) ?_
      exact aj_tail
    · simp only [hsep, if_false, ne_eq, not_false_eq_true, decide_true] at hif
      have hJ' : joinAll sep (L.map Item.render) = joinStr sep (L.map Item.render) ++ sep := joinAll_eq sep _ hne
      -- `string` is set by now: what it reads as ends in the (non-empty) separator
      have hstr5 : vars'.get jString = some (joinStr sep (L.map Item.render) ++ sep) := by
        rw [hJ'] at hstr
        cases hg : vars'.get jString with
        | none =>
          rw [hg] at hstr
          have := congrArg List.length hstr
          simp at this
          exact absurd (List.eq_nil_of_length_eq_zero (by omega)) hsep
        | some t =>
          rw [hg] at hstr
          exact congrArg some hstr
      refine ⟨(.finished (some (joinStr sep (L.map Item.render))),
        (((vars'.set jSepLen (natStr (utf8Encode sep).length)).set jStrLen
          (natStr (utf8Encode (joinStr sep (L.map Item.render) ++ sep)).length)).set jOffset
          (natStr (utf8Encode (joinStr sep (L.map Item.render))).length)).set jString (joinStr sep (L.map Item.render)),
        ifStP s' 10 15 true), fun G => ?_, rfl, by simpa [hsep] using hpost true, ?_⟩
      · refine Ends.step (Steps.skip rfl) ?_
        refine Ends.step (hif G) ?_
        refine (aj_trim hsep hJ.arg2 hstr5 (by rw [← hJ']; exact hsize)).ends (b := 5) ?_
        refine Ends.step (Steps.end_if rfl hS'.ctx (ifStP_endT hS'.ctx 10 15 true)) ?_
        refine Ends.step (Steps.end_if rfl hS'.ctx (he16' true)) ?_
        have ht := aj_tail (G := G + (2 + 2)) (d := d + 2 + 1) (s := ifStP s' 10 15 true) (fo := none)
          (vars := (((vars'.set jSepLen (natStr (utf8Encode sep).length)).set jStrLen
            (natStr (utf8Encode (joinStr sep (L.map Item.render) ++ sep)).length)).set jOffset
            (natStr (utf8Encode (joinStr sep (L.map Item.render))).length)).set jString (joinStr sep (L.map Item.render)))
        rw [get_set, if_pos rfl] at ht
        exact ht
      · rw [clear_set_under _ _ _ _ (ajVars.under .string), clear_set_under _ _ _ _ (ajVars.under .offset),
          clear_set_under _ _ _ _ (ajVars.under .strLen), clear_set_under _ _ _ _ (ajVars.under .sepLen)]
        exact hJ.clr

/-! ### the body -/

theorem JSt.refl (s : ScriptSt) (hctx : s.ctx = jScope) (hinv : JInv s s.ifMeta s.forMeta s.endTable) : JSt s s 0 [] :=
  ⟨hinv, rfl, rfl, fun _ => rfl, hctx⟩

section body
variable (d : Nat) (s : ScriptSt) (vars : Vars) (a : Str) (hX : ArgOK a = true) (hctx : s.ctx = jScope)
  (hv1 : vars.get jArg1 = some a) (hinv : JInv s s.ifMeta s.forMeta s.endTable)
include hX hctx hv1 hinv

/-- the argument names no array: `trigger_error` inside the first `if` block -/
theorem aj_body_err (hnl : ∀ l, tget s.coll.tbl a ≠ some (.list l)) :
    (∀ G, Ends (G + 2 + 2) (d + 3) ajIs 3 ⟨0, none, vars, s⟩ (.error sMsg, vars, ifStP s 1 3 true)) ∧
    JBodyPost s (ifStP s 1 3 true) 0 [ifEntry 1 3 jScope] := by
  refine ⟨fun G => ?_, ((JSt.refl s hctx hinv).ifP 1 3 (Or.inl ⟨rfl, rfl⟩) true).post rfl⟩
  refine Ends.step (Steps.skip rfl) ?_
  refine Ends.step (Steps.if_not_is_array_other (F := G + 2) (d := d + 1) rfl (aj_if1_args hv1) hX aj_findIf1 hctx hinv.c1 hnl) ?_
  exact Ends.native_error (vals := [sMsg]) rfl rs_trigger (bind_eq aj_args.2.1 (by simp only [List.map, tmplValue_lit])) rfl

/-- lines 0-5 when the argument names an array -/
theorem aj_pre (l : List Item) (hT : tget s.coll.tbl a = some (.list l))
    (hfree : tget s.coll.tbl (Coll.handleName s.coll.next) = none) :
    (∀ G, Steps (G + 2 + 2) (d + 3) ajIs 4 ⟨0, none, vars, s⟩
      ⟨if l = [] then 17 else 6, none, clear aieScope vars, aieSt (ifStP s 1 3 false) a (decide (l ≠ []))⟩) ∧
    JSt s (aieSt (ifStP s 1 3 false) a (decide (l ≠ []))) 1 (if l = [] then [] else [ifEntry 5 16 jScope]) ∧
    (aieSt (ifStP s 1 3 false) a (decide (l ≠ []))).endTable.get (lineKey jScope 16) = some fullNameEndIf := by
  have h1 := (JSt.refl s hctx hinv).ifP 1 3 (Or.inl ⟨rfl, rfl⟩) false
  have hne : a ≠ Coll.handleName s.coll.next := by intro e; rw [e, hfree] at hT; cases hT
  refine ⟨fun G => ?_, by simpa using h1.aie a (decide (l ≠ [])) hfree, by
    show (ifStP (ifStP s 1 3 false) 5 16 (decide (l ≠ []))).endTable.get _ = _
    exact ifStP_endT h1.ctx 5 16 _⟩
  refine Steps.step (Steps.skip rfl) ?_
  refine Steps.step (Steps.if_not_is_array_list (F := G + 2) (d := d + 1) rfl (aj_if1_args hv1) hX aj_findIf1 hctx hinv.c1 hT) ?_
  refine Steps.step (Steps.skip rfl) ?_
  refine Steps.step (aj_if5 (s := ifStP s 1 3 false) hX hctx hv1 h1.inv.c5 hT hne) ?_
  exact Steps.refl _

/-- the argument names an EMPTY array -/
theorem aj_body_empty (hT : tget s.coll.tbl a = some (.list []))
    (hfree : tget s.coll.tbl (Coll.handleName s.coll.next) = none) :
    (∀ G, Ends (G + 2 + 2) (d + 3) ajIs 7 ⟨0, none, vars, s⟩
      (.finished (some ((vars.get jString).getD [])), clear aieScope vars, aieSt (ifStP s 1 3 false) a false)) ∧
    JBodyPost s (aieSt (ifStP s 1 3 false) a false) 1 [] := by
  obtain ⟨hrun, hst, _⟩ := aj_pre d s vars a hX hctx hv1 hinv [] hT hfree
  refine ⟨fun G => ?_, hst.post rfl⟩
  have ht := aj_tail (G := G + 2 + 2) (d := d + 3) (s := aieSt (ifStP s 1 3 false) a false) (fo := none)
    (vars := clear aieScope vars)
  rw [get_clear, jOut .string] at ht
  exact (hrun G).ends ht

/-- the argument names an array with cells -/
theorem aj_body_cells (sep : Str) (x : Item) (rem : List Item) (hS : ArgOK sep = true)
    (hv2 : vars.get jArg2 = some sep) (hstr : vars.get jString = none)
    (hfree : tget s.coll.tbl (Coll.handleName s.coll.next) = none) (hstale : NoStaleFor jScope s.forStack)
    (hT : tget s.coll.tbl a = some (.list (x :: rem)))
    (hsize : (utf8Encode (joinAll sep ((x :: rem).map Item.render))).length < Calc.two53) :
    ∃ r, (∀ G, Ends (G + 2 + 2) (d + 3) ajIs (3 * (rem.length + 1) + 16) ⟨0, none, vars, s⟩ r) ∧
      JLoopPost s (clear aieScope vars) sep (x :: rem) r := by
  obtain ⟨hpre, hst, he16⟩ := aj_pre d s vars a hX hctx hv1 hinv (x :: rem) hT hfree
  simp only [reduceCtorEq, if_false, ne_eq, not_false_eq_true, decide_true] at hpre hst he16
  have hg : ∀ k : AjVar, (clear aieScope vars).get k.name = vars.get k.name := fun k => by rw [get_clear, jOut k]; rfl
  obtain ⟨r, hrun, hpost⟩ := aj_loop d s (aieSt (ifStP s 1 3 false) a true) a sep (x :: rem) (clear aieScope vars)
    (clear aieScope vars) none hS (by simp) hsize hst rfl hstale he16 ((hg .arg1).trans hv1)
    ((tget_mieSt s a a hfree).trans hT) ((hg .arg2).trans hv2) ((hg .string).trans hstr) rfl
  exact ⟨r, fun G => ((hpre G).ends (hrun G)).mono (by simp only [List.length_cons]; omega), hpost⟩

end body

/-! ### one call -/

/-- the answer of `array_join a sep` run from source -/
def ajRes (t : Table) (a sep : Str) : CmdResult :=
  match tget t a with
  | some (.list l) => .continue (some (joinStr sep (l.map Item.render)))
  | _ => .error sMsg

def ajIsArr (t : Table) (a : Str) : Bool :=
  match tget t a with
  | some (.list _) => true
  | _ => false

/-- the if-call entries that stay on the if call stack -/
def ajPushed (t : Table) (a sep : Str) : List IfCall :=
  match tget t a with
  | some (.list []) => []
  | some (.list (_ :: _)) => (if sep = [] then [] else [ifEntry 10 15 jScope]) ++ [ifEntry 5 16 jScope]
  | _ => [ifEntry 1 3 jScope]

theorem ajPushed_of_not {t : Table} {a sep : Str} (hnl : ∀ l, tget t a ≠ some (.list l)) :
    ajPushed t a sep = [ifEntry 1 3 jScope] := by
  unfold ajPushed
  split
  · next h => exact absurd h (hnl _)
  · next h => exact absurd h (hnl _)
  · rfl

/-- what one call leaves: the answer, the caller's table, the frame, the four cached block ends -/
structure JCallPost (st : ScriptSt) (vars : Vars) (a sep : Str) (r : CmdResult × Vars × ScriptSt) : Prop where
  res : r.1 = ajRes st.coll.tbl a sep
  tbl : LookupEq r.2.2.coll.tbl st.coll.tbl
  frame : LoopFrame jScope (if ajIsArr st.coll.tbl a then 2 else 1)
    (if ajIsArr st.coll.tbl a then clear jScope (clear aieScope vars) else clear jScope vars)
    (ajPushed st.coll.tbl a sep) st r
  c1 : IfCacheOK r.2.2.ifMeta (jKey 1) 3
  c5 : IfCacheOK r.2.2.ifMeta (jKey 5) 16
  c10 : IfCacheOK r.2.2.ifMeta (jKey 10) 15
  c6 : CacheOK r.2.2.forMeta (jKey 6) 8

theorem aj_alias_post (st : ScriptSt) (vars : Vars) (a sep : Str) (rest : List Str)
    (hfree : tget st.coll.tbl (Coll.handleName st.coll.next) = none)
    (br : BodyResult) (vars' : Vars) (s' : ScriptSt) (alloc : Nat) (pushed : List IfCall)
    (hpost : JBodyPost (pubSt jScope (a :: sep :: rest) st) s' alloc pushed)
    (hres : resultOf br = ajRes st.coll.tbl a sep)
    (halloc : alloc + 1 = if ajIsArr st.coll.tbl a then 2 else 1)
    (hvars : clear jScope vars' = if ajIsArr st.coll.tbl a then clear jScope (clear aieScope vars) else clear jScope vars)
    (hpushed : pushed = ajPushed st.coll.tbl a sep) :
    JCallPost st vars a sep
      (resultOf br, clear jScope vars',
        { s' with coll := { tbl := tremove s'.coll.tbl (Coll.handleName st.coll.next), next := s'.coll.next },
                  ctx := st.ctx }) := by
  refine ⟨hres, lookupEq_unpublish jScope st _ hfree (fun k _ => hpost.tbl k),
    ⟨hvars, ?_, rfl, ?_, hpost.forStack, hpost.inv.ifMeta, hpost.inv.forMeta, hpost.inv.endTable⟩,
    hpost.inv.c1, hpost.inv.c5, hpost.inv.c10, hpost.inv.c6⟩
  · show s'.coll.next = _
    rw [hpost.next, ← halloc]
    show st.coll.next + 1 + alloc = _
    omega
  · show s'.ifStack = _
    rw [hpost.ifStack, hpushed]; rfl

/-- one call with at least two arguments, uniformly in the instruction budget -/
theorem aj_call (depth : Nat) (a sep : Str) (rest : List Str) (vars : Vars) (st : ScriptSt)
    (hfree : tget st.coll.tbl (Coll.handleName st.coll.next) = none)
    (hfree1 : tget st.coll.tbl (Coll.handleName (st.coll.next + 1)) = none)
    (hne : a ≠ Coll.handleName st.coll.next)
    (hok : ArgOK a = true) (hS : ArgOK sep = true)
    (hstale : NoStaleFor jScope st.forStack)
    (hc1 : IfCacheOK st.ifMeta (jKey 1) 3) (hc5 : IfCacheOK st.ifMeta (jKey 5) 16)
    (hc10 : IfCacheOK st.ifMeta (jKey 10) 15) (hc6 : CacheOK st.forMeta (jKey 6) 8)
    (hstr : vars.get jString = none)
    (hsize : ∀ l, tget st.coll.tbl a = some (.list l) → (utf8Encode (joinAll sep (l.map Item.render))).length < Calc.two53) :
    ∃ r, (∀ k, runScriptCmdF (depth + 3) (k + 3 * arrLen st.coll.tbl a + 16) "array_join".toList
            (a :: sep :: rest) vars st = r) ∧
      JCallPost st vars a sep r := by
  -- the variables and the state a body starts from
  have ha1 : Vars.get (pubVars jScope (a :: sep :: rest) vars st) jArg1 = some a := jArg1_eq ▸ get_pubVars_arg1 ..
  have ha2 : Vars.get (pubVars jScope (a :: sep :: rest) vars st) jArg2 = some sep := jArg2_eq ▸ get_pubVars_arg2 ..
  have hstr' := (get_pubVars_jString (a :: sep :: rest) vars st).trans hstr
  have hTa : tget (pubSt jScope (a :: sep :: rest) st).coll.tbl a = tget st.coll.tbl a := tget_pubSt_ne jScope st _ hne
  have hfreeS := tget_pubSt_next jScope st (a :: sep :: rest) hfree1
  have hinv : JInv (pubSt jScope (a :: sep :: rest) st) (pubSt jScope (a :: sep :: rest) st).ifMeta
      (pubSt jScope (a :: sep :: rest) st).forMeta (pubSt jScope (a :: sep :: rest) st).endTable :=
    ⟨fun _ _ => rfl, fun _ _ => rfl, fun _ _ => rfl, hc1, hc5, hc10, hc6⟩
  -- the wrapper around a body that ends within the budget
  have hwrap : ∀ {br : BodyResult} {vars' : Vars} {s' : ScriptSt} {n : Nat}, n ≤ 3 * arrLen st.coll.tbl a + 16 →
      (∀ G, Ends (G + 2 + 2) (depth + 3) ajIs n
        ⟨0, none, pubVars jScope (a :: sep :: rest) vars st, pubSt jScope (a :: sep :: rest) st⟩ (br, vars', s')) →
      (clear jScope vars').length ≤ vars.length → ∀ k,
      runScriptCmdF (depth + 3) (k + 3 * arrLen st.coll.tbl a + 16) "array_join".toList (a :: sep :: rest) vars st =
        (resultOf br, clear jScope vars',
          { s' with coll := { tbl := tremove s'.coll.tbl (Coll.handleName st.coll.next), next := s'.coll.next },
                    ctx := st.ctx }) := by
    intro br vars' s' n hn hrun hlen k
    rw [Nat.add_assoc]
    exact runScriptCmdF_of_ends (findScript_of_resolve rs_array_join) aj_parses (F0 := 2 + 2)
      (by show ¬ (a :: sep :: rest).length < 2; simp) (by simp) (by omega) hn hrun hlen k
  have hclr : clear jScope (clear aieScope (pubVars jScope (a :: sep :: rest) vars st)) =
      clear jScope (clear aieScope vars) := by
    rw [clear_comm, clear_pubVars, clear_comm]
  have hlen2 : (clear jScope (clear aieScope vars)).length ≤ vars.length :=
    Nat.le_trans (clear_length_le _ _) (clear_length_le _ _)
  rcases list_or_not st.coll.tbl a with ⟨l, hv⟩ | hnl
  · have harr : ajIsArr st.coll.tbl a = true := by unfold ajIsArr; rw [hv]
    cases l with
    | nil =>
      obtain ⟨hrun, hpost⟩ := aj_body_empty depth _ _ a hok rfl ha1 hinv (by rw [hTa, hv]) hfreeS
      rw [hstr'] at hrun
      exact ⟨_, hwrap (by omega) hrun (by rw [hclr]; exact hlen2),
        aj_alias_post st vars a sep rest hfree _ _ _ 1 _ hpost (by unfold ajRes; rw [hv]; rfl) (by rw [harr]; rfl)
          (by rw [harr, hclr]; rfl) (by unfold ajPushed; rw [hv])⟩
    | cons x rem =>
      obtain ⟨⟨br, vars', s'⟩, hrun, hres, hpost, hclr'⟩ := aj_body_cells depth _ _ a hok rfl ha1 hinv sep x rem hS ha2
        hstr' hfreeS hstale (by rw [hTa, hv]) (hsize _ hv)
      rw [hclr] at hclr'
      simp only at hres
      subst hres
      exact ⟨_, hwrap (by simp [arrLen, hv]) hrun (by rw [hclr']; exact hlen2),
        aj_alias_post st vars a sep rest hfree _ _ _ 1 _ hpost (by unfold ajRes; rw [hv]; rfl) (by rw [harr]; rfl)
          (by rw [harr, hclr']; rfl) (by unfold ajPushed; rw [hv])⟩
  · obtain ⟨hrun, hpost⟩ := aj_body_err depth _ _ a hok rfl ha1 hinv (fun l => by rw [hTa]; exact hnl l)
    have harr : ajIsArr st.coll.tbl a = false := match_list_of_not hnl _ _
    exact ⟨_, hwrap (by omega) hrun (by rw [clear_pubVars]; exact clear_length_le _ _),
      aj_alias_post st vars a sep rest hfree (.error sMsg) _ _ 0 _ hpost (match_list_of_not hnl _ _).symm (by rw [harr]; rfl)
        (by rw [harr]; exact clear_pubVars jScope (a :: sep :: rest) vars st) (ajPushed_of_not hnl).symm⟩

/-- the size hypothesis in terms of the specified answer: the joined text plus one separator has
    fewer than 2^53 bytes (then `calc ${stringlen} - ${separatorlen}` is exact) -/
theorem aj_size (sep : Str) (cells : List Str)
    (h : (utf8Encode (joinStr sep cells)).length + (utf8Encode sep).length < Calc.two53) :
    (utf8Encode (joinAll sep cells)).length < Calc.two53 := by
  cases cells with
  | nil => unfold Calc.two53; simp [joinAll, utf8Encode_nil]
  | cons x r =>
    rw [joinAll_eq sep (x :: r) (by simp), utf8Encode_append, List.length_append]
    exact h

end Duck.ScriptRun
