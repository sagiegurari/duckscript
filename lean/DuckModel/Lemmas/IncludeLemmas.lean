/-
  C14 — definitions that tie the parser model to the inlining specification, and the lemmas
  behind Props/C14.lean.
-/
import DuckModel.Spec.Inline
import DuckModel.Lemmas.ParserLemmas

namespace Duck
open Duck.Spec

/-! ### bridging definitions -/

/-- the lines the parser treats as include directives, with the files they list -/
def includeDirective (l : Str) : Option (List Str) :=
  match parseLine l with
  | .ok (.preProcess (some c) a) => if c = includeName then some (a.getD []) else none
  | _ => none

/-- the specification's world over an abstract file system: paths written in a directive of
    `f` are resolved with `f` as the including file -/
def worldOf (fs : Fs) : World :=
  { read := fs.read, resolve := fun f a => fs.resolve (some f) a, directive := includeDirective }

def isDirective (i : Instruction) : Bool :=
  match i.ty with
  | .preProcess (some c) _ => decide (c = includeName)
  | _ => false

/-- the instruction list without the (run-time no-op) include directive instructions -/
def stripDirectives (is : List Instruction) : List Instruction := is.filter (fun i => !isDirective i)

def mapOk {ε α β : Type} (f : α → β) : Except ε α → Except ε β
  | .ok a => .ok (f a)
  | .error e => .error e

/-- first failure wins, otherwise concatenation -/
def seqE (a b : Except ParseFail (List Instruction)) : Except ParseFail (List Instruction) :=
  match a with
  | .error e => .error e
  | .ok x =>
    match b with
    | .error e => .error e
    | .ok y => .ok (x ++ y)

/-- what a line of the INLINED text gives when it is parsed on its own: its instruction type, or
    the error kind (malformed line, `!` without command, unknown directive).  The inlined text has
    no include directives left, so one is an unknown directive here. -/
def lineOutcome (l : Str) : Except PErr InstrType :=
  match parseLine l with
  | .error k => .error k
  | .ok (.preProcess none _) => .error .preProcessNoCommandFound
  | .ok (.preProcess (some c) a) =>
    if c = printName then .ok (.preProcess (some c) a) else .error .unknownPreProcessorCommand
  | .ok ty => .ok ty

/-- a line that is accepted when parsed on its own (well-formed, and a known directive if it
    is a directive) -/
def LineWellFormed (l : Str) : Prop := ∃ ty, lineOutcome l = .ok ty

/-- parse the inlined lines one by one, each instruction carrying its provenance;
    the first line that fails fails everything, with its provenance -/
def parseEach : List (Meta × Str) → Except ParseFail (List Instruction)
  | [] => .ok []
  | (m, l) :: rest =>
    match lineOutcome l with
    | .error k => .error ⟨k, m⟩
    | .ok ty =>
      match parseEach rest with
      | .error e => .error e
      | .ok r => .ok (⟨m, ty⟩ :: r)

def stopFail : Stop → ParseFail
  | .missing p => ⟨.errorReadingFile p, {}⟩
  | .depth => depthExceeded

/-- the parse the property demands for an inlining result -/
def parseInlined (x : Inlined) : Except ParseFail (List Instruction) :=
  match parseEach x.1 with
  | .error e => .error e
  | .ok is =>
    match x.2 with
    | none => .ok is
    | some s => .error (stopFail s)

/-- where an instruction claims to come from is a line of a readable file that parses to it -/
def Provenance (fs : Fs) (i : Instruction) : Prop :=
  ∃ f text k l, i.mi = { line := some k, source := some f } ∧ fs.read f = some text ∧
    1 ≤ k ∧ k ≤ (lines text).length ∧ (lines text)[k - 1]? = some l ∧ parseLine l = .ok i.ty

/-! ### seqE / mapOk algebra -/

theorem seqE_assoc (a b c : Except ParseFail (List Instruction)) :
    seqE (seqE a b) c = seqE a (seqE b c) := by
  cases a <;> cases b <;> cases c <;> simp [seqE]

theorem mapOk_strip_seqE (a b : Except ParseFail (List Instruction)) :
    mapOk stripDirectives (seqE a b) = seqE (mapOk stripDirectives a) (mapOk stripDirectives b) := by
  cases a <;> cases b <;> simp [seqE, mapOk, stripDirectives]

theorem seqE_ok_iff (a b : Except ParseFail (List Instruction)) (is : List Instruction) :
    seqE a b = .ok is ↔ ∃ x y, a = .ok x ∧ b = .ok y ∧ is = x ++ y := by
  cases a <;> cases b <;> simp [seqE, eq_comm]

/-! ### the parser's loop in sequence form -/

/-- what one line contributes in `parse_lines` -/
def lineStep (inc : Str → Except ParseFail (List Instruction)) (fs : Fs) (src : Option Str)
    (n : Nat) (l : Str) : Except ParseFail (List Instruction) :=
  match parseLine l with
  | .error k => .error ⟨k, { line := some n, source := src }⟩
  | .ok ty =>
    match ty with
    | .preProcess cmd args =>
      match runPre inc fs { line := some n, source := src } cmd args with
      | .error e => .error e
      | .ok added => .ok (⟨{ line := some n, source := src }, ty⟩ :: added)
    | _ => .ok [⟨{ line := some n, source := src }, ty⟩]

theorem parseLinesWith_cons_seq (inc : Str → Except ParseFail (List Instruction)) (fs : Fs)
    (src : Option Str) (n : Nat) (l : Str) (ls : List Str) :
    parseLinesWith inc fs src n (l :: ls) =
      seqE (lineStep inc fs src n l) (parseLinesWith inc fs src (n + 1) ls) := by
  rw [parseLinesWith, lineStep]
  cases hpl : parseLine l with
  | error k => simp [seqE]
  | ok ty =>
    cases ty with
    | empty => simp only [seqE]; cases parseLinesWith inc fs src (n + 1) ls <;> rfl
    | script s => simp only [seqE]; cases parseLinesWith inc fs src (n + 1) ls <;> rfl
    | preProcess cmd args =>
      simp only
      cases runPre inc fs { line := some n, source := src } cmd args with
      | error e => simp [seqE]
      | ok added =>
        simp only [seqE]
        cases parseLinesWith inc fs src (n + 1) ls <;> simp

theorem includeFiles_cons_seq (inc : Str → Except ParseFail (List Instruction)) (fs : Fs)
    (src : Option Str) (a : Str) (as : List Str) :
    includeFiles inc fs src (a :: as) =
      seqE (inc (fs.resolve src a)) (includeFiles inc fs src as) := by
  rw [includeFiles]
  cases inc (fs.resolve src a) with
  | error e => simp [seqE]
  | ok is => simp only [seqE]; cases includeFiles inc fs src as <;> rfl

theorem printName_ne_includeName : printName ≠ includeName := by decide

/-- the classes of a parsed line that `lineStep`, `lineOutcome` and `includeDirective` tell apart -/
theorem parsedLine_cases {motive : Except PErr InstrType → Prop} (r : Except PErr InstrType)
    (error : ∀ k, motive (.error k)) (empty : motive (.ok .empty))
    (script : ∀ s, motive (.ok (.script s)))
    (noCommand : ∀ a, motive (.ok (.preProcess none a)))
    (print : ∀ a, motive (.ok (.preProcess (some printName) a)))
    (incl : ∀ a, motive (.ok (.preProcess (some includeName) a)))
    (unknown : ∀ c a, c ≠ printName → c ≠ includeName → motive (.ok (.preProcess (some c) a))) :
    motive r :=
  match r with
  | .error k => error k
  | .ok .empty => empty
  | .ok (.script s) => script s
  | .ok (.preProcess none a) => noCommand a
  | .ok (.preProcess (some c) a) =>
    if h1 : c = printName then h1 ▸ print a
    else if h2 : c = includeName then h2 ▸ incl a
    else unknown c a h1 h2

theorem runPre_include (inc : Str → Except ParseFail (List Instruction)) (fs : Fs) (m : Meta)
    (args : Option (List Str)) :
    runPre inc fs m (some includeName) args = includeFiles inc fs m.source (args.getD []) := by
  simp [runPre, printName_ne_includeName.symm]

/-! ### specification side -/

theorem parseEach_append (a b : List (Meta × Str)) :
    parseEach (a ++ b) = seqE (parseEach a) (parseEach b) := by
  induction a with
  | nil => rw [List.nil_append]; cases h : parseEach b <;> simp [parseEach, seqE]
  | cons x a ih =>
    obtain ⟨m, l⟩ := x
    simp only [List.cons_append, parseEach]
    cases lineOutcome l with
    | error k => simp [seqE]
    | ok ty =>
      simp only [ih]
      cases parseEach a <;> cases parseEach b <;> simp [seqE]

theorem parseInlined_seq (a b : Inlined) :
    parseInlined (a.seq b) = seqE (parseInlined a) (parseInlined b) := by
  obtain ⟨al, as⟩ := a
  obtain ⟨bl, bs⟩ := b
  cases as with
  | some s =>
    simp only [Inlined.seq, parseInlined]
    cases parseEach al <;> simp [seqE]
  | none =>
    simp only [Inlined.seq, parseInlined, parseEach_append]
    cases parseEach al <;> cases parseEach bl <;> cases bs <;> simp [seqE]

theorem parseInlined_nil : parseInlined ([], none) = .ok [] := rfl

/-! ### the master equation -/

theorem includeFiles_eq_inlineArgs (inc : Str → Except ParseFail (List Instruction))
    (incS : Str → Inlined) (fs : Fs) (src : Option Str)
    (H : ∀ f, mapOk stripDirectives (inc f) = parseInlined (incS f)) (as : List Str) :
    mapOk stripDirectives (includeFiles inc fs src as) =
      parseInlined (inlineArgs incS (fun a => fs.resolve src a) as) := by
  induction as with
  | nil => simp [includeFiles, inlineArgs, mapOk, stripDirectives, parseInlined, parseEach]
  | cons a as ih =>
    rw [includeFiles_cons_seq, mapOk_strip_seqE, H, ih]
    simp only [inlineArgs]
    rw [parseInlined_seq]

theorem lineStep_eq_spec (inc : Str → Except ParseFail (List Instruction))
    (incS : Str → Inlined) (fs : Fs) (file : Str)
    (H : ∀ f, mapOk stripDirectives (inc f) = parseInlined (incS f)) (n : Nat) (l : Str) :
    mapOk stripDirectives (lineStep inc fs (some file) n l) =
      parseInlined (match includeDirective l with
        | some args => inlineArgs incS (fun a => fs.resolve (some file) a) args
        | none => ([({ line := some n, source := some file }, l)], none)) := by
  unfold lineStep includeDirective
  cases hpl : parseLine l using parsedLine_cases with
  | error k => simp [mapOk, parseInlined, parseEach, lineOutcome, hpl]
  | empty => simp [mapOk, parseInlined, parseEach, lineOutcome, hpl, stripDirectives, isDirective]
  | script s => simp [mapOk, parseInlined, parseEach, lineOutcome, hpl, stripDirectives, isDirective]
  | noCommand a => simp [runPre, mapOk, parseInlined, parseEach, lineOutcome, hpl]
  | print a =>
    simp [runPre, mapOk, parseInlined, parseEach, lineOutcome, hpl, stripDirectives, isDirective,
      printName_ne_includeName]
  | incl a =>
    simp only [runPre_include, if_true]
    rw [← includeFiles_eq_inlineArgs inc incS fs (some file) H (a.getD [])]
    cases includeFiles inc fs (some file) (a.getD []) with
    | error e => simp [mapOk]
    | ok added => simp [mapOk, stripDirectives, isDirective]
  | unknown c a h1 h2 => simp [runPre, mapOk, parseInlined, parseEach, lineOutcome, hpl, h1, h2]

theorem parseLinesWith_eq_inlineLines (inc : Str → Except ParseFail (List Instruction))
    (incS : Str → Inlined) (fs : Fs) (file : Str)
    (H : ∀ f, mapOk stripDirectives (inc f) = parseInlined (incS f)) (ls : List Str) :
    ∀ n, mapOk stripDirectives (parseLinesWith inc fs (some file) n ls) =
      parseInlined (inlineLines (worldOf fs) incS file n ls) := by
  induction ls with
  | nil => intro n; simp [parseLinesWith, inlineLines, mapOk, stripDirectives, parseInlined, parseEach]
  | cons l ls ih =>
    intro n
    rw [parseLinesWith_cons_seq, mapOk_strip_seqE, ih (n + 1), lineStep_eq_spec inc incS fs file H]
    simp only [inlineLines, worldOf]
    cases includeDirective l with
    | some args => simp only []; rw [parseInlined_seq]
    | none => simp only []; rw [parseInlined_seq]

theorem parseFileF_eq_inline (fs : Fs) :
    ∀ (fuel : Nat) (file : Str),
      mapOk stripDirectives (parseFileF fs fuel file) = parseInlined (inline (worldOf fs) fuel file) := by
  intro fuel
  induction fuel with
  | zero => intro file; simp [parseFileF, Spec.inline, mapOk, parseInlined, parseEach, stopFail]
  | succ fuel ih =>
    intro file
    rw [parseFileF, Spec.inline]
    simp only [worldOf]
    cases hr : fs.read file with
    | none => simp [mapOk, parseInlined, parseEach, stopFail]
    | some text =>
      simp only []
      exact parseLinesWith_eq_inlineLines (parseFileF fs fuel) (inline (worldOf fs) fuel) fs file ih
        (lines text) 1

/-! ### provenance (directly on the parser model) -/

theorem includeFiles_mem (inc : Str → Except ParseFail (List Instruction)) (fs : Fs)
    (src : Option Str) (as : List Str) :
    ∀ added, includeFiles inc fs src as = .ok added →
      ∀ i ∈ added, ∃ a ∈ as, ∃ is', inc (fs.resolve src a) = .ok is' ∧ i ∈ is' := by
  induction as with
  | nil => intro added h; simp [includeFiles] at h; subst h; simp
  | cons a as ih =>
    intro added h i hi
    rw [includeFiles_cons_seq, seqE_ok_iff] at h
    obtain ⟨x, y, hx, hy, rfl⟩ := h
    rcases List.mem_append.mp hi with hi | hi
    · exact ⟨a, by simp, x, hx, hi⟩
    · obtain ⟨a', ha', is', h1, h2⟩ := ih y hy i hi
      exact ⟨a', by simp [ha'], is', h1, h2⟩

theorem lineStep_mem (inc : Str → Except ParseFail (List Instruction)) (fs : Fs) (src : Option Str)
    (n : Nat) (l : Str) (x : List Instruction) (h : lineStep inc fs src n l = .ok x) :
    ∀ i ∈ x, (i.mi = { line := some n, source := src } ∧ parseLine l = .ok i.ty) ∨
      ∃ f is', inc f = .ok is' ∧ i ∈ is' := by
  unfold lineStep at h
  cases hpl : parseLine l using parsedLine_cases with
  | error k | noCommand a | unknown c a h1 h2 => simp [runPre, *] at h
  | empty | script s | print a =>
    simp [hpl, runPre] at h
    subst h
    intro i hi
    simp at hi
    subst hi
    exact Or.inl ⟨rfl, rfl⟩
  | incl a =>
    simp only [hpl, runPre_include] at h
    cases hrp : includeFiles inc fs src (a.getD []) with
    | error e => simp [hrp] at h
    | ok added =>
      simp only [hrp] at h
      cases h
      intro i hi
      rcases List.mem_cons.mp hi with rfl | h0
      · exact Or.inl ⟨rfl, rfl⟩
      · obtain ⟨_, _, is', h3, h4⟩ := includeFiles_mem inc fs src _ added hrp i h0
        exact Or.inr ⟨_, is', h3, h4⟩

theorem parseLinesWith_provenance (inc : Str → Except ParseFail (List Instruction)) (fs : Fs)
    (file text : Str) (hread : fs.read file = some text)
    (H : ∀ f is', inc f = .ok is' → ∀ i ∈ is', Provenance fs i) (ls : List Str) :
    ∀ (pre : List Str) (n : Nat) (is : List Instruction), lines text = pre ++ ls →
      n = pre.length + 1 → parseLinesWith inc fs (some file) n ls = .ok is →
      ∀ i ∈ is, Provenance fs i := by
  induction ls with
  | nil => intro pre n is _ _ h; simp [parseLinesWith] at h; subst h; simp
  | cons l ls ih =>
    intro pre n is hl hn h i hi
    rw [parseLinesWith_cons_seq, seqE_ok_iff] at h
    obtain ⟨x, y, hx, hy, rfl⟩ := h
    rcases List.mem_append.mp hi with hi | hi
    · rcases lineStep_mem inc fs (some file) n l x hx i hi with ⟨hm, hp⟩ | ⟨f, is', h1, h2⟩
      · refine ⟨file, text, n, l, hm, hread, by omega, ?_, ?_, hp⟩
        · rw [hl]; simp; omega
        · rw [hl, hn]; simp
      · exact H f is' h1 i h2
    · exact ih (pre ++ [l]) (n + 1) y (by simp [hl]) (by simp [hn]) hy i hi

theorem parseFileF_provenance (fs : Fs) :
    ∀ (fuel : Nat) (file : Str) (is : List Instruction), parseFileF fs fuel file = .ok is →
      ∀ i ∈ is, Provenance fs i := by
  intro fuel
  induction fuel with
  | zero => intro file is h; simp [parseFileF] at h
  | succ fuel ih =>
    intro file is h
    rw [parseFileF] at h
    cases hr : fs.read file with
    | none => simp [hr] at h
    | some text =>
      simp only [hr] at h
      exact parseLinesWith_provenance (parseFileF fs fuel) fs file text hr
        (fun f is' hf => ih f is' hf) (lines text) [] 1 is (by simp) (by simp) h

/-! ### provenance of the inlined lines (specification side) -/

/-- an inlined line is the `k`-th line of the readable file it names -/
def LineProvenance (w : World) (p : Meta × Str) : Prop :=
  ∃ f text k, p.1 = { line := some k, source := some f } ∧ w.read f = some text ∧
    1 ≤ k ∧ (lines text)[k - 1]? = some p.2

theorem seq_mem (a b : Inlined) (p : Meta × Str) (h : p ∈ (a.seq b).1) : p ∈ a.1 ∨ p ∈ b.1 := by
  obtain ⟨al, as⟩ := a
  cases as with
  | some s => simp [Inlined.seq] at h; exact Or.inl h
  | none => simp [Inlined.seq] at h; exact h

theorem inlineArgs_provenance (w : World) (incS : Str → Inlined) (res : Str → Str)
    (H : ∀ f, ∀ p ∈ (incS f).1, LineProvenance w p) (as : List Str) :
    ∀ p ∈ (inlineArgs incS res as).1, LineProvenance w p := by
  induction as with
  | nil => intro p hp; simp [inlineArgs] at hp
  | cons a as ih =>
    intro p hp
    simp only [inlineArgs] at hp
    rcases seq_mem _ _ p hp with h | h
    · exact H _ p h
    · exact ih p h

theorem inlineLines_provenance (w : World) (incS : Str → Inlined) (file text : Str)
    (hread : w.read file = some text)
    (H : ∀ f, ∀ p ∈ (incS f).1, LineProvenance w p) (ls : List Str) :
    ∀ (pre : List Str) (n : Nat), lines text = pre ++ ls → n = pre.length + 1 →
      ∀ p ∈ (inlineLines w incS file n ls).1, LineProvenance w p := by
  induction ls with
  | nil => intro pre n _ _ p hp; simp [inlineLines] at hp
  | cons l ls ih =>
    intro pre n hl hn p hp
    simp only [inlineLines] at hp
    have hrest := ih (pre ++ [l]) (n + 1) (by simp [hl]) (by simp [hn])
    cases hd : w.directive l with
    | some args =>
      simp only [hd] at hp
      rcases seq_mem _ _ p hp with h | h
      · exact inlineArgs_provenance w incS _ H args p h
      · exact hrest p h
    | none =>
      simp only [hd] at hp
      rcases seq_mem _ _ p hp with h | h
      · simp at h
        subst h
        refine ⟨file, text, n, rfl, hread, by omega, ?_⟩
        rw [hl, hn]; simp
      · exact hrest p h

theorem inline_provenance (w : World) :
    ∀ (fuel : Nat) (file : Str), ∀ p ∈ (inline w fuel file).1, LineProvenance w p := by
  intro fuel
  induction fuel with
  | zero => intro file p hp; simp [Spec.inline] at hp
  | succ fuel ih =>
    intro file p hp
    rw [Spec.inline] at hp
    cases hr : w.read file with
    | none => simp [hr] at hp
    | some text =>
      simp only [hr] at hp
      exact inlineLines_provenance w (inline w fuel) file text hr ih (lines text) [] 1 (by simp)
        (by simp) p hp

/-! ### parseEach on well-formed / malformed lines -/

theorem parseEach_all_ok (ls : List (Meta × Str))
    (h : ∀ p ∈ ls, ∃ ty, lineOutcome p.2 = .ok ty) :
    ∃ is, parseEach ls = .ok is ∧ is.length = ls.length ∧
      ∀ k (h1 : k < is.length) (h2 : k < ls.length),
        (is[k]).mi = (ls[k]).1 ∧ lineOutcome (ls[k]).2 = .ok (is[k]).ty := by
  induction ls with
  | nil => exact ⟨[], rfl, rfl, by intro k h1; simp at h1⟩
  | cons x ls ih =>
    obtain ⟨m, l⟩ := x
    obtain ⟨ty, hty⟩ := h (m, l) (by simp)
    obtain ⟨r, hr, hlen, hk⟩ := ih (fun p hp => h p (by simp [hp]))
    refine ⟨⟨m, ty⟩ :: r, by simp [parseEach, hty, hr], by simp [hlen], ?_⟩
    intro k h1 h2
    cases k with
    | zero => exact ⟨rfl, hty⟩
    | succ k => simpa using hk k (by simpa using h1) (by simpa using h2)

theorem parseEach_first_error (pre post : List (Meta × Str)) (m : Meta) (bad : Str) (k : PErr)
    (hpre : ∀ p ∈ pre, ∃ ty, lineOutcome p.2 = .ok ty) (hbad : lineOutcome bad = .error k) :
    parseEach (pre ++ (m, bad) :: post) = .error ⟨k, m⟩ := by
  obtain ⟨is, his, _, _⟩ := parseEach_all_ok pre hpre
  rw [parseEach_append, his]
  simp [parseEach, hbad, seqE]


/-! ### the instruction of an inlined line; inversions of `lineOutcome` and `includeDirective` -/

/-- the instruction of an inlined line: its own parse with its provenance as meta info
    (`.empty` for a line that does not parse; only used where every line does) -/
def instrOf (p : Meta × Str) : Instruction :=
  ⟨p.1, match parseLine p.2 with
        | .ok ty => ty
        | .error _ => .empty⟩

theorem lineOutcome_ok (l : Str) (ty : InstrType) (h : lineOutcome l = .ok ty) :
    parseLine l = .ok ty := by
  unfold lineOutcome at h
  cases hp : parseLine l using parsedLine_cases with
  | error k | noCommand a | incl a | unknown c a h1 h2 =>
    simp [printName_ne_includeName.symm, *] at h
  | empty | script s | print a => simpa [hp] using h

theorem parseEach_map (ls : List (Meta × Str)) :
    ∀ is, parseEach ls = .ok is → is = ls.map instrOf := by
  induction ls with
  | nil => intro is h; simp [parseEach] at h; simp [h]
  | cons x ls ih =>
    obtain ⟨m, l⟩ := x
    intro is h
    simp only [parseEach] at h
    cases ho : lineOutcome l with
    | error k => simp [ho] at h
    | ok ty =>
      simp only [ho] at h
      cases hr : parseEach ls with
      | error e => simp [hr] at h
      | ok r =>
        simp only [hr, Except.ok.injEq] at h
        subst h
        simp [instrOf, lineOutcome_ok l ty ho, ih r hr]

/-- when the inlining succeeds and every inlined line is accepted on its own, the parse succeeds
    and its non-include-directive instructions are the instructions of the inlined lines -/
theorem inline_strip (fs : Fs) (fuel : Nat) (root : Str) (ls : List (Meta × Str))
    (hin : Spec.inline (worldOf fs) fuel root = (ls, none))
    (hok : ∀ p ∈ ls, LineWellFormed p.2) :
    ∃ is, parseFileF fs fuel root = .ok is ∧ stripDirectives is = ls.map instrOf := by
  have h := parseFileF_eq_inline fs fuel root
  rw [hin] at h
  obtain ⟨is', his', _, _⟩ := parseEach_all_ok ls hok
  simp only [parseInlined, his'] at h
  cases hp : parseFileF fs fuel root with
  | error e => simp [hp, mapOk] at h
  | ok is =>
    simp only [hp, mapOk, Except.ok.injEq] at h
    refine ⟨is, rfl, ?_⟩
    rw [h]
    exact parseEach_map ls is' his'

theorem mapOk_error {α β : Type} (f : α → β) (x : Except ParseFail α) {e : ParseFail}
    (h : mapOk f x = .error e) : x = .error e := by
  cases x with
  | error e' => simpa [mapOk] using h
  | ok a => simp [mapOk] at h

theorem includeDirective_some (d : Str) (as : List Str) (h : includeDirective d = some as) :
    ∃ args, parseLine d = .ok (.preProcess (some includeName) args) ∧ args.getD [] = as := by
  unfold includeDirective at h
  cases hp : parseLine d using parsedLine_cases with
  | incl a => exact ⟨a, rfl, by simpa [hp] using h⟩
  | error k | empty | script s | noCommand a | print a | unknown c a h1 h2 =>
    simp [printName_ne_includeName, *] at h

theorem includeFiles_append_error (inc : Str → Except ParseFail (List Instruction)) (fs : Fs)
    (src : Option Str) (as bs : List Str) (a : Str) (e : ParseFail)
    (has : ∀ x ∈ as, ∃ is, inc (fs.resolve src x) = .ok is)
    (herr : inc (fs.resolve src a) = .error e) :
    includeFiles inc fs src (as ++ a :: bs) = .error e := by
  induction as with
  | nil => simp [includeFiles_cons_seq, herr, seqE]
  | cons x as ih =>
    obtain ⟨is, his⟩ := has x (by simp)
    rw [List.cons_append, includeFiles_cons_seq, his, ih (fun y hy => has y (by simp [hy]))]
    rfl


/-! ### a written directive is recognised with its arguments as written -/

/-- an include directive as it is written: `!include_files` and the rendered arguments -/
def renderDirective (ch : List (Nat × Bool)) (args : List Str) : Str :=
  '!' :: (includeName ++ renderArgs ch 0 args)

theorem parseArgsLoop_after_command (ch : List (Nat × Bool)) (a : Str) (as : List Str) :
    parseArgsLoop false (spaces (argChoice ch 0).1 ++
      (renderArg (argChoice ch 0).2 a ++ renderArgs ch 1 as)) = .ok (a :: as) := by
  have ht : EolTail [] := EolTail.nil
  obtain ⟨r, hr, hcase⟩ := parseNextValue_renderArg (argChoice ch 0).2 a
    (renderArgs ch 1 as ++ []) (renderArgs_bnd ch 1 as ht)
  obtain ⟨t', ht', hat⟩ := afterTok_renderArgs ch 1 as ht
  have hrec : parseArgsLoop false r = .ok as := by
    rcases hcase with rfl | rfl
    · exact parseArgsLoop_render ch as 1 [] ht
    · rw [hat]; exact parseArgsLoop_render ch as 1 t' ht'
  simp only [List.append_nil] at hr
  rw [parseArgsLoop_eq, parseNextValue_spaces, hr]
  simp only [hrec]

theorem ppCommand_word (w : Str) (x : Str) (hw : ∀ c ∈ w, c ≠ ' ') :
    ∀ acc, acc ++ w ≠ [] → ppCommand acc (w ++ ' ' :: x) = (acc ++ w, x) := by
  induction w with
  | nil =>
    intro acc hne
    have : acc.isEmpty = false := by
      cases acc with
      | nil => simp at hne
      | cons c r => rfl
    simp [ppCommand, this]
  | cons c w ih =>
    intro acc hne
    have hc : c ≠ ' ' := hw c (by simp)
    rw [List.cons_append, ppCommand]
    simp only [hc, if_false]
    rw [ih (fun d hd => hw d (by simp [hd])) (acc ++ [c]) (by simp)]
    simp

theorem parseLine_renderDirective (ch : List (Nat × Bool)) (a : Str) (as : List Str) :
    parseLine (renderDirective ch (a :: as)) =
      .ok (.preProcess (some includeName) (some (a :: as))) := by
  have hnt : NoTrail (renderDirective ch (a :: as)) := by
    have e : renderDirective ch (a :: as) = ('!' :: includeName) ++ renderArgs ch 0 (a :: as) := by
      simp [renderDirective]
    rw [e]
    refine NoTrail.append _ _ (noTrail_renderArgs ch (a :: as) 0) ?_
    rw [renderArgs_cons]; simp
  have htrim : trim (renderDirective ch (a :: as)) = '!' :: (includeName ++ renderArgs ch 0 (a :: as)) := by
    unfold trim
    have e : trimStart (renderDirective ch (a :: as)) = renderDirective ch (a :: as) :=
      trimStart_cons_nonws '!' _ (by decide)
    rw [e, hnt]
    rfl
  rw [parseLine_of_trim_bang _ _ htrim, renderArgs_cons]
  unfold parsePreProcessLine
  have hpp : ∀ x, ppCommand [] (includeName ++ ' ' :: x) = (includeName, x) := fun x => by
    simpa using ppCommand_word includeName x (by decide) [] (by decide)
  rw [hpp]
  have hne : includeName.isEmpty = false := by decide
  simp only [hne]
  have := parseArguments_of_loop _ (some (a :: as)) (by simp) (parseArgsLoop_after_command ch a as)
  simp [this]

theorem directive_facts (ch : List (Nat × Bool)) (a : Str) (as : List Str) :
    includeDirective (renderDirective ch (a :: as)) = some (a :: as) := by
  unfold includeDirective
  rw [parseLine_renderDirective]
  simp

theorem plain_line_facts (ch : Choices) (i : ScriptInstr) (hi : InstrOK i) (hc : ChoicesOK ch) :
    includeDirective (renderLine ch i) = none ∧ lineOutcome (renderLine ch i) = .ok (expected i) := by
  have h := line_roundtrip ch i hi hc
  unfold includeDirective lineOutcome
  rw [h]
  unfold expected
  by_cases hE : (i.label.isNone ∧ i.output.isNone ∧ i.command.isNone)
  · rw [if_pos hE]; exact ⟨rfl, rfl⟩
  · rw [if_neg hE]; exact ⟨rfl, rfl⟩

end Duck
