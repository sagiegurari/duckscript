/-
  The runner model (Runner.lean), iteration by iteration.

  An iteration of `runStep` is: poll the flag, fetch the instruction, `runInstruction`, and the
  reaction to its result, which is named `afterInstr` here.  The file states that decomposition,
  what an iteration can hand on (polls, end, state), that an iteration that is never halted is
  exactly one step of the abstract machine `Spec.Step` (with the loop versions), and that what
  every command call preserves holds of the state along a run.
-/
import DuckModel.Runner
import DuckModel.Spec.Machine
import DuckModel.Lemmas.RunnerLabels

namespace Duck
open Duck.Spec

variable {σ : Type}

/-- the configuration of the abstract machine a runner state stands for -/
def cfgOf (rs : RunState σ) : Cfg σ := ⟨rs.line, rs.vars, rs.st⟩

/-- the result of one `runStep`, as the abstract machine sees it -/
def outOf : RunState σ ⊕ (RunState σ × RunEnd) → Option (Cfg σ ⊕ Final σ)
  | .inl rs' => some (.inl (cfgOf rs'))
  | .inr (rs', e) => (finalOf rs' e).map .inr

/-! ### `runInstruction`, by what is written on the line -/

theorem runInstruction_noInvocation (sem : CmdSem σ) (vars : Vars) (s : σ) (i : Instruction)
    (line : Nat) (h : invocationOf i = none) :
    runInstruction sem vars s i line = (.continue none, outputOf i, vars, s) := by
  unfold invocationOf at h
  unfold runInstruction outputOf
  split <;> simp_all

theorem runInstruction_invocation (sem : CmdSem σ) (vars : Vars) (s : σ) (i : Instruction)
    (line : Nat) (name : Str) (args : Option (List Str)) (h : invocationOf i = some (name, args)) :
    runInstruction sem vars s i line =
      match sem name (bind vars args) (outputOf i) line vars s with
      | none => (.crash ("Command: ".toList ++ name ++ " not found.".toList), outputOf i, vars, s)
      | some (r, vars', s') => (r, outputOf i, vars', s') := by
  obtain ⟨mi, ty⟩ := i
  cases ty with
  | empty => simp [invocationOf] at h
  | preProcess _ _ => simp [invocationOf] at h
  | script si =>
    obtain ⟨lab, out, cmd, args'⟩ := si
    cases cmd with
    | none => simp [invocationOf] at h
    | some c =>
      simp [invocationOf] at h
      obtain ⟨rfl, rfl⟩ := h
      rfl

/-! ### `runStep` = poll, fetch, `runInstruction`, then the reaction to its answer -/

/-- the second half of `runStep`: what the loop does with the answer of `runInstruction`;
    `go` = next iteration at that line, `stop` = the run ends here -/
def afterInstr (sem : CmdSem σ) (labels : List (Str × Nat)) (rs : RunState σ) (mi : Meta) :
    CmdResult × Option Str × Vars × σ → RunState σ ⊕ (RunState σ × RunEnd)
  | (r, out, vars, st) =>
    let go (line : Nat) (vars : Vars) (st : σ) : RunState σ ⊕ (RunState σ × RunEnd) :=
      .inl ⟨line, rs.polls + 1, vars, st⟩
    let stop (vars : Vars) (st : σ) (e : RunEnd) : RunState σ ⊕ (RunState σ × RunEnd) :=
      .inr (⟨rs.line, rs.polls + 1, vars, st⟩, e)
    match r with
    | .exit v =>
      match v.bind parseI32 with
      | some code =>
        if code ≠ 0 then
          stop (Vars.updateOutput vars out v) st (.fail ("Exit with error code: ".toList ++ intToStr code) mi)
        else stop (Vars.updateOutput vars out v) st .exitCalled
      | none => stop (Vars.updateOutput vars out v) st .exitCalled
    | .error e =>
      match runOnError sem (Vars.updateOutput vars out (some "false".toList)) st e mi with
      | (some msg, vars', st') => stop vars' st' (.fail msg mi)
      | (none, vars', st') => go (rs.line + 1) vars' st'
    | .crash e => stop vars st (.fail e mi)
    | .continue v => go (rs.line + 1) (Vars.updateOutput vars out v) st
    | .goTo v (.line n) => go n (Vars.updateOutput vars out v) st
    | .goTo v (.label l) =>
      match lookupLabel labels l with
      | some target => go target (Vars.updateOutput vars out v) st
      | none =>
        stop (Vars.updateOutput vars out v) st (.fail ("Label: ".toList ++ l ++ " not found.".toList) mi)

section
variable (sem : CmdSem σ) (is : List Instruction) (labels : List (Str × Nat))
  (halt : Nat → σ → Bool) (rs : RunState σ)

theorem runStep_halt_true (h : halt rs.polls rs.st = true) :
    runStep sem is labels halt rs = .inr (rs, .halted) := by
  unfold runStep
  simp [h]

theorem runStep_end (hh : halt rs.polls rs.st = false) (hi : is[rs.line]? = none) :
    runStep sem is labels halt rs = .inr ({ rs with polls := rs.polls + 1 }, .reachedEnd) := by
  unfold runStep
  simp only [hh, hi, Bool.false_eq_true, if_false]

theorem runStep_instr {i : Instruction} (hh : halt rs.polls rs.st = false)
    (hi : is[rs.line]? = some i) :
    runStep sem is labels halt rs =
      afterInstr sem labels rs i.mi (runInstruction sem rs.vars rs.st i rs.line) := by
  unfold runStep
  simp only [hh, hi, Bool.false_eq_true, if_false]
  rcases runInstruction sem rs.vars rs.st i rs.line with ⟨r, out, vars, st⟩
  rcases r with _ | ⟨_, _ | _⟩ | _ | _ | _ <;> rfl

/-- `runStep_instr` when the instruction is a command call that the semantics answers -/
theorem runStep_invocation {i : Instruction} {name : Str} {args : Option (List Str)}
    {r : CmdResult} {vars' : Vars} {st' : σ} (hh : halt rs.polls rs.st = false)
    (hi : is[rs.line]? = some i) (hinv : invocationOf i = some (name, args))
    (hsem : sem name (bind rs.vars args) (outputOf i) rs.line rs.vars rs.st = some (r, vars', st')) :
    runStep sem is labels halt rs = afterInstr sem labels rs i.mi (r, outputOf i, vars', st') := by
  rw [runStep_instr sem is labels halt rs hh hi,
    runInstruction_invocation sem _ _ _ _ _ _ hinv, hsem]

end
/-! ### what an iteration hands on: polls, end, state -/

/-- the state a `runStep` hands on (to the next iteration or to the caller) -/
def stepSt : RunState σ ⊕ (RunState σ × RunEnd) → σ
  | .inl rs => rs.st
  | .inr (rs, _) => rs.st

/-- the three ways `afterInstr` can go: on with the instruction's state (the command neither
    reported an error nor crashed), stop by an exit or a failure with the instruction's state, or
    hand a reported error to `runOnError` -/
theorem afterInstr_cases (sem : CmdSem σ) (labels : List (Str × Nat)) (rs : RunState σ) (mi : Meta)
    (x : CmdResult × Option Str × Vars × σ) :
    (∃ l v, afterInstr sem labels rs mi x = .inl ⟨l, rs.polls + 1, v, x.2.2.2⟩ ∧
      (∀ m, x.1 ≠ .error m) ∧ ∀ m, x.1 ≠ .crash m) ∨
    (∃ v e, afterInstr sem labels rs mi x = .inr (⟨rs.line, rs.polls + 1, v, x.2.2.2⟩, e) ∧
      (e = .exitCalled ∨ ∃ msg, e = .fail msg mi)) ∨
    (∃ m, x.1 = .error m ∧ afterInstr sem labels rs mi x =
      match runOnError sem (Vars.updateOutput x.2.2.1 x.2.1 (some "false".toList)) x.2.2.2 m mi with
      | (some msg, v, s) => .inr (⟨rs.line, rs.polls + 1, v, s⟩, .fail msg mi)
      | (none, v, s) => .inl ⟨rs.line + 1, rs.polls + 1, v, s⟩) := by
  obtain ⟨r, out, vars, st⟩ := x
  match r with
  | .continue _ | .goTo _ (.line _) => exact .inl ⟨_, _, rfl, nofun, nofun⟩
  | .crash _ => exact .inr (.inl ⟨_, _, rfl, .inr ⟨_, rfl⟩⟩)
  | .error m => exact .inr (.inr ⟨m, rfl, rfl⟩)
  | .goTo _ (.label l) =>
    simp only [afterInstr]
    split
    · exact .inl ⟨_, _, rfl, nofun, nofun⟩
    · exact .inr (.inl ⟨_, _, rfl, .inr ⟨_, rfl⟩⟩)
  | .exit v =>
    simp only [afterInstr]
    split
    · split
      · exact .inr (.inl ⟨_, _, rfl, .inr ⟨_, rfl⟩⟩)
      · exact .inr (.inl ⟨_, _, rfl, .inl rfl⟩)
    · exact .inr (.inl ⟨_, _, rfl, .inl rfl⟩)

/-- `afterInstr` looks at the command semantics only through `runOnError`, and only on an error -/
theorem afterInstr_congr {sem1 sem2 : CmdSem σ} (labels : List (Str × Nat)) (rs : RunState σ)
    (mi : Meta) (x : CmdResult × Option Str × Vars × σ)
    (h : ∀ e vars, x.1 = .error e →
      runOnError sem1 vars x.2.2.2 e mi = runOnError sem2 vars x.2.2.2 e mi) :
    afterInstr sem1 labels rs mi x = afterInstr sem2 labels rs mi x := by
  obtain ⟨r, out, vars, st⟩ := x
  match r with
  | .error e => simp only [afterInstr, h e _ rfl]
  | .continue _ | .goTo _ (.line _) | .goTo _ (.label _) | .crash _ | .exit _ => rfl

section
variable (sem : CmdSem σ) (is : List Instruction) (labels : List (Str × Nat))
  (halt : Nat → σ → Bool) (rs rs' : RunState σ)

theorem runStep_halt_false (h : halt rs.polls rs.st = false) :
    runStep sem is labels halt rs = runStep sem is labels noHalt rs := by
  unfold runStep
  rw [h]
  rfl

theorem runStep_inl_not_halt (h : runStep sem is labels halt rs = .inl rs') :
    halt rs.polls rs.st = false := by
  cases hh : halt rs.polls rs.st with
  | false => rfl
  | true => rw [runStep_halt_true sem is labels halt rs hh] at h; cases h

/-- the run goes on exactly when the flag was down, there was an instruction, and the reaction
    to its result was to go on -/
theorem runStep_inl_iff : runStep sem is labels halt rs = .inl rs' ↔
    ∃ i, halt rs.polls rs.st = false ∧ is[rs.line]? = some i ∧
      afterInstr sem labels rs i.mi (runInstruction sem rs.vars rs.st i rs.line) = .inl rs' := by
  constructor
  · intro h
    have hh := runStep_inl_not_halt sem is labels halt rs rs' h
    cases hi : is[rs.line]? with
    | some i => exact ⟨i, hh, rfl, by rwa [runStep_instr sem is labels halt rs hh hi] at h⟩
    | none => rw [runStep_end sem is labels halt rs hh hi] at h; cases h
  · rintro ⟨i, hh, hi, h⟩
    rwa [runStep_instr sem is labels halt rs hh hi]

/-- how a run can end in this iteration; `reachedEnd` only from the fetch, with the state polled -/
theorem runStep_inr_end {e : RunEnd} (h : runStep sem is labels halt rs = .inr (rs', e)) :
    e = .halted ∨ (e = .reachedEnd ∧ rs'.st = rs.st ∧ halt rs.polls rs.st = false) ∨
      e = .exitCalled ∨ ∃ msg mi, e = .fail msg mi := by
  cases hh : halt rs.polls rs.st with
  | true => rw [runStep_halt_true sem is labels halt rs hh] at h; cases h; exact .inl rfl
  | false =>
    cases hi : is[rs.line]? with
    | none => rw [runStep_end sem is labels halt rs hh hi] at h; cases h; exact .inr (.inl ⟨rfl, rfl, rfl⟩)
    | some i =>
      rw [runStep_instr sem is labels halt rs hh hi] at h
      rcases afterInstr_cases sem labels rs i.mi _ with ⟨_, _, e, _⟩ | ⟨_, _, e, he⟩ | ⟨_, _, e⟩ <;>
        rw [e] at h
      · cases h
      · cases h
        exact .inr (.inr (he.imp_right fun ⟨msg, h⟩ => ⟨msg, _, h⟩))
      · split at h
        · cases h; exact .inr (.inr (.inr ⟨_, _, rfl⟩))
        · cases h

theorem runStep_inr_ne_outOfFuel (e : RunEnd) (h : runStep sem is labels halt rs = .inr (rs', e)) :
    e ≠ .outOfFuel := by
  rcases runStep_inr_end sem is labels halt rs rs' h with h | ⟨h, _⟩ | h | ⟨_, _, h⟩ <;>
    rw [h] <;> simp

/-- where the state after one iteration comes from -/
theorem runStep_st_cases :
    (stepSt (runStep sem is labels halt rs) = rs.st ∧
      (halt rs.polls rs.st = true ∨ is[rs.line]? = none)) ∨
    ∃ instr, is[rs.line]? = some instr ∧ halt rs.polls rs.st = false ∧
      (stepSt (runStep sem is labels halt rs) = (runInstruction sem rs.vars rs.st instr rs.line).2.2.2 ∨
       ∃ vars e, (runInstruction sem rs.vars rs.st instr rs.line).1 = .error e ∧
        stepSt (runStep sem is labels halt rs) =
          (runOnError sem vars (runInstruction sem rs.vars rs.st instr rs.line).2.2.2 e instr.mi).2.2) := by
  cases hh : halt rs.polls rs.st with
  | true => rw [runStep_halt_true sem is labels halt rs hh]; exact .inl ⟨rfl, .inl rfl⟩
  | false =>
    cases hi : is[rs.line]? with
    | none => rw [runStep_end sem is labels halt rs hh hi]; exact .inl ⟨rfl, .inr rfl⟩
    | some i =>
      rw [runStep_instr sem is labels halt rs hh hi]
      refine .inr ⟨i, rfl, rfl, ?_⟩
      generalize runInstruction sem rs.vars rs.st i rs.line = x
      rcases afterInstr_cases sem labels rs i.mi x with ⟨_, _, e, _⟩ | ⟨_, _, e, _⟩ | ⟨m, hm, e⟩ <;>
        rw [e]
      · exact .inl rfl
      · exact .inl rfl
      · refine .inr ⟨Vars.updateOutput x.2.2.1 x.2.1 (some "false".toList), m, hm, ?_⟩
        split <;> (rename_i h; rw [h]; rfl)

end

/-! ### one iteration (never halted) is one `Spec.Step` -/

section
variable (sem : CmdSem σ) (is : List Instruction)

/-- the abstract machine never gets stuck -/
theorem step_total (c : Cfg σ) : ∃ o, Step sem is c o := by
  cases hi : is[c.pc]? with
  | none => exact ⟨_, .reachedEnd c hi⟩
  | some i =>
    cases hinv : invocationOf i with
    | none => exact ⟨_, .noCommand c i hi hinv⟩
    | some na =>
      obtain ⟨name, args⟩ := na
      cases hsem : sem name (bind c.vars args) (outputOf i) c.pc c.vars c.st with
      | none => exact ⟨_, .unknownCommand c i name args hi hinv hsem⟩
      | some res =>
        obtain ⟨r, vars', st'⟩ := res
        match r with
        | .continue v => exact ⟨_, .continue c i name args v vars' st' hi hinv hsem⟩
        | .crash e => exact ⟨_, .crash c i name args e vars' st' hi hinv hsem⟩
        | .goTo v (.line n) => exact ⟨_, .gotoLine c i name args v n vars' st' hi hinv hsem⟩
        | .goTo v (.label l) =>
          cases hl : lookupLabel (labelTable is) l with
          | none =>
            exact ⟨_, .gotoUnknownLabel c i name args v l vars' st' hi hinv hsem
              ((lookup_labelTable_none is l).1 hl)⟩
          | some k =>
            exact ⟨_, .gotoLabel c i name args v l k vars' st' hi hinv hsem
              ((lookup_labelTable_some is l k).1 hl)⟩
        | .exit v =>
          cases hv : v.bind parseI32 with
          | none => exact ⟨_, .exitOk c i name args v vars' st' hi hinv hsem (by simp [hv])⟩
          | some code =>
            by_cases hc : code = 0
            · exact ⟨_, .exitOk c i name args v vars' st' hi hinv hsem (by simp [hv, hc])⟩
            · exact ⟨_, .exitCode c i name args v code vars' st' hi hinv hsem hv hc⟩
        | .error e =>
          cases hoe : sem onErrorName (errorReport e i.mi) none 0
              (Vars.updateOutput vars' (outputOf i) (some "false".toList)) st' with
          | none => exact ⟨_, .errorNoHandler c i name args e vars' st' hi hinv hsem hoe⟩
          | some res' =>
            obtain ⟨r', vars'', st''⟩ := res'
            match r' with
            | .crash m =>
              exact ⟨_, .errorHandlerCrashes c i name args e vars' st' m vars'' st'' hi hinv hsem hoe⟩
            | .exit w =>
              exact ⟨_, .errorHandlerExits c i name args e vars' st' w vars'' st'' hi hinv hsem hoe⟩
            | .continue _ | .goTo _ _ | .error _ =>
              exact ⟨_, .errorHandled c i name args e vars' st' _ vars'' st'' hi hinv hsem hoe
                (by simp) (by simp)⟩

/-- every rule of the machine is a branch of `runStep` -/
theorem runStep_of_step {c : Cfg σ} {o : Cfg σ ⊕ Final σ}
    (h : Step sem is c o) (p : Nat) :
    outOf (runStep sem is (labelTable is) noHalt ⟨c.pc, p, c.vars, c.st⟩) = some o := by
  have call : ∀ {i name args r vars' st'}, is[c.pc]? = some i → invocationOf i = some (name, args) →
      sem name (bind c.vars args) (outputOf i) c.pc c.vars c.st = some (r, vars', st') →
      runStep sem is (labelTable is) noHalt ⟨c.pc, p, c.vars, c.st⟩ =
        afterInstr sem (labelTable is) ⟨c.pc, p, c.vars, c.st⟩ i.mi (r, outputOf i, vars', st') :=
    runStep_invocation sem is _ noHalt ⟨c.pc, p, c.vars, c.st⟩ rfl
  cases h
  case reachedEnd hi => rw [runStep_end sem is _ noHalt _ rfl hi]; rfl
  case noCommand hi hinv =>
    rw [runStep_instr sem is _ noHalt _ rfl hi, runInstruction_noInvocation sem _ _ _ _ hinv]; rfl
  case unknownCommand hi hinv hsem =>
    rw [runStep_instr sem is _ noHalt _ rfl hi, runInstruction_invocation sem _ _ _ _ _ _ hinv, hsem]; rfl
  case «continue» hi hinv hsem | gotoLine hi hinv hsem | crash hi hinv hsem =>
    rw [call hi hinv hsem]; rfl
  case gotoLabel hi hinv hsem hl =>
    rw [call hi hinv hsem]
    simp only [afterInstr, (lookup_labelTable_some is _ _).2 hl]; rfl
  case gotoUnknownLabel hi hinv hsem hl =>
    rw [call hi hinv hsem]
    simp only [afterInstr, (lookup_labelTable_none is _).2 hl]; rfl
  case exitOk v _ _ hi hinv hsem hcode =>
    rw [call hi hinv hsem]
    cases hv : v.bind parseI32 with
    | none => simp only [afterInstr, hv]; rfl
    | some code => simp only [afterInstr, hv, hcode code hv, ne_eq, not_true, if_false]; rfl
  case exitCode hi hinv hsem hv hne =>
    rw [call hi hinv hsem]
    simp only [afterInstr, hv, ne_eq, hne, not_false_eq_true, if_true]; rfl
  case errorNoHandler hi hinv hsem hoe | errorHandlerExits hi hinv hsem hoe
      | errorHandlerCrashes hi hinv hsem hoe =>
    unfold errorReport at hoe
    rw [call hi hinv hsem]
    simp only [afterInstr, runOnError, hoe]; rfl
  case errorHandled r _ _ hi hinv hsem hoe hne hnc =>
    unfold errorReport at hoe
    rw [call hi hinv hsem]
    simp only [afterInstr, runOnError, hoe]
    match r with
    | .exit w => exact absurd rfl (hne w)
    | .crash m => exact absurd rfl (hnc m)
    | .continue _ | .goTo _ _ | .error _ => rfl

/-- `runStep_of_step` for a runner state (its poll count plays no part) -/
theorem runStep_complete (rs : RunState σ)
    (o : Cfg σ ⊕ Final σ) (h : Step sem is (cfgOf rs) o) :
    outOf (runStep sem is (labelTable is) noHalt rs) = some o :=
  runStep_of_step sem is h rs.polls

/-- the abstract machine is deterministic (one step) -/
theorem step_functional (c : Cfg σ)
    (o₁ o₂ : Cfg σ ⊕ Final σ) (h₁ : Step sem is c o₁) (h₂ : Step sem is c o₂) : o₁ = o₂ :=
  Option.some.inj ((runStep_of_step sem is h₁ 0).symm.trans (runStep_of_step sem is h₂ 0))

/-- what `runStep` (never halted) computes is a step of the machine: the machine has some step
    (`step_total`), `runStep` computes that one (`runStep_complete`) -/
theorem runStep_sound (rs : RunState σ)
    (o : Cfg σ ⊕ Final σ)
    (h : outOf (runStep sem is (labelTable is) noHalt rs) = some o) :
    Step sem is (cfgOf rs) o := by
  obtain ⟨o', ho'⟩ := step_total sem is (cfgOf rs)
  rw [runStep_complete sem is rs o' ho'] at h
  cases h
  exact ho'

end

theorem step_iff_runStep (sem : CmdSem σ) (is : List Instruction) (rs : RunState σ)
    (o : Cfg σ ⊕ Final σ) :
    Step sem is (cfgOf rs) o ↔ outOf (runStep sem is (labelTable is) noHalt rs) = some o :=
  ⟨runStep_complete sem is rs o, runStep_sound sem is rs o⟩

theorem reaches_functional (sem : CmdSem σ) (is : List Instruction) (c : Cfg σ)
    (f₁ f₂ : Final σ) (h₁ : Reaches sem is c f₁) (h₂ : Reaches sem is c f₂) : f₁ = f₂ := by
  induction h₁ with
  | done c f s₁ =>
    cases h₂ with
    | done _ _ s₂ => exact Sum.inr.inj (step_functional sem is c _ _ s₁ s₂)
    | step _ c' _ s₂ _ => exact absurd (step_functional sem is c _ _ s₁ s₂) (by simp)
  | step c c' f s₁ _ ih =>
    cases h₂ with
    | done _ _ s₂ => exact absurd (step_functional sem is c _ _ s₁ s₂) (by simp)
    | step _ c'' _ s₂ r₂ =>
      have : c' = c'' := Sum.inl.inj (step_functional sem is c _ _ s₁ s₂)
      subst this
      exact ih r₂

section
variable (sem : CmdSem σ) (is : List Instruction) (labels : List (Str × Nat))
  (halt : Nat → σ → Bool)

theorem runLoop_zero (rs : RunState σ) :
    runLoop sem is labels halt 0 rs = (rs, .outOfFuel) := rfl

theorem runLoop_succ (fuel : Nat) (rs : RunState σ) :
    runLoop sem is labels halt (fuel + 1) rs =
      match runStep sem is labels halt rs with
      | .inl rs' => runLoop sem is labels halt fuel rs'
      | .inr r => r := rfl

theorem runLoop_sound (fuel : Nat) :
    ∀ (rs rs' : RunState σ) (e : RunEnd) (f : Final σ),
      runLoop sem is (labelTable is) noHalt fuel rs = (rs', e) → finalOf rs' e = some f →
      Reaches sem is (cfgOf rs) f := by
  induction fuel with
  | zero =>
    intro rs rs' e f h hf
    rw [runLoop_zero] at h
    obtain ⟨rfl, rfl⟩ := Prod.mk.inj h
    simp [finalOf] at hf
  | succ fuel ih =>
    intro rs rs' e f h hf
    rw [runLoop_succ] at h
    cases hs : runStep sem is (labelTable is) noHalt rs with
    | inl rs1 =>
      rw [hs] at h
      refine Reaches.step _ (cfgOf rs1) _ (runStep_sound sem is rs _ ?_) (ih rs1 rs' e f h hf)
      rw [hs]; rfl
    | inr r =>
      rw [hs] at h
      subst h
      refine Reaches.done _ _ (runStep_sound sem is rs _ ?_)
      rw [hs]; simp [outOf, hf]

theorem runLoop_complete (c : Cfg σ) (f : Final σ)
    (h : Reaches sem is c f) :
    ∀ rs : RunState σ, cfgOf rs = c →
      ∃ fuel rs' e, runLoop sem is (labelTable is) noHalt fuel rs = (rs', e) ∧
        finalOf rs' e = some f := by
  induction h with
  | done c f s =>
    intro rs hc
    subst hc
    have hs := runStep_complete sem is rs _ s
    cases hx : runStep sem is (labelTable is) noHalt rs with
    | inl rs1 => rw [hx] at hs; cases hs
    | inr r => rw [hx] at hs; exact ⟨1, r.1, r.2, by rw [runLoop_succ, hx], by simpa [outOf] using hs⟩
  | step c c' f s _ ih =>
    intro rs hc
    subst hc
    have hs := runStep_complete sem is rs _ s
    cases hx : runStep sem is (labelTable is) noHalt rs with
    | inr r => rw [hx] at hs; simp [outOf] at hs
    | inl rs1 =>
      rw [hx] at hs
      obtain ⟨fuel, rs', e, hrun, hf⟩ := ih rs1 (by simpa [outOf] using hs)
      exact ⟨fuel + 1, rs', e, by rw [runLoop_succ, hx]; exact hrun, hf⟩

theorem runLoop_fuel_mono (fuel extra : Nat) :
    ∀ (rs rs' : RunState σ) (e : RunEnd),
      runLoop sem is labels halt fuel rs = (rs', e) → e ≠ .outOfFuel →
      runLoop sem is labels halt (fuel + extra) rs = (rs', e) := by
  induction fuel with
  | zero =>
    intro rs rs' e h he
    rw [runLoop_zero] at h
    exact absurd (Prod.mk.inj h).2.symm he
  | succ fuel ih =>
    intro rs rs' e h he
    have hadd : fuel + 1 + extra = (fuel + extra) + 1 := by omega
    rw [hadd, runLoop_succ]
    rw [runLoop_succ] at h
    cases hs : runStep sem is labels halt rs with
    | inl rs1 => rw [hs] at h; exact ih rs1 rs' e h he
    | inr r => rw [hs] at h; exact h


/-- what every iteration hands on from a state that has it, the whole run hands back -/
theorem runLoop_of_step {P : σ → Prop}
    (hstep : ∀ rs : RunState σ, P rs.st → P (stepSt (runStep sem is labels halt rs))) (fuel : Nat) :
    ∀ rs : RunState σ, P rs.st → P (runLoop sem is labels halt fuel rs).1.st := by
  induction fuel with
  | zero => exact fun _ h => h
  | succ fuel ih =>
    intro rs h
    have h1 := hstep rs h
    rw [runLoop_succ]
    cases hs : runStep sem is labels halt rs with
    | inl rs1 => rw [hs] at h1; exact ih rs1 h1
    | inr r => rw [hs] at h1; exact h1

theorem runLoop_reachedEnd (fuel : Nat) :
    ∀ rs : RunState σ, (runLoop sem is labels halt fuel rs).2 = .reachedEnd →
      ∃ p, halt p (runLoop sem is labels halt fuel rs).1.st = false := by
  induction fuel with
  | zero => intro rs h; cases h
  | succ fuel ih =>
    intro rs h
    rw [runLoop_succ] at h ⊢
    cases hs : runStep sem is labels halt rs with
    | inl rs1 => rw [hs] at h; exact ih rs1 h
    | inr r =>
      obtain ⟨rs', e⟩ := r
      rw [hs] at h
      dsimp only at h
      subst h
      -- only the fetch ends a run like this: the flag was polled down on the state handed back
      rcases runStep_inr_end sem is labels halt rs rs' hs with h | ⟨_, hst, hh⟩ | h | ⟨_, _, h⟩
      · cases h
      · exact ⟨rs.polls, by rw [hst]; exact hh⟩
      · cases h
      · cases h

end

/-- `n` iterations of the loop of `run_instructions`, `none` if the run ends earlier -/
def runN (sem : CmdSem σ) (is : List Instruction) (labels : List (Str × Nat))
    (halt : Nat → σ → Bool) : Nat → RunState σ → Option (RunState σ)
  | 0, rs => some rs
  | n + 1, rs =>
    match runStep sem is labels halt rs with
    | .inl rs' => runN sem is labels halt n rs'
    | .inr _ => none


/-- the first `n` iterations of `runLoop` are `runN` -/
theorem runLoop_of_runN (sem : CmdSem σ) (is : List Instruction) (labels : List (Str × Nat))
    (halt : Nat → σ → Bool) :
    ∀ (n : Nat) (rs rs' : RunState σ) (fuel : Nat), runN sem is labels halt n rs = some rs' →
      runLoop sem is labels halt (n + fuel) rs = runLoop sem is labels halt fuel rs' := by
  intro n
  induction n with
  | zero =>
    intro rs rs' fuel h
    simp [runN] at h
    subst h
    simp
  | succ n ih =>
    intro rs rs' fuel h
    simp only [runN] at h
    cases hs : runStep sem is labels halt rs with
    | inr x => simp [hs] at h
    | inl rs1 =>
      simp only [hs] at h
      have e : n + 1 + fuel = (n + fuel) + 1 := by omega
      rw [e]
      simp only [runLoop, hs]
      exact ih rs1 rs' fuel h

/-! ### what every command call preserves holds along the run -/

/-- the state `runInstruction` hands back is the one it got, or what the one command call made of it -/
theorem runInstruction_st_cases (sem : CmdSem σ) (vars : Vars) (s : σ) (i : Instruction) (line : Nat) :
    (runInstruction sem vars s i line).2.2.2 = s ∨
    ∃ name args out r vars', sem name args out line vars s =
      some (r, vars', (runInstruction sem vars s i line).2.2.2) := by
  cases hinv : invocationOf i with
  | none => rw [runInstruction_noInvocation sem vars s i line hinv]; exact .inl rfl
  | some na =>
    rw [runInstruction_invocation sem vars s i line na.1 na.2 hinv]
    cases hsem : sem na.1 (bind vars na.2) (outputOf i) line vars s with
    | none => exact .inl rfl
    | some res => exact .inr ⟨_, _, _, res.1, res.2.1, hsem⟩

theorem runOnError_st_cases (sem : CmdSem σ) (vars : Vars) (s : σ) (e : Str) (mi : Meta) :
    (runOnError sem vars s e mi).2.2 = s ∨
    ∃ r vars', sem onErrorName (errorReport e mi) none 0 vars s =
      some (r, vars', (runOnError sem vars s e mi).2.2) := by
  unfold runOnError errorReport
  cases hsem : sem onErrorName [e, natToStr (mi.line.getD 0), mi.source.getD []] none 0 vars s with
  | none => exact .inl rfl
  | some res =>
    obtain ⟨r, vars', s'⟩ := res
    refine .inr ⟨r, vars', ?_⟩
    cases r <;> rfl

theorem runOnError_congr {sem1 sem2 : CmdSem σ} {vars : Vars} {s : σ} {e : Str} {mi : Meta}
    (h : sem1 onErrorName (errorReport e mi) none 0 vars s =
      sem2 onErrorName (errorReport e mi) none 0 vars s) :
    runOnError sem1 vars s e mi = runOnError sem2 vars s e mi := by
  unfold errorReport at h
  unfold runOnError
  rw [h]

section
variable {sem : CmdSem σ} {P : σ → Prop}
  (hsem : ∀ {name args out line vars s r vars' s'},
    sem name args out line vars s = some (r, vars', s') → P s → P s')
include hsem

theorem runInstruction_inv (vars : Vars) (s : σ) (i : Instruction) (line : Nat) (h : P s) :
    P (runInstruction sem vars s i line).2.2.2 := by
  rcases runInstruction_st_cases sem vars s i line with e | ⟨_, _, _, _, _, e⟩
  · rw [e]; exact h
  · exact hsem e h

theorem runOnError_inv (vars : Vars) (s : σ) (e : Str) (mi : Meta) (h : P s) :
    P (runOnError sem vars s e mi).2.2 := by
  rcases runOnError_st_cases sem vars s e mi with e | ⟨_, _, e⟩
  · rw [e]; exact h
  · exact hsem e h

theorem runStep_inv (is : List Instruction) (labels : List (Str × Nat)) (halt : Nat → σ → Bool)
    (rs : RunState σ) (h : P rs.st) : P (stepSt (runStep sem is labels halt rs)) := by
  rcases runStep_st_cases sem is labels halt rs with ⟨e, _⟩ | ⟨i, _, _, e | ⟨_, _, _, e⟩⟩ <;> rw [e]
  · exact h
  · exact runInstruction_inv @hsem _ _ _ _ h
  · exact runOnError_inv @hsem _ _ _ _ (runInstruction_inv @hsem _ _ _ _ h)

theorem runLoop_inv (is : List Instruction) (labels : List (Str × Nat)) (halt : Nat → σ → Bool)
    (fuel : Nat) (rs : RunState σ) : P rs.st → P (runLoop sem is labels halt fuel rs).1.st :=
  runLoop_of_step sem is labels halt (runStep_inv @hsem is labels halt) fuel rs

end

end Duck
