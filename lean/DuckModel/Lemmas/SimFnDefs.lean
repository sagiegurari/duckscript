/-
  The tree run is followed by the goto-machine — the invariants of the simulation.  The suffix `F`
  on the names of this development stands for the function environment `F : FEnv` they carry
  (programs without definitions are the case of the empty environment, Lemmas/SimMain.lean):
    * garbage on the if / while stacks may also come from CALLED functions: its keys lie inside the
      statement's lines `[lo, hi)` or below the bound `B` (all callable functions end before `B`);
    * the end table may change on those lines too, but never on a function's end line (`E`);
    * machine and tree agree on the fixed function environment `F`;
    * besides the normal outcome there is "the machine stands on the `return` line" (`SimRet`).
-/
import DuckModel.Lemmas.SimCore
import DuckModel.Props.C04Scan
import DuckModel.Spec.TreeFn
import DuckModel.Props.C05Core

namespace Duck
open Duck.Spec Duck.Generated

/-- `scan_block` for a statement sitting at line `lo` -/
theorem scan_at {K : Kind} {is : List Instruction} {lo : Nat} {x : ScriptInstr} {body : Block} {ke : Str}
    (hat : At is lo (x :: (body.flatten ++ [mkInstr none ke []]))) (hke : K.isEnd ke = true)
    (hw : body.wf = true) (hn : body.noFn = true) :
    findCommands K.tbl is (lo + 1) = .ok ⟨[], lo + 1 + body.flatten.length⟩ := by
  obtain ⟨pre, post, rfl, rfl⟩ := hat
  exact scan_block pre post x body ke hke hw hn

/-- `C04_scan_if` for a chain sitting at line `lo` -/
theorem scan_if_at {is : List Instruction} {lo : Nat} {kwIf : Str} {cond : List Str} {body : Block}
    {elifs : Elifs} {kwElse : Option Str} {elseBody : Block} {kwEnd : Str}
    (hat : At is lo (Stmt.ifChain kwIf cond body elifs kwElse elseBody kwEnd).flatten)
    (hwf : (Stmt.ifChain kwIf cond body elifs kwElse elseBody kwEnd).wf = true)
    (hnf : (Stmt.ifChain kwIf cond body elifs kwElse elseBody kwEnd).noFn = true) :
    findCommands ifTables is (lo + 1) =
      .ok ⟨elseOffsets.go (lo + 1 + body.flatten.length) elifs kwElse,
           lo + 1 + body.flatten.length + elifs.flatten.length + (elseFlat kwElse elseBody).length⟩ := by
  obtain ⟨pre, post, rfl, rfl⟩ := hat
  refine (C04_scan_if pre post kwIf cond body elifs kwElse elseBody kwEnd hwf hnf).trans ?_
  rw [elseOffsets, go_map]
  simp only [flatten_if, List.length_cons, List.length_append, length_tailFlat]
  congr 2
  · congr 1; omega
  · omega

/-! ### regions -/

/-- keys of garbage entries: below the bound `B` (left by called functions) or inside `[lo, hi)` -/
def InR (B lo hi k : Nat) : Prop := k < B ∨ (lo ≤ k ∧ k < hi)

/-- the stack `st` is `K` below garbage whose `key` lies in the region -/
def GarbF {α : Type} (key : α → Nat) (B lo hi : Nat) (K st : List α) : Prop :=
  ∃ G, st = G ++ K ∧ ∀ e ∈ G, InR B lo hi (key e)

theorem GarbF.refl {α : Type} (key : α → Nat) (B lo hi : Nat) (K : List α) : GarbF key B lo hi K K :=
  ⟨[], rfl, by simp⟩

theorem GarbF.trans {α : Type} {key : α → Nat} {B lo hi : Nat} {K st1 st2 : List α}
    (h1 : GarbF key B lo hi K st1) (h2 : GarbF key B lo hi st1 st2) : GarbF key B lo hi K st2 := by
  obtain ⟨G1, rfl, hG1⟩ := h1
  obtain ⟨G2, rfl, hG2⟩ := h2
  refine ⟨G2 ++ G1, by simp, fun e he => ?_⟩
  rcases List.mem_append.mp he with h | h
  · exact hG2 e h
  · exact hG1 e h

theorem GarbF.mono {α : Type} {key : α → Nat} {B lo hi B' lo' hi' : Nat} {K st : List α}
    (h : GarbF key B lo hi K st) (hr : ∀ k, InR B lo hi k → InR B' lo' hi' k) :
    GarbF key B' lo' hi' K st := by
  obtain ⟨G, rfl, hG⟩ := h
  exact ⟨G, rfl, fun e he => hr _ (hG e he)⟩

theorem GarbF.cons {α : Type} {key : α → Nat} {B lo hi : Nat} {K st : List α} (x : α)
    (h : GarbF key B lo hi (x :: K) st) (hx : InR B lo hi (key x)) : GarbF key B lo hi K st := by
  obtain ⟨G, rfl, hG⟩ := h
  refine ⟨G ++ [x], by simp, fun e he => ?_⟩
  rcases List.mem_append.mp he with h | h
  · exact hG e h
  · simp at h; subst h; exact hx

theorem GarbF.push {α : Type} {key : α → Nat} {B lo hi : Nat} (K : List α) (x : α)
    (hx : InR B lo hi (key x)) : GarbF key B lo hi K (x :: K) :=
  (GarbF.refl key B lo hi (x :: K)).cons x hx

theorem InR.sub {B lo hi lo' hi' k : Nat} (h : InR B lo' hi' k) (h1 : lo ≤ lo') (h2 : hi' ≤ hi) :
    InR B lo hi k := by
  unfold InR at *; omega

/-- a garbage key is never the line just after the window (called functions end before it) -/
theorem InR.ne_hi {B lo hi k : Nat} (h : InR B lo hi k) (hB : B ≤ hi) : k ≠ hi := by
  unfold InR at h; omega

/-- lines whose end-table entry may change: inside `[lo, hi)`, or below `B` but not a function end -/
def RegP (E : Nat → Prop) (B lo hi l : Nat) : Prop := (lo ≤ l ∧ l < hi) ∨ (l < B ∧ ¬ E l)

theorem RegP.sub {E : Nat → Prop} {B lo hi lo' hi' l : Nat} (h : RegP E B lo' hi' l) (h1 : lo ≤ lo')
    (h2 : hi' ≤ hi) : RegP E B lo hi l := by
  rcases h with h | h
  · exact .inl ⟨by omega, by omega⟩
  · exact .inr h

structure FrameF (E : Nat → Prop) (B lo hi : Nat) (s s' : Sdk) : Prop where
  endT : ∀ l, ¬ RegP E B lo hi l → s'.endTable.get (lineKey s l) = s.endTable.get (lineKey s l)
  ctx : s'.lineCtx = s.lineCtx

theorem FrameF.refl (E : Nat → Prop) (B lo hi : Nat) (s : Sdk) : FrameF E B lo hi s s :=
  ⟨fun _ _ => rfl, rfl⟩

theorem FrameF.trans {E : Nat → Prop} {B lo hi : Nat} {s1 s2 s3 : Sdk} (h1 : FrameF E B lo hi s1 s2)
    (h2 : FrameF E B lo hi s2 s3) : FrameF E B lo hi s1 s3 := by
  refine ⟨fun l hl => ?_, h2.ctx.trans h1.ctx⟩
  have := h2.endT l hl
  rw [lineKey_congr h1.ctx] at this
  rw [this, h1.endT l hl]

theorem FrameF.mono {E : Nat → Prop} {B lo hi B' lo' hi' : Nat} {s s' : Sdk} (h : FrameF E B lo hi s s')
    (hr : ∀ l, RegP E B lo hi l → RegP E B' lo' hi' l) : FrameF E B' lo' hi' s s' :=
  ⟨fun l hl => h.endT l (fun hc => hl (hr l hc)), h.ctx⟩

theorem FrameF.of_eq {E : Nat → Prop} {B lo hi : Nat} {s s' : Sdk} (h1 : s'.endTable = s.endTable)
    (h3 : s'.lineCtx = s.lineCtx) : FrameF E B lo hi s s' := ⟨fun _ _ => by rw [h1], h3⟩

/-- every entry of the for/in stack belongs to a loop at or above `B` and outside `[lo, hi)` -/
def ForOKF (B lo hi : Nat) (st : List ForCall) : Prop :=
  ∀ e ∈ st, B ≤ e.start ∧ B ≤ e.stop ∧ ¬ (lo ≤ e.start ∧ e.start < hi) ∧ ¬ (lo ≤ e.stop ∧ e.stop < hi)

theorem ForOKF.mono {B lo hi lo' hi' : Nat} {st : List ForCall} (h : ForOKF B lo hi st) (h1 : lo ≤ lo')
    (h2 : hi' ≤ hi) : ForOKF B lo' hi' st :=
  fun e he => by have := h e he; omega

/-- for the body `[lo', hi')` of a function called from here: it ends below `B` -/
theorem ForOKF.callee {B lo hi B' lo' hi' : Nat} {st : List ForCall} (h : ForOKF B lo hi st)
    (h1 : B' ≤ B) (h2 : hi' ≤ B) : ForOKF B' lo' hi' st :=
  fun e he => by have := h e he; omega

/-! ### the function environment -/

/-- the functions of the program, as the tree interpreter (`tf`, and `tsf` inside its `Sdk`) and the
    machine (`sf`) hold them while the main block and the bodies run; `fa` = the call oracle of
    `assignsF` -/
structure FEnv where
  tf : List (Str × FnDef)
  sf : KV FnInfo
  tsf : KV FnInfo
  names : List Str
  fa : Str → Str → Bool

def digitsOnly (v : Str) : Bool := v.all Char.isDigit

/-- function `n` of the environment sits in the program where the machine thinks it does, and its
    body is in the fragment and calls only functions that end before it starts -/
structure FnOK (is : List Instruction) (E : Nat → Prop) (F : FEnv) (n : Str) (fd : FnDef) (fi : FnInfo)
    (kw kwEnd : Str) (callable : List Str) : Prop where
  sf : F.sf.get n = some fi
  isSc : fi.isScoped = fd.isScoped
  loc : At is fi.start (Stmt.fnDef kw fd.isScoped n fd.body kwEnd).flatten
  stop : fi.stop = fi.start + 1 + fd.body.flatten.length
  kwEnd : isEndFnKw kwEnd = true
  wf : fd.body.wf = true
  frag : fd.body.fnFrag F.names callable F.fa true false = true
  callee : ∀ c ∈ callable, ∃ fd' fi', lookupFn F.tf c = some fd' ∧ F.sf.get c = some fi' ∧
    fi'.stop < fi.start
  noEnd : ∀ k, fi.start < k → k < fi.stop → ¬ E k
  isEnd : E fi.stop
  fa : ∀ v, F.fa n v = false →
    fd.isScoped = true ∨ (digitsOnly v = false ∧ fd.body.assignsF F.fa v = false)

/-- the environment describes the program: names that are no functions are unknown to both sides,
    every function of the tree side is laid out in the program as `FnOK` says, and `names` lists
    exactly the defined functions -/
structure EnvOK (is : List Instruction) (E : Nat → Prop) (F : FEnv) : Prop where
  undef : ∀ n, lookupFn F.tf n = none → F.sf.get n = none ∧ F.tsf.get n = none
  defd : ∀ n fd, lookupFn F.tf n = some fd →
    fnNameOK n = true ∧ ∃ fi kw kwEnd callable, FnOK is E F n fd fi kw kwEnd callable
  names : ∀ n, F.names.contains n = true ↔ lookupFn F.tf n ≠ none

theorem EnvOK.not_builtin {is : List Instruction} {E : Nat → Prop} {F : FEnv} (h : EnvOK is E F)
    {n : Str} {c : Cmd} (hc : resolveCmd {} n = some c) : lookupFn F.tf n = none := by
  cases hl : lookupFn F.tf n with
  | none => rfl
  | some fd =>
    have := (h.defd n fd hl).1
    simp only [fnNameOK, Bool.and_eq_true] at this
    rw [hc] at this
    simp at this

theorem EnvOK.onError {is : List Instruction} {E : Nat → Prop} {F : FEnv} (h : EnvOK is E F) :
    F.sf.get onErrorName = none := by
  cases hl : lookupFn F.tf onErrorName with
  | none => exact (h.undef _ hl).1
  | some fd =>
    have := (h.defd _ fd hl).1
    simp [fnNameOK] at this

/-! ### machine / tree relation and the outcome of a simulated piece -/

structure RelF (F : FEnv) (s : Sdk) (t : TState) : Prop where
  handles : s.handles = t.sdk.handles
  next : s.nextHandle = t.sdk.nextHandle
  emitted : s.emitted = t.sdk.emitted
  sfns : s.fns = F.sf
  tsfns : t.sdk.fns = F.tsf
  tfns : t.fns = F.tf
  hok : HOK t.sdk.handles t.sdk.nextHandle

/-- the relation only looks at the observables and the functions of either side -/
theorem RelF.congr {F : FEnv} {s s' : Sdk} {t t' : TState} (h : RelF F s t) (h1 : s'.handles = s.handles)
    (h2 : s'.nextHandle = s.nextHandle) (h3 : s'.emitted = s.emitted) (h4 : s'.fns = s.fns)
    (ht : t'.sdk = t.sdk) (hf : t'.fns = t.fns) : RelF F s' t' := by
  refine ⟨?_, ?_, ?_, h4.trans h.sfns, ?_, hf.trans h.tfns, ?_⟩ <;> rw [ht]
  · exact h1.trans h.handles
  · exact h2.trans h.next
  · exact h3.trans h.emitted
  · exact h.tsfns
  · exact h.hok

structure SimCoreF (is : List Instruction) (E : Nat → Prop) (F : FEnv) (B lo hi : Nat) (A : Str → Bool)
    (s : Sdk) (t t' : TState) (s' : Sdk) : Prop where
  cache : CacheOK is s'
  rel : RelF F s' t'
  frame : FrameF E B lo hi s s'
  mono : ∀ k l, t.sdk.handles.get k = some l → t'.sdk.handles.get k = some l
  varsF : ∀ x, A x = false → t'.vars.get x = t.vars.get x
  depth : t'.depth = t.depth

theorem SimCoreF.refl {is : List Instruction} {E : Nat → Prop} {F : FEnv} {B lo hi : Nat}
    {A : Str → Bool} {s : Sdk} {t : TState} (hc : CacheOK is s) (hr : RelF F s t) :
    SimCoreF is E F B lo hi A s t t s :=
  ⟨hc, hr, FrameF.refl E B lo hi s, fun _ _ h => h, fun _ _ => rfl, rfl⟩

theorem SimCoreF.trans {is : List Instruction} {E : Nat → Prop} {F : FEnv} {B lo hi : Nat}
    {A : Str → Bool} {s1 s2 s3 : Sdk} {t1 t2 t3 : TState} (h1 : SimCoreF is E F B lo hi A s1 t1 t2 s2)
    (h2 : SimCoreF is E F B lo hi A s2 t2 t3 s3) : SimCoreF is E F B lo hi A s1 t1 t3 s3 :=
  ⟨h2.cache, h2.rel, h1.frame.trans h2.frame, fun k l h => h2.mono k l (h1.mono k l h),
    fun x hx => (h2.varsF x hx).trans (h1.varsF x hx), h2.depth.trans h1.depth⟩

theorem SimCoreF.mono' {is : List Instruction} {E : Nat → Prop} {F : FEnv} {B lo hi B' lo' hi' : Nat}
    {A A' : Str → Bool} {s s' : Sdk} {t t' : TState} (h : SimCoreF is E F B lo hi A s t t' s')
    (hr : ∀ l, RegP E B lo hi l → RegP E B' lo' hi' l)
    (hA : ∀ x, A' x = false → A x = false) : SimCoreF is E F B' lo' hi' A' s t t' s' :=
  ⟨h.cache, h.rel, h.frame.mono hr, h.mono, fun x hx => h.varsF x (hA x hx), h.depth⟩

/-- same bound, sub-interval -/
theorem SimCoreF.sub {is : List Instruction} {E : Nat → Prop} {F : FEnv} {B lo hi lo' hi' : Nat}
    {A A' : Str → Bool} {s s' : Sdk} {t t' : TState} (h : SimCoreF is E F B lo' hi' A s t t' s')
    (h1 : lo ≤ lo') (h2 : hi' ≤ hi)
    (hA : ∀ x, A' x = false → A x = false) : SimCoreF is E F B lo hi A' s t t' s' :=
  h.mono' (fun _ hl => hl.sub h1 h2) hA

theorem RelF.core {F : FEnv} {s s' : Sdk} {t : TState} (h : RelF F s t) (he : coreOf s' = coreOf s) :
    RelF F s' t := by
  simp only [coreOf, Prod.mk.injEq] at he
  obtain ⟨_, _, _, _, h5, h6, h7, _, h9⟩ := he
  exact ⟨h6.trans h.handles, h7.trans h.next, h9.trans h.emitted, h5.trans h.sfns, h.tsfns, h.tfns, h.hok⟩

theorem FrameF.core_right {E : Nat → Prop} {B lo hi : Nat} {s s' s'' : Sdk} (h : FrameF E B lo hi s s')
    (he : coreOf s'' = coreOf s') : FrameF E B lo hi s s'' := by
  simp only [coreOf, Prod.mk.injEq] at he
  obtain ⟨_, _, _, h4, _, _, _, h8, _⟩ := he
  exact ⟨fun l hl => by rw [h4]; exact h.endT l hl, h8.trans h.ctx⟩

theorem FrameF.core_left {E : Nat → Prop} {B lo hi : Nat} {s s0 s' : Sdk} (h : FrameF E B lo hi s s')
    (he : coreOf s0 = coreOf s) : FrameF E B lo hi s0 s' := by
  simp only [coreOf, Prod.mk.injEq] at he
  obtain ⟨_, _, _, h4, _, _, _, h8, _⟩ := he
  refine ⟨fun l hl => ?_, h.ctx.trans h8.symm⟩
  rw [lineKey_congr h8, h4]
  exact h.endT l hl

theorem SimCoreF.core_right {is : List Instruction} {E : Nat → Prop} {F : FEnv} {B lo hi : Nat}
    {A : Str → Bool} {s s' s'' : Sdk} {t t' : TState} (h : SimCoreF is E F B lo hi A s t t' s')
    (he : coreOf s'' = coreOf s') : SimCoreF is E F B lo hi A s t t' s'' :=
  ⟨h.cache.core he, h.rel.core he, h.frame.core_right he, h.mono, h.varsF, h.depth⟩

theorem SimCoreF.core_left {is : List Instruction} {E : Nat → Prop} {F : FEnv} {B lo hi : Nat}
    {A : Str → Bool} {s s0 s' : Sdk} {t t' : TState} (h : SimCoreF is E F B lo hi A s t t' s')
    (he : coreOf s0 = coreOf s) : SimCoreF is E F B lo hi A s0 t t' s' :=
  ⟨h.cache, h.rel, h.frame.core_left he, h.mono, h.varsF, h.depth⟩

/-- a flow line that evaluated its condition, possibly filled caches and possibly registered an end
    command on a line of `[lo, hi)` -/
theorem SimCoreF.condStep {is : List Instruction} {E : Nat → Prop} {F : FEnv} {B lo hi : Nat}
    {A : Str → Bool} {s s' : Sdk} {t : TState} {em : List (List Str)} (hc : CacheOK is s') (hr : RelF F s t)
    (h1 : s'.handles = s.handles) (h2 : s'.nextHandle = s.nextHandle) (h3 : s'.emitted = em)
    (h4 : s'.fns = s.fns) (h5 : s'.lineCtx = s.lineCtx)
    (h6 : ∀ l, ¬ RegP E B lo hi l → s'.endTable.get (lineKey s l) = s.endTable.get (lineKey s l)) :
    SimCoreF is E F B lo hi A s t (withEm t em) s' :=
  ⟨hc, ⟨h1.trans hr.handles, h2.trans hr.next, h3, h4.trans hr.sfns, hr.tsfns, hr.tfns, hr.hok⟩,
    ⟨h6, h5⟩, fun _ _ h => h, fun _ _ => rfl, rfl⟩

theorem SimCoreF.opener {is : List Instruction} {E : Nat → Prop} {F : FEnv} {B lo hi : Nat}
    {A : Str → Bool} {s s' : Sdk} {t : TState} {em : List (List Str)}
    (stop : Nat) (name : Str) (hc : CacheOK is s') (hr : RelF F s t)
    (h1 : s'.handles = s.handles) (h2 : s'.nextHandle = s.nextHandle) (h3 : s'.emitted = em)
    (h4 : s'.fns = s.fns) (h5 : s'.lineCtx = s.lineCtx)
    (h6 : s'.endTable = s.endTable.put (lineKey s stop) name) (hlo : lo ≤ stop) (hhi : stop < hi) :
    SimCoreF is E F B lo hi A s t (withEm t em) s' :=
  SimCoreF.condStep hc hr h1 h2 h3 h4 h5
    (fun l hl => by
      rw [h6]
      refine endT_put_ne s stop l name (fun e => hl ?_)
      subst e
      exact .inl ⟨hlo, hhi⟩)

theorem SimCoreF.opener0 {is : List Instruction} {E : Nat → Prop} {F : FEnv} {B lo hi : Nat}
    {A : Str → Bool} {s s' : Sdk} {t : TState}
    (stop : Nat) (name : Str) (hc : CacheOK is s') (hr : RelF F s t)
    (h1 : s'.handles = s.handles) (h2 : s'.nextHandle = s.nextHandle) (h3 : s'.emitted = s.emitted)
    (h4 : s'.fns = s.fns) (h5 : s'.lineCtx = s.lineCtx)
    (h6 : s'.endTable = s.endTable.put (lineKey s stop) name) (hlo : lo ≤ stop) (hhi : stop < hi) :
    SimCoreF is E F B lo hi A s t t s' :=
  SimCoreF.opener (em := t.sdk.emitted) stop name hc hr h1 h2 (h3.trans hr.emitted) h4 h5 h6 hlo hhi

theorem RelF.withEm {F : FEnv} {s s' : Sdk} {t : TState} (em : List (List Str)) (h : RelF F s t)
    (h1 : s'.handles = s.handles) (h2 : s'.nextHandle = s.nextHandle) (h3 : s'.emitted = em)
    (h4 : s'.fns = s.fns) : RelF F s' (withEm t em) :=
  ⟨h1.trans h.handles, h2.trans h.next, h3, h4.trans h.sfns, h.tsfns, h.tfns, h.hok⟩

/-- the machine went from line `lo` to line `tgt`; what holds then -/
structure SimAt (is : List Instruction) (E : Nat → Prop) (F : FEnv) (B lo hi : Nat) (A : Str → Bool)
    (s : Sdk) (t t' : TState) (s' : Sdk) (tgt : Nat) : Prop where
  steps : Steps is lo t.vars s tgt t'.vars s'
  core : SimCoreF is E F B lo hi A s t t' s'
  ifS : GarbF IfCall.current B lo hi s.ifStack s'.ifStack
  whS : GarbF WhileCall.stop B lo hi s.whileStack s'.whileStack
  forS : s'.forStack = s.forStack
  fnS : s'.fnStack = s.fnStack
  scS : s'.scopeStack = s.scopeStack

/-- the value a `return` line hands back, as the tree interpreter computes it -/
def retVal (vars : Vars) (value : Option Str) : Option Str :=
  match value with
  | none => none
  | some w =>
    match bind vars (some [w]) with
    | [] => none
    | a :: _ => some a

def retArgs (value : Option Str) : List Str :=
  match value with
  | some v => [v]
  | none => []

/-- line `r` is a `return` line handing back `v` -/
def RetLine (is : List Instruction) (r : Nat) (vars : Vars) (v : Option Str) : Prop :=
  ∃ mi kw value, is[r]? = some ⟨mi, .script (mkInstr none kw (retArgs value))⟩ ∧
    namesReturnCommand.contains kw = true ∧ v = retVal vars value

/-- `return` is propagating: the machine stands ON the return line (it has not executed it) -/
def SimRet (is : List Instruction) (E : Nat → Prop) (F : FEnv) (B lo hi : Nat) (A : Str → Bool)
    (s : Sdk) (t t' : TState) (v : Option Str) : Prop :=
  ∃ s' r, SimAt is E F B lo hi A s t t' s' r ∧ lo ≤ r ∧ r < hi ∧ RetLine is r t'.vars v

/-- what has to be shown for an outcome of the tree interpreter, over any description `P t' s' l` of
    "the machine went to line `l`": after a normal end it stands on the line after the piece, while a
    `return` propagates it stands on the return line. `inFor` = the piece lies inside a for/in body,
    which a `return` never leaves (it is outside the fragment there) -/
def OutAt (is : List Instruction) (P : TState → Sdk → Nat → Prop) (lo hi : Nat) (inFor : Bool)
    (o : TOut) : Prop :=
  match o with
  | .normal t' => ∃ s', P t' s' hi
  | .returning v t' => inFor = false ∧ ∃ s' r, P t' s' r ∧ lo ≤ r ∧ r < hi ∧ RetLine is r t'.vars v
  | _ => True

def SimOut (is : List Instruction) (E : Nat → Prop) (F : FEnv) (B lo hi : Nat) (A : Str → Bool)
    (inFor : Bool) (s : Sdk) (t : TState) (o : TOut) : Prop :=
  OutAt is (SimAt is E F B lo hi A s t) lo hi inFor o

/-- a piece inside a larger one: `hn` says how the larger piece goes on after a normal end, `hr`
    carries over a `return` line that was reached -/
theorem OutAt.imp {is : List Instruction} {P Q : TState → Sdk → Nat → Prop} {lo hi lo' hi' : Nat}
    {inFor : Bool} {o : TOut} (h : OutAt is P lo hi inFor o) (hlo : lo' ≤ lo) (hhi : hi ≤ hi')
    (hn : ∀ t' s', P t' s' hi → ∃ s'', Q t' s'' hi') (hr : ∀ t' s' l, P t' s' l → Q t' s' l) :
    OutAt is Q lo' hi' inFor o := by
  cases o with
  | normal t' =>
    obtain ⟨s', hp⟩ := h
    exact hn t' s' hp
  | returning v t' =>
    obtain ⟨hif, s', r, hp, h1, h2, hret⟩ := h
    exact ⟨hif, s', r, hr _ _ _ hp, by omega, by omega, hret⟩
  | failed => trivial
  | outOfFuel => trivial

theorem OutAt.map {is : List Instruction} {P Q : TState → Sdk → Nat → Prop} {lo hi lo' : Nat}
    {inFor : Bool} {o : TOut} (h : OutAt is P lo hi inFor o) (hlo : lo' ≤ lo)
    (hr : ∀ t' s' l, P t' s' l → Q t' s' l) : OutAt is Q lo' hi inFor o :=
  h.imp hlo (Nat.le_refl _) (fun _ _ hp => ⟨_, hr _ _ _ hp⟩) hr

theorem SimAt.refl {is : List Instruction} {E : Nat → Prop} {F : FEnv} {B lo hi : Nat}
    {A : Str → Bool} {s : Sdk} {t : TState} (hc : CacheOK is s) (hr : RelF F s t) :
    SimAt is E F B lo hi A s t t s lo :=
  ⟨Steps.refl _ _ _ _, SimCoreF.refl hc hr, GarbF.refl _ _ _ _ _, GarbF.refl _ _ _ _ _, rfl, rfl, rfl⟩

/-- sequencing: first piece `[lo, mid)`, then from line `mid` inside `[mid, hi)` -/
theorem SimAt.seq {is : List Instruction} {E : Nat → Prop} {F : FEnv} {B lo mid hi : Nat}
    {A1 A2 A : Str → Bool} {s s1 s2 : Sdk} {t t1 t2 : TState} {tgt : Nat}
    (h1 : SimAt is E F B lo mid A1 s t t1 s1 mid) (h2 : SimAt is E F B mid hi A2 s1 t1 t2 s2 tgt)
    (hlm : lo ≤ mid) (hmh : mid ≤ hi) (hA1 : ∀ x, A x = false → A1 x = false)
    (hA2 : ∀ x, A x = false → A2 x = false) : SimAt is E F B lo hi A s t t2 s2 tgt :=
  ⟨h1.steps.trans h2.steps,
    (h1.core.sub (Nat.le_refl _) hmh hA1).trans (h2.core.sub hlm (Nat.le_refl _) hA2),
    (h1.ifS.mono (fun _ h => h.sub (Nat.le_refl _) hmh)).trans
      (h2.ifS.mono (fun _ h => h.sub hlm (Nat.le_refl _))),
    (h1.whS.mono (fun _ h => h.sub (Nat.le_refl _) hmh)).trans
      (h2.whS.mono (fun _ h => h.sub hlm (Nat.le_refl _))),
    h2.forS.trans h1.forS, h2.fnS.trans h1.fnS, h2.scS.trans h1.scS⟩

theorem SimAt.sub {is : List Instruction} {E : Nat → Prop} {F : FEnv} {B lo hi lo' hi' : Nat}
    {A A' : Str → Bool} {s s' : Sdk} {t t' : TState} {tgt : Nat}
    (h : SimAt is E F B lo hi A s t t' s' tgt) (h1 : lo' ≤ lo) (h2 : hi ≤ hi')
    (hA : ∀ x, A' x = false → A x = false) (hst : Steps is lo' t.vars s tgt t'.vars s') :
    SimAt is E F B lo' hi' A' s t t' s' tgt :=
  ⟨hst, h.core.sub h1 h2 hA, h.ifS.mono (fun _ hk => hk.sub h1 h2),
    h.whS.mono (fun _ hk => hk.sub h1 h2), h.forS, h.fnS, h.scS⟩

/-- a prefix of machine steps (an opener, one loop iteration, …) from `lo` to `lo1`, then a piece
    that runs inside `[lo1, hi1) ⊆ [lo, hi)` -/
theorem SimAt.prefix {is : List Instruction} {E : Nat → Prop} {F : FEnv} {B lo hi lo1 hi1 : Nat}
    {A A1 : Str → Bool} {s s1 s' : Sdk} {t ta t' : TState} {tgt : Nat}
    (hst : Steps is lo t.vars s lo1 ta.vars s1) (hcore : SimCoreF is E F B lo hi A s t ta s1)
    (hif : GarbF IfCall.current B lo hi s.ifStack s1.ifStack)
    (hwh : GarbF WhileCall.stop B lo hi s.whileStack s1.whileStack)
    (hfor : s1.forStack = s.forStack) (hfn : s1.fnStack = s.fnStack)
    (hsc : s1.scopeStack = s.scopeStack)
    (hin : SimAt is E F B lo1 hi1 A1 s1 ta t' s' tgt) (h1 : lo ≤ lo1) (h2 : hi1 ≤ hi)
    (hA : ∀ x, A x = false → A1 x = false) : SimAt is E F B lo hi A s t t' s' tgt :=
  ⟨hst.trans hin.steps, hcore.trans (hin.core.sub h1 h2 hA),
    hif.trans (hin.ifS.mono (fun _ h => h.sub h1 h2)),
    hwh.trans (hin.whS.mono (fun _ h => h.sub h1 h2)),
    hin.forS.trans hfor, hin.fnS.trans hfn, hin.scS.trans hsc⟩

theorem SimRet.prefix {is : List Instruction} {E : Nat → Prop} {F : FEnv} {B lo hi lo1 hi1 : Nat}
    {A A1 : Str → Bool} {s s1 : Sdk} {t ta t' : TState} {v : Option Str}
    (hst : Steps is lo t.vars s lo1 ta.vars s1) (hcore : SimCoreF is E F B lo hi A s t ta s1)
    (hif : GarbF IfCall.current B lo hi s.ifStack s1.ifStack)
    (hwh : GarbF WhileCall.stop B lo hi s.whileStack s1.whileStack)
    (hfor : s1.forStack = s.forStack) (hfn : s1.fnStack = s.fnStack)
    (hsc : s1.scopeStack = s.scopeStack)
    (hin : SimRet is E F B lo1 hi1 A1 s1 ta t' v) (h1 : lo ≤ lo1) (h2 : hi1 ≤ hi)
    (hA : ∀ x, A x = false → A1 x = false) : SimRet is E F B lo hi A s t t' v := by
  obtain ⟨s', r, hat, hr1, hr2, hret⟩ := hin
  exact ⟨s', r, SimAt.prefix hst hcore hif hwh hfor hfn hsc hat h1 h2 hA, by omega, by omega, hret⟩

/-- a piece from `lo` to `lo1`, then a piece that runs inside `[lo1, hi1) ⊆ [lo, hi)` -/
theorem SimAt.trans {is : List Instruction} {E : Nat → Prop} {F : FEnv} {B lo hi lo1 hi1 : Nat}
    {A A1 : Str → Bool} {s s1 s' : Sdk} {t ta t' : TState} {tgt : Nat}
    (h : SimAt is E F B lo hi A s t ta s1 lo1) (hin : SimAt is E F B lo1 hi1 A1 s1 ta t' s' tgt)
    (h1 : lo ≤ lo1) (h2 : hi1 ≤ hi) (hA : ∀ x, A x = false → A1 x = false) :
    SimAt is E F B lo hi A s t t' s' tgt :=
  SimAt.prefix h.steps h.core h.ifS h.whS h.forS h.fnS h.scS hin h1 h2 hA

/-- like `SimAt`, but the if stack is described relative to a given base `K` with garbage keys from
    `loG` on (the else-lines phase of an if chain: the chain's own entry may have become garbage) -/
structure SimAtK (is : List Instruction) (E : Nat → Prop) (F : FEnv) (B loG lo hi : Nat) (A : Str → Bool)
    (K : List IfCall) (s : Sdk) (t t' : TState) (s' : Sdk) (tgt : Nat) : Prop where
  steps : Steps is lo t.vars s tgt t'.vars s'
  core : SimCoreF is E F B lo hi A s t t' s'
  ifS : GarbF IfCall.current B loG hi K s'.ifStack
  whS : GarbF WhileCall.stop B lo hi s.whileStack s'.whileStack
  forS : s'.forStack = s.forStack
  fnS : s'.fnStack = s.fnStack
  scS : s'.scopeStack = s.scopeStack

theorem SimAtK.prefix {is : List Instruction} {E : Nat → Prop} {F : FEnv} {B loG lo hi lo1 hi1 : Nat}
    {A A1 : Str → Bool} {K : List IfCall} {s s1 s' : Sdk} {t ta t' : TState} {tgt : Nat}
    (hst : Steps is lo t.vars s lo1 ta.vars s1) (hcore : SimCoreF is E F B lo hi A s t ta s1)
    (hif : GarbF IfCall.current B loG hi K s1.ifStack)
    (hwh : GarbF WhileCall.stop B lo hi s.whileStack s1.whileStack)
    (hfor : s1.forStack = s.forStack) (hfn : s1.fnStack = s.fnStack)
    (hsc : s1.scopeStack = s.scopeStack)
    (hin : SimAt is E F B lo1 hi1 A1 s1 ta t' s' tgt) (h1 : lo ≤ lo1) (h2 : hi1 ≤ hi) (hG : loG ≤ lo)
    (hA : ∀ x, A x = false → A1 x = false) : SimAtK is E F B loG lo hi A K s t t' s' tgt :=
  ⟨hst.trans hin.steps, hcore.trans (hin.core.sub h1 h2 hA),
    hif.trans (hin.ifS.mono (fun _ h => h.sub (Nat.le_trans hG h1) h2)),
    hwh.trans (hin.whS.mono (fun _ h => h.sub h1 h2)),
    hin.forS.trans hfor, hin.fnS.trans hfn, hin.scS.trans hsc⟩

theorem SimAtK.trans {is : List Instruction} {E : Nat → Prop} {F : FEnv} {B loG lo hi lo1 hi1 : Nat}
    {A A1 : Str → Bool} {K : List IfCall} {s s1 s' : Sdk} {t ta t' : TState} {tgt : Nat}
    (h : SimAtK is E F B loG lo hi A K s t ta s1 lo1) (hin : SimAt is E F B lo1 hi1 A1 s1 ta t' s' tgt)
    (h1 : lo ≤ lo1) (h2 : hi1 ≤ hi) (hG : loG ≤ lo) (hA : ∀ x, A x = false → A1 x = false) :
    SimAtK is E F B loG lo hi A K s t t' s' tgt :=
  SimAtK.prefix h.steps h.core h.ifS h.whS h.forS h.fnS h.scS hin h1 h2 hG hA

theorem SimAtK.toSimAt {is : List Instruction} {E : Nat → Prop} {F : FEnv} {B lo hi : Nat}
    {A : Str → Bool} {s s' : Sdk} {t t' : TState} {tgt : Nat}
    (h : SimAtK is E F B lo lo hi A s.ifStack s t t' s' tgt) : SimAt is E F B lo hi A s t t' s' tgt :=
  ⟨h.steps, h.core, h.ifS, h.whS, h.forS, h.fnS, h.scS⟩

/-- widen the window of a `SimAtK` that starts later (after a prefix that only changed stacks) -/
theorem SimAtK.prefixK {is : List Instruction} {E : Nat → Prop} {F : FEnv} {B loG lo hi lo1 : Nat}
    {A A1 : Str → Bool} {K : List IfCall} {s s1 s' : Sdk} {t ta t' : TState} {tgt : Nat}
    (hst : Steps is lo t.vars s lo1 ta.vars s1) (hcore : SimCoreF is E F B lo hi A s t ta s1)
    (hwh : GarbF WhileCall.stop B lo hi s.whileStack s1.whileStack)
    (hfor : s1.forStack = s.forStack) (hfn : s1.fnStack = s.fnStack)
    (hsc : s1.scopeStack = s.scopeStack)
    (hin : SimAtK is E F B loG lo1 hi A1 K s1 ta t' s' tgt) (h1 : lo ≤ lo1)
    (hA : ∀ x, A x = false → A1 x = false) : SimAtK is E F B loG lo hi A K s t t' s' tgt :=
  ⟨hst.trans hin.steps, hcore.trans (hin.core.sub h1 (Nat.le_refl _) hA), hin.ifS,
    hwh.trans (hin.whS.mono (fun _ h => h.sub h1 (Nat.le_refl _))),
    hin.forS.trans hfor, hin.fnS.trans hfn, hin.scS.trans hsc⟩

theorem SimAtK.extend {is : List Instruction} {E : Nat → Prop} {F : FEnv} {B loG lo hi : Nat}
    {A : Str → Bool} {K : List IfCall} {s s' : Sdk} {t t' : TState} {tgt tgt' : Nat}
    (h : SimAtK is E F B loG lo hi A K s t t' s' tgt) (hst : Steps is tgt t'.vars s' tgt' t'.vars s') :
    SimAtK is E F B loG lo hi A K s t t' s' tgt' :=
  ⟨h.steps.trans hst, h.core, h.ifS, h.whS, h.forS, h.fnS, h.scS⟩

/-- a line at or above the bound and outside the window keeps its end-table entry -/
theorem FrameF.keep {E : Nat → Prop} {B lo hi : Nat} {s s' : Sdk} (h : FrameF E B lo hi s s') (l : Nat)
    (h1 : ¬ (lo ≤ l ∧ l < hi)) (h2 : B ≤ l) :
    s'.endTable.get (lineKey s' l) = s.endTable.get (lineKey s l) := by
  rw [lineKey_congr h.ctx]
  refine h.endT l ?_
  rintro (a | ⟨a, _⟩)
  · exact h1 a
  · omega

end Duck
