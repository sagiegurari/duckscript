/-
  Whole rendered lines: no trailing white space in the rendered pieces, trimming, `parseLine` of
  a rendered body, and the round trip of one line (`line_roundtrip`, C01).
-/
import DuckModel.Lemmas.CharsLemmas
import DuckModel.Lemmas.LineLemmas

namespace Duck
open Duck.Spec

/-! ### `parseLine` through the trimmed text -/

theorem parseLine_of_trim_nil (l : Str) (h : trim l = []) : parseLine l = .ok .empty := by
  unfold parseLine; simp only [h]

theorem parseLine_of_trim_hash (l r : Str) (h : trim l = '#' :: r) : parseLine l = .ok .empty := by
  unfold parseLine; simp only [h]; simp

theorem parseLine_of_trim_bang (l r : Str) (h : trim l = '!' :: r) :
    parseLine l = parsePreProcessLine r := by
  unfold parseLine; simp only [h]; simp

theorem parseLine_of_trim_cmd (l : Str) (c : Char) (r : Str) (h : trim l = c :: r) (h1 : c ≠ '#')
    (h2 : c ≠ '!') : parseLine l = parseCommandLine (c :: r) := by
  unfold parseLine; simp only [h]; simp [h1, h2]

/-! ### no trailing white space in rendered pieces -/

theorem escChar_nonws (c x : Char) (hc : isWs c = false) (hx : x ∈ escChar c) : isWs x = false := by
  rcases escChar_shape c with h | ⟨d, h, hd⟩ <;> rw [h] at hx
  · rw [List.mem_singleton.mp hx]; exact hc
  · simp only [List.mem_cons, List.not_mem_nil, or_false] at hx
    rcases hx with rfl | rfl
    · decide
    · exact hd

theorem escape_nonws (s : Str) (h : ∀ c ∈ s, isWs c = false) : ∀ x ∈ escape s, isWs x = false := by
  induction s with
  | nil => simp [escape]
  | cons c t ih =>
    intro x hx
    rw [escape_cons] at hx
    rcases List.mem_append.mp hx with hx | hx
    · exact escChar_nonws c x (h c (by simp)) hx
    · exact ih (fun y hy => h y (by simp [hy])) x hx

/-- the escaped text of `s` does not end in white space when the last character of `s` is not white
    space (white space in the middle is harmless) -/
theorem noTrail_escape (s : Str) (h : ∀ c, s.getLast? = some c → isWs c = false) :
    NoTrail (escape s) := by
  cases hl : s.getLast? with
  | none =>
    have : s = [] := by simpa using hl
    subst this; exact NoTrail.nil
  | some c =>
    obtain ⟨ys, rfl⟩ := List.getLast?_eq_some_iff.mp hl
    rw [escape_append]
    have e : escape [c] = escChar c := by simp [escape]
    rw [e]
    exact NoTrail.append _ _
      (NoTrail.of_all_nonws _ fun x hx => escChar_nonws c x (h c hl) hx) (by rcases escChar_shape c with h | ⟨d, h, _⟩ <;> simp [h])

theorem noTrail_renderArg (q : Bool) (a : Str) : NoTrail (renderArg q a) := by
  rcases renderArg_cases q a with h | ⟨hcu, h⟩ <;> rw [h]
  · exact NoTrail.append_singleton ('"' :: escape a) _ (by decide)
  · exact noTrail_escape a ((canUnquote_iff a).mp hcu).2.2.2.1

theorem renderArg_ne_nil (q : Bool) (a : Str) : renderArg q a ≠ [] := by
  obtain ⟨c, r, h, _⟩ := renderArg_head q a
  rw [h]; simp

theorem noTrail_renderArgs (ch : List (Nat × Bool)) (as : List Str) :
    ∀ k, NoTrail (renderArgs ch k as) := by
  induction as with
  | nil => intro k; exact NoTrail.nil
  | cons a as ih =>
    intro k
    rw [← List.append_nil (renderArgs ch k (a :: as)), renderArgs_cons_append, List.append_nil]
    refine NoTrail.append _ _ (NoTrail.append' _ _ (noTrail_renderArg _ _) (ih (k + 1))) ?_
    have := renderArg_ne_nil (argChoice ch k).2 a
    simp [this]

theorem noTrail_name {n : Str} (h : NameOK n) : NoTrail n :=
  NoTrail.of_all_nonws n (fun c hc => (h.2.1 c hc).1)

/-! ### the first character of a rendered body -/

theorem first_char (label : Option Str) (al : Nat) (nm : Str) (hl : LabelOK label)
    (hn : NameOK nm) (hf : label = none → FirstOK nm) :
    ∃ x r, (∀ rest, lblPart label al ++ (nm ++ rest) = x :: (r ++ rest)) ∧
      isWs x = false ∧ x ≠ '#' ∧ x ≠ '!' := by
  cases label with
  | some l =>
    obtain ⟨n, rfl, _⟩ := hl l rfl
    exact ⟨':', n ++ spaces (al + 1) ++ nm, by simp [lblPart], by decide, by decide, by decide⟩
  | none =>
    obtain ⟨x, t, rfl, hws, hh, _⟩ := nameOK_head hn
    exact ⟨x, t, by simp [lblPart], hws, hh, by simpa using (hf rfl).2⟩

/-- … of a body with a command: the label, else the output variable, else the command -/
theorem first_char_cmd (label : Option Str) (al : Nat) (output : Option Str) (a b : Nat) (c : Str)
    (hl : LabelOK label)
    (ho : OutputOK label output)
    (hc : CommandOK label output c) :
    ∃ x r, (∀ tail, lblPart label al ++ (outPart output a b ++ (c ++ tail)) = x :: (r ++ tail)) ∧
      isWs x = false ∧ x ≠ '#' ∧ x ≠ '!' := by
  cases output with
  | some o =>
    obtain ⟨x, r, h, hx⟩ := first_char label al o hl (ho o rfl).1 (ho o rfl).2.2
    exact ⟨x, r ++ (spaces a ++ '=' :: spaces b) ++ c,
      fun tail => by simpa [outPart] using h (spaces a ++ '=' :: (spaces b ++ (c ++ tail))), hx⟩
  | none =>
    obtain ⟨x, r, h, hx⟩ := first_char label al c hl hc.1 (fun h => (hc.2 rfl).2 h)
    exact ⟨x, r, fun tail => by simpa [outPart] using h tail, hx⟩

/-- the body of an instruction with a command, in the pieces the line lemmas speak of -/
theorem renderBody_cmd (ch : Choices) (label output : Option Str) (c : Str)
    (args : Option (List Str)) :
    renderBody ch ⟨label, output, some c, args⟩ =
      lblPart label ch.afterLabel ++
        (outPart output ch.eqBefore ch.eqAfter ++ (c ++ renderArgs ch.args 0 (args.getD []))) ++
      renderComment ch.comment := by
  cases label <;> cases output <;> simp [renderBody, renderCore, lblPart, outPart]

/-! ### trimming a rendered line -/

theorem trim_rendered_some (lead trail : Str) (c : Char) (r : Str) (k : Nat) (t : Str)
    (hl : ∀ c ∈ lead, isWs c = true) (hc : isWs c = false) :
    trim (lead ++ ((c :: r) ++ renderComment (some (k, t))) ++ trail) =
      (c :: r) ++ (spaces k ++ '#' :: trimEnd (t ++ trail)) := by
  simpa [renderComment] using trim_mid lead c (r ++ spaces k) '#' (t ++ trail) hl hc (by decide)

/-- a rendered body `core ++ spaces k`, where `core` starts with a visible character and does not
    end in white space, with any comment, lead and trail: what follows `core` is an end-of-line
    tail, whether the comment is there or the line was trimmed -/
theorem parseLine_rendered (lead trail core : Str) (k : Nat) (cm : Option (Nat × Str))
    (R : InstrType) (hl : ∀ c ∈ lead, isWs c = true) (ht : ∀ c ∈ trail, isWs c = true)
    (hx : ∃ x r, core = x :: r ∧ isWs x = false ∧ x ≠ '#' ∧ x ≠ '!') (hnt : NoTrail core)
    (hparse : ∀ t, EolTail t → parseCommandLine (core ++ t) = .ok R) :
    parseLine (lead ++ (core ++ spaces k ++ renderComment cm) ++ trail) = .ok R := by
  obtain ⟨x, r, rfl, hws, h1, h2⟩ := hx
  cases cm with
  | none =>
    have e : trim (lead ++ (x :: r ++ spaces k ++ renderComment none) ++ trail) = x :: r := by
      rw [renderComment, List.append_nil, List.append_assoc, trim_ws_append lead _ hl,
        trim_append_ws _ trail ht, trim_append_ws _ _ (spaces_ws k), trim,
        trimStart_cons_nonws x r hws, hnt]
    rw [parseLine_of_trim_cmd _ x r e h1 h2]
    simpa using hparse [] EolTail.nil
  | some p =>
    obtain ⟨k', t⟩ := p
    have e := trim_rendered_some lead trail x (r ++ spaces k) k' t hl hws
    refine (parseLine_of_trim_cmd _ x _ e h1 h2).trans ?_
    simpa using hparse _
      (EolTail.spaces_append k (EolTail.spaces_append k' (EolTail.hash (trimEnd (t ++ trail)))))

/-- an all-empty instruction renders to a blank or comment-only line -/
theorem parseLine_comment_only (lead trail : Str) (cm : Option (Nat × Str))
    (hl : ∀ c ∈ lead, isWs c = true) (ht : ∀ c ∈ trail, isWs c = true) :
    parseLine (lead ++ renderComment cm ++ trail) = .ok .empty := by
  cases cm with
  | none =>
    apply parseLine_of_trim_nil
    apply trim_ws
    intro c hc
    simp [renderComment] at hc
    rcases hc with hc | hc
    · exact hl c hc
    · exact ht c hc
  | some p =>
    obtain ⟨k, t⟩ := p
    have e : lead ++ renderComment (some (k, t)) ++ trail = (lead ++ spaces k) ++ '#' :: (t ++ trail) := by
      simp [renderComment]
    rw [e]
    apply parseLine_of_trim_hash _ (trimEnd (t ++ trail))
    apply trim_lead_cons _ _ _ _ (by decide)
    intro c hc
    rcases List.mem_append.mp hc with hc | hc
    · exact hl c hc
    · exact spaces_ws k c hc

/-! ### C01: one rendered line -/

theorem line_roundtrip (ch : Choices) (i : ScriptInstr) (hi : InstrOK i) (hc : ChoicesOK ch) :
    parseLine (renderLine ch i) = .ok (expected i) := by
  obtain ⟨label, output, command, args⟩ := i
  obtain ⟨hlab, hout, hcmd, hargs1, hargs2⟩ := hi
  simp only at hlab hout hcmd hargs1 hargs2
  have hl : LabelOK label := hlab
  have hlead : ∀ c ∈ ch.lead, isWs c = true := fun c h => (hc.lead c h).1
  have htrail : ∀ c ∈ ch.trail, isWs c = true := fun c h => (hc.trail c h).1
  unfold renderLine
  cases command with
  | some c =>
    obtain ⟨hc1, hc2⟩ := hcmd c rfl
    -- no spaces between the body and the comment
    rw [renderBody_cmd, ← List.append_nil (_ ++ (_ ++ (c ++ _))), ← spaces_zero,
      show expected ⟨label, output, some c, args⟩ = .script ⟨label, output, some c, args⟩
      by simp [expected]]
    refine parseLine_rendered _ _ _ _ _ _ hlead htrail ?_ ?_ ?_
    · obtain ⟨x, r, h, hx⟩ := first_char_cmd label ch.afterLabel output ch.eqBefore ch.eqAfter c
        hl hout ⟨hc1, hc2⟩
      exact ⟨x, _, h _, hx⟩
    · rw [← List.append_assoc]
      refine NoTrail.append _ _ (NoTrail.append' _ _ (noTrail_name hc1) (noTrail_renderArgs _ _ _)) ?_
      simp [hc1.1]
    · intro t ht
      simpa [List.append_assoc] using parseCommandLine_cmd label ch.afterLabel output ch.eqBefore
        ch.eqAfter c ch.args args hl hout ⟨hc1, hc2⟩ hargs2 ht
  | none =>
    cases hargs1 rfl
    cases output with
    | some o =>
      obtain ⟨ho1, ho2, ho3⟩ := hout o rfl
      have hbody : renderBody ch ⟨label, some o, none, none⟩ =
          (lblPart label ch.afterLabel ++ (o ++ (spaces ch.eqBefore ++ ['=']))) ++
            spaces ch.eqAfter ++ renderComment ch.comment := by
        cases label <;> simp [renderBody, renderCore, lblPart]
      rw [hbody, show expected ⟨label, some o, none, none⟩ = .script ⟨label, some o, none, none⟩
        by simp [expected]]
      obtain ⟨x, r, h, hx⟩ := first_char label ch.afterLabel o hl ho1 ho3
      refine parseLine_rendered _ _ _ _ _ _ hlead htrail ⟨x, _, h _, hx⟩ ?_ ?_
      · rw [← List.append_assoc, ← List.append_assoc]
        exact NoTrail.append_singleton _ _ (by decide)
      · intro t ht
        simpa [List.append_assoc] using
          parseCommandLine_output_only label ch.afterLabel o ch.eqBefore hl ho1 ho2 ho3 ht
    | none =>
      cases label with
      | some l =>
        obtain ⟨n, rfl, hn⟩ := hl l rfl
        have hbody : renderBody ch ⟨some (':' :: n), none, none, none⟩ =
            (':' :: n) ++ spaces 0 ++ renderComment ch.comment := by
          simp [renderBody, renderCore, spaces]
        rw [hbody, show expected ⟨some (':' :: n), none, none, none⟩ =
          .script ⟨some (':' :: n), none, none, none⟩ by simp [expected]]
        refine parseLine_rendered _ _ _ _ _ _ hlead htrail
          ⟨':', n, rfl, by decide, by decide, by decide⟩ ?_
          (fun t ht => parseCommandLine_label_only n hn ht)
        simpa using NoTrail.append [':'] n (noTrail_name hn) hn.1
      | none =>
        have hbody : renderBody ch ⟨none, none, none, none⟩ = renderComment ch.comment := by
          simp [renderBody, renderCore]
        rw [hbody, show expected ⟨none, none, none, none⟩ = .empty by simp [expected]]
        exact parseLine_comment_only _ _ _ hlead htrail

end Duck
