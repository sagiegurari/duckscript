/-
  Index-faithful model vs suffix model, the functions built on `parse_next_value`: arguments,
  label, output/command, directive line, command line, whole line.
-/
import DuckModel.Lemmas.IndexedLemmas

namespace Duck

/-! ### `parse_arguments_with_options` -/

theorem iArgsLoop_refines (cac : Bool) (line : Str) : ∀ (fuel i : Nat) (acc : List Str),
    i ≤ line.length → line.length - i < fuel →
    iArgsLoop cac line fuel i acc =
      match parseArgsLoop cac (line.drop i) with
      | .error e => .err e
      | .ok as => .ok (acc ++ as) := by
  intro fuel
  induction fuel with
  | zero => intro i acc _ h; omega
  | succ fuel ih =>
    intro i acc hi hf
    rw [iArgsLoop, iParseNextValue_refines _ line i hi, parseArgsLoop_eq]
    cases hp : parseNextValue (argFlags cac) (line.drop i) with
    | error e => rfl
    | ok x =>
      obtain ⟨r, v⟩ := x
      cases v with
      | none => simp
      | some a =>
        have hlt := parseNextValue_some_lt hp
        simp only [liftIdx]
        rw [ih (line.length - r.length) (acc ++ [a]) (Nat.sub_le _ _)
          (by rw [List.length_drop] at hlt; omega),
          drop_length_sub (suffix_of_drop (parseNextValue_suffix hp))]
        cases parseArgsLoop cac r <;> simp

theorem iParseArgumentsWith_beyond (cac : Bool) (line : Str) (start : Nat)
    (h : line.length ≤ start) : iParseArgumentsWith cac line start = .ok none := by
  simp [iParseArgumentsWith, iArgsLoop, iParseNextValue_beyond _ line start h]

/-- for every start index: beyond the end both sides answer on the empty text -/
theorem iParseArgumentsWith_refines (cac : Bool) (line : Str) (start : Nat) :
    iParseArgumentsWith cac line start = liftE (parseArgumentsWith cac (line.drop start)) := by
  by_cases hle : line.length ≤ start
  · rw [iParseArgumentsWith_beyond cac line start hle, List.drop_of_length_le hle]
    simp [parseArgumentsWith, parseArgsLoop_eq, parseNextValue]
  · unfold iParseArgumentsWith parseArgumentsWith
    rw [iArgsLoop_refines cac line _ start [] (by omega) (by omega)]
    cases parseArgsLoop cac (line.drop start) with
    | error e => simp
    | ok as => cases as <;> simp

theorem iParseArguments_refines (line : Str) (start : Nat) :
    iParseArguments line start = liftE (parseArguments (line.drop start)) :=
  iParseArgumentsWith_refines false line start

/-! ### `find_label` -/

theorem ifl_loop_refines (line : Str) : ∀ (n i : Nat), i + n = line.length →
    iFor (iflBody line) n { index := i } =
      match findLabel (line.drop i) with
      | .error e => .err e
      | .ok (r, lab) => .ok { index := line.length - r.length, label := lab } := by
  intro n i
  refine iFor_refines (σ := IFL) line _ (fun (_ : Unit) i => { index := i })
    (fun _ l => match findLabel l with
      | .error e => .err e
      | .ok (r, lab) => .ok { index := line.length - r.length, label := lab })
    (fun _ => rfl) (fun _ i hi => ?_) n i ()
  rw [findLabel, iflBody, rd_lt hi]
  simp only [decr_succ]
  by_cases hc : line[i] = ':'
  · simp only [hc, ↓reduceIte]
    rw [iParseNextValue_refines _ line (i + 1) (by omega)]
    cases hp : parseNextValue nameFlags (line.drop (i + 1)) with
    | error e => simp
    | ok x =>
      obtain ⟨r, v⟩ := x
      cases v with
      | none => simp
      | some w => by_cases hw : w.isEmpty <;> simp [hw]
  · by_cases hs : line[i] = ' '
    · simp only [hs, ne_eq, not_true_eq_false, ↓reduceIte]
      exact ⟨(), rfl, rfl⟩
    · simp [hc, hs]; omega

theorem iFindLabel_beyond (line : Str) (start : Nat) (h : line.length ≤ start) :
    iFindLabel line start = .ok (start, none) := by
  simp [iFindLabel, h]

theorem iFindLabel_refines (line : Str) (start : Nat) (h : start ≤ line.length) :
    iFindLabel line start = liftIdx line (findLabel (line.drop start)) := by
  by_cases hle : line.length ≤ start
  · rw [iFindLabel_beyond line _ hle, List.drop_of_length_le hle]
    simp [findLabel]; omega
  · have hlt : start < line.length := by omega
    unfold iFindLabel
    simp only [ge_iff_le, Nat.not_le.mpr hlt, ↓reduceIte,
      ifl_loop_refines line (line.length - start) start (by omega)]
    cases findLabel (line.drop start) with
    | error e => simp
    | ok x => obtain ⟨r, v⟩ := x; simp

/-! ### `find_output_and_command` -/

theorem ioc_loop_refines (line : Str) (v : Str) : ∀ (n i : Nat), i + n = line.length →
    iFor (iocBody line v) n { index := i } =
      .ok { index := line.length - (skipToEquals (line.drop i)).2.length,
            output := if (skipToEquals (line.drop i)).1 then some v else none } := by
  intro n i
  refine iFor_refines (σ := IOC) line _ (fun (_ : Unit) i => { index := i })
    (fun _ l => .ok { index := line.length - (skipToEquals l).2.length,
                      output := if (skipToEquals l).1 then some v else none })
    (fun _ => rfl) (fun _ i hi => ?_) n i ()
  rw [skipToEquals, iocBody, rd_lt hi]
  by_cases hs : line[i] = ' '
  · simp only [hs, ne_eq, not_true_eq_false, ↓reduceIte]
    exact ⟨(), trivial, trivial⟩
  · by_cases heq : line[i] = '=' <;> simp [hs, heq] <;> omega

theorem iFindOutputAndCommand_beyond (line : Str) (start : Nat) (h : line.length ≤ start) :
    iFindOutputAndCommand line start = .ok (start, none, none) := by
  simp [iFindOutputAndCommand, iParseNextValue_beyond _ line start h]

theorem iFindOutputAndCommand_refines (line : Str) (start : Nat) (h : start ≤ line.length) :
    iFindOutputAndCommand line start = liftIdx line (findOutputAndCommand (line.drop start)) := by
  unfold iFindOutputAndCommand findOutputAndCommand
  rw [iParseNextValue_refines _ line start h]
  cases hp : parseNextValue outputFlags (line.drop start) with
  | error e => simp
  | ok x =>
    obtain ⟨r, v⟩ := x
    cases v with
    | none => simp
    | some v =>
      have hsuf := suffix_of_drop (parseNextValue_suffix hp)
      have hdrop := drop_length_sub hsuf
      simp only [liftIdx]
      rw [ioc_loop_refines line v (line.length - (line.length - r.length)) (line.length - r.length)
        (by have := Nat.sub_le line.length r.length; omega), hdrop]
      cases hk : skipToEquals r with
      | mk b afterEq =>
        have hsuf2 := (skipToEquals_suffix hk).trans hsuf
        cases b with
        | false => simp
        | true =>
          simp only [↓reduceIte, Option.isSome_some]
          rw [iParseNextValue_refines _ line _ (Nat.sub_le _ _), drop_length_sub hsuf2]
          cases hq : parseNextValue nameFlags afterEq with
          | error e => simp
          | ok z =>
            obtain ⟨r2, v2⟩ := z
            cases v2 <;> simp

/-! ### `parse_command_line` -/

theorem iParseCommandLine_beyond (line : Str) (start : Nat) (h : line.length ≤ start) :
    iParseCommandLine line start = .ok .empty := by
  simp [iParseCommandLine, h]

theorem iParseCommandLine_refines (line : Str) (start : Nat) :
    iParseCommandLine line start = liftE (parseCommandLine (line.drop start)) := by
  by_cases hle : line.length ≤ start
  · rw [iParseCommandLine_beyond line _ hle, List.drop_of_length_le hle]
    rfl
  · have hlt : start < line.length := by omega
    have h : start ≤ line.length := by omega
    have hne : line ≠ [] := by intro h0; subst h0; simp at hlt
    have hemp : line.isEmpty = false := by cases line <;> simp_all
    unfold iParseCommandLine
    simp only [hemp, Bool.false_eq_true, ge_iff_le, Nat.not_le.mpr hlt, or_self, ↓reduceIte]
    rw [iFindLabel_refines line start h,
      parseCommandLine_eq _ (by rw [ne_eq, List.drop_eq_nil_iff]; omega)]
    cases hl : findLabel (line.drop start) with
    | error e => simp
    | ok x =>
      obtain ⟨r1, label⟩ := x
      have hs1 := suffix_of_drop (findLabel_suffix hl)
      simp only [liftIdx]
      rw [iFindOutputAndCommand_refines line _ (Nat.sub_le _ _), drop_length_sub hs1]
      cases ho : findOutputAndCommand r1 with
      | error e => simp
      | ok y =>
        obtain ⟨r2, output, command⟩ := y
        have hs2 := (findOutputAndCommand_suffix ho).trans hs1
        simp only [liftIdx]
        rw [iParseArguments_refines line _, drop_length_sub hs2]
        cases parseArguments r2 with
        | error e => simp
        | ok args =>
          simp only [liftE]
          split <;> rfl

/-! ### `parse_pre_process_line` -/

theorem ipp_loop_refines (line : Str) : ∀ (n i : Nat) (acc : Str), i + n = line.length →
    iFor (ippBody line) n { command := acc, index := i } =
      .ok { command := (ppCommand acc (line.drop i)).1,
            index := line.length - (ppCommand acc (line.drop i)).2.length } := by
  refine iFor_refines (σ := IPP) line _ (fun acc i => { command := acc, index := i })
    (fun acc l => .ok { command := (ppCommand acc l).1,
                        index := line.length - (ppCommand acc l).2.length })
    (fun _ => rfl) (fun acc i hi => ?_)
  rw [ppCommand, ippBody, rd_lt hi]
  by_cases hs : line[i] = ' '
  · by_cases ha : acc.isEmpty
    · simp only [hs, ha, ↓reduceIte, Bool.not_true, Bool.false_eq_true]
      exact ⟨acc, rfl, rfl⟩
    · simp [hs, ha]; omega
  · simp only [hs, ↓reduceIte]
    exact ⟨_, rfl, rfl⟩

theorem iParsePreProcessLine_beyond (line : Str) (start : Nat) (h : line.length ≤ start) :
    iParsePreProcessLine line start = .err .preProcessNoCommandFound := by
  unfold iParsePreProcessLine
  split
  · rfl
  · have : line.length - start = 0 := by omega
    simp [this, iFor]

theorem iParsePreProcessLine_refines (line : Str) (start : Nat) :
    iParsePreProcessLine line start = liftE (parsePreProcessLine (line.drop start)) := by
  by_cases hle : line.length ≤ start
  · rw [iParsePreProcessLine_beyond line _ hle, List.drop_of_length_le hle]
    rfl
  · have hlt : start < line.length := by omega
    have hemp : line.isEmpty = false := by cases line <;> simp_all
    unfold iParsePreProcessLine parsePreProcessLine
    simp only [hemp, Bool.false_eq_true, ↓reduceIte,
      ipp_loop_refines line (line.length - start) start [] (by omega)]
    cases hk : ppCommand [] (line.drop start) with
    | mk cmd rest =>
      have hsuf := suffix_of_drop (ppCommand_suffix hk)
      simp only
      by_cases hce : cmd.isEmpty
      · simp [hce]
      · simp only [hce, Bool.false_eq_true, ↓reduceIte]
        rw [iParseArguments_refines line _, drop_length_sub hsuf]
        cases parseArguments rest <;> simp

/-! ### `parse_line` -/

theorem iParseLine_refines (l : Str) : iParseLine l = liftE (parseLine l) := by
  unfold iParseLine parseLine
  cases ht : trim l with
  | nil => simp
  | cons c rest =>
    by_cases hh : c = '#'
    · simp [hh]
    · have h1 : rd (c :: rest) 0 = some c := rfl
      simp only [List.isEmpty_cons, Bool.false_eq_true, List.head?_cons, Option.some.injEq, hh,
        or_self, ↓reduceIte, h1]
      by_cases hb : c = '!'
      · simp only [hb, ↓reduceIte]
        have := iParsePreProcessLine_refines ('!' :: rest) 1
        simpa using this
      · simp only [hb, ↓reduceIte]
        have := iParseCommandLine_refines (c :: rest) 0
        simpa using this

end Duck
