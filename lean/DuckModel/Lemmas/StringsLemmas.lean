/-
  Lemmas about the C16 model (Sdk/Strings.lean): find / rfind, split / replace, slices and the
  shape of what `substring` answers, integer literals; then the small facts the C16 theorems need
  about `optNat`, `List.intercalate` and `dropWhile`.
-/
import DuckModel.Sdk.Strings
import DuckModel.Lemmas.Utf8Lemmas

namespace Duck.Strings
open Duck

/-! ### find -/

/-- `find` answers the first offset at which the pattern matches, or that there is none -/
theorem find_spec (p : Bytes) : ∀ h : Bytes,
    match find p h with
    | some k => p <+: h.drop k ∧ k ≤ h.length ∧ ∀ j, j < k → ¬ p <+: h.drop j
    | none => ∀ j, ¬ p <+: h.drop j
  | [] => by
    by_cases hp : p = [] <;> simp [find, hp]
  | x :: t => by
    have ih := find_spec p t
    by_cases hp : p.isPrefixOf (x :: t) = true
    · rw [find, if_pos hp]
      exact ⟨by simpa using List.isPrefixOf_iff_prefix.mp hp, by simp, by intro j hj; omega⟩
    · have h0 : ¬ p <+: x :: t := fun h => hp (List.isPrefixOf_iff_prefix.mpr h)
      rw [find, if_neg hp]
      cases hf : find p t with
      | none =>
        rw [hf] at ih
        intro j
        cases j with
        | zero => exact h0
        | succ j => exact ih j
      | some k =>
        rw [hf] at ih
        obtain ⟨h1, h2, h3⟩ := ih
        refine ⟨h1, Nat.succ_le_succ h2, fun j (hj : j < k + 1) => ?_⟩
        cases j with
        | zero => exact h0
        | succ j => exact h3 j (by omega)

theorem find_some {p h : Bytes} {k : Nat} (hk : find p h = some k) :
    p <+: h.drop k ∧ k ≤ h.length ∧ ∀ j, j < k → ¬ p <+: h.drop j := by
  have := find_spec p h; rwa [hk] at this

theorem find_none {p h : Bytes} (hk : find p h = none) : ∀ j, ¬ p <+: h.drop j := by
  have := find_spec p h; rwa [hk] at this

/-- the text splits at a match -/
theorem find_some_split {p h : Bytes} {k : Nat} (hk : find p h = some k) :
    h = h.take k ++ (p ++ h.drop (k + p.length)) := by
  obtain ⟨⟨r, hr⟩, _, _⟩ := find_some hk
  have : h.drop (k + p.length) = r := by
    rw [← List.drop_drop, ← hr]
    simp
  rw [this, hr]
  exact (List.take_append_drop k h).symm

theorem find_nil_pat (h : Bytes) : find [] h = some 0 := by
  cases h <;> simp [find]

/-- a match lies inside the text -/
theorem find_some_le {p h : Bytes} {k : Nat} (hk : find p h = some k) : k + p.length ≤ h.length := by
  obtain ⟨⟨r, hr⟩, hle, _⟩ := find_some hk
  have := congrArg List.length hr
  simp only [List.length_append, List.length_drop] at this
  omega

theorem find_isSome_iff_infix (p h : Bytes) : (find p h).isSome = true ↔ p <:+: h := by
  constructor
  · intro hs
    cases hf : find p h with
    | none => simp [hf] at hs
    | some k =>
      obtain ⟨h1, _, _⟩ := find_some hf
      exact List.IsInfix.trans h1.isInfix (List.drop_suffix k h).isInfix
  · intro hi
    cases hf : find p h with
    | some k => rfl
    | none =>
      exfalso
      obtain ⟨s, t, hst⟩ := hi
      apply find_none hf s.length
      refine ⟨t, ?_⟩
      rw [← hst]
      simp

/-! ### rfind -/

/-- `rfind` answers the last offset at which the pattern matches, or that there is none -/
theorem rfind_spec (p : Bytes) : ∀ h : Bytes,
    match rfind p h with
    | some k => p <+: h.drop k ∧ k ≤ h.length ∧ ∀ j, k < j → j ≤ h.length → ¬ p <+: h.drop j
    | none => ∀ j, ¬ p <+: h.drop j
  | [] => by
    by_cases hp : p = [] <;> simp [rfind, hp]
    intro j hj hl; omega
  | x :: t => by
    have ih := rfind_spec p t
    rw [rfind]
    cases hf : rfind p t with
    | some k =>
      rw [hf] at ih
      obtain ⟨h1, h2, h3⟩ := ih
      refine ⟨h1, Nat.succ_le_succ h2, fun j hj hl => ?_⟩
      cases j with
      | zero => omega
      | succ j => exact h3 j (by omega) (Nat.le_of_succ_le_succ hl)
    | none =>
      rw [hf] at ih
      by_cases hp : p.isPrefixOf (x :: t) = true
      · simp only [if_pos hp]
        refine ⟨by simpa using List.isPrefixOf_iff_prefix.mp hp, by simp, fun j hj _ => ?_⟩
        cases j with
        | zero => omega
        | succ j => exact ih j
      · simp only [if_neg hp]
        intro j
        cases j with
        | zero => exact fun h => hp (List.isPrefixOf_iff_prefix.mpr h)
        | succ j => exact ih j

theorem rfind_some {p h : Bytes} {k : Nat} (hk : rfind p h = some k) :
    p <+: h.drop k ∧ k ≤ h.length ∧ ∀ j, k < j → j ≤ h.length → ¬ p <+: h.drop j := by
  have := rfind_spec p h; rwa [hk] at this

theorem rfind_none {p h : Bytes} (hk : rfind p h = none) : ∀ j, ¬ p <+: h.drop j := by
  have := rfind_spec p h; rwa [hk] at this

/-! ### split / replace -/

theorem splitF_succ (p : Bytes) (f : Nat) (l : Bytes) :
    splitF p (f + 1) l =
      match find p l with
      | none => [l]
      | some k => l.take k :: splitF p f (l.drop (k + p.length)) := rfl

theorem splitF_ne_nil (p : Bytes) : ∀ (f : Nat) (l : Bytes), splitF p f l ≠ [] := by
  intro f l
  cases f with
  | zero => simp [splitF]
  | succ f =>
    simp only [splitF]
    split <;> simp

theorem intercalate_cons_cons {α} (sep a b : List α) (r : List (List α)) :
    sep.intercalate (a :: b :: r) = a ++ (sep ++ sep.intercalate (b :: r)) := by
  simp [List.intercalate, List.intersperse]

theorem intercalate_cons_of_ne_nil {α} (sep a : List α) {r : List (List α)} (h : r ≠ []) :
    sep.intercalate (a :: r) = a ++ (sep ++ sep.intercalate r) := by
  cases r with
  | nil => exact absurd rfl h
  | cons b r => exact intercalate_cons_cons sep a b r

theorem intercalate_singleton {α} (sep a : List α) : sep.intercalate [a] = a := by
  simp [List.intercalate, List.intersperse]

/-- whatever the fuel, the pieces joined by the separator give back the text -/
theorem splitF_join (p : Bytes) : ∀ (f : Nat) (l : Bytes), p.intercalate (splitF p f l) = l := by
  intro f
  induction f with
  | zero => intro l; simp [splitF]
  | succ f ih =>
    intro l
    simp only [splitF]
    cases hf : find p l with
    | none => simp
    | some k =>
      simp only
      rw [intercalate_cons_of_ne_nil _ _ (splitF_ne_nil p f _), ih]
      exact (find_some_split hf).symm

/-- replacing is splitting and joining with the replacement -/
theorem replaceF_eq (p to : Bytes) : ∀ (f : Nat) (l : Bytes),
    replaceF p to f l = to.intercalate (splitF p f l) := by
  intro f
  induction f with
  | zero => intro l; simp [splitF, replaceF]
  | succ f ih =>
    intro l
    simp only [splitF, replaceF]
    cases hf : find p l with
    | none => simp
    | some k =>
      simp only
      rw [intercalate_cons_of_ne_nil _ _ (splitF_ne_nil p f _), ih]

/-- with a non-empty pattern, fuel above the length of the text is never used up -/
theorem splitF_fuel (p : Bytes) (hp : p ≠ []) : ∀ (f g : Nat) (l : Bytes),
    l.length < f → l.length < g → splitF p f l = splitF p g l := by
  intro f
  induction f with
  | zero => intro g l h; omega
  | succ f ih =>
    intro g l hf hg
    cases g with
    | zero => omega
    | succ g =>
      simp only [splitF]
      cases hk : find p l with
      | none => rfl
      | some k =>
        simp only
        have hpl : 0 < p.length := List.length_pos_iff.mpr hp
        have hle := find_some_le hk
        congr 1
        apply ih <;> simp only [List.length_drop] <;> omega

/-! ### slices -/

theorem slice_eq (b : Bytes) (s e : Nat) :
    slice b s e =
      if s ≤ e ∧ isBoundary b s = true ∧ isBoundary b e = true then .str ((b.drop s).take (e - s))
      else .err := rfl

theorem finish_ne_panic (b : Bytes) (x y : Int) : finish b x y ≠ .panic := by
  unfold finish slice
  repeat' split
  all_goals simp

theorem finish_nonneg (b : Bytes) {x y : Int} (hx : 0 ≤ x) (hy : 0 ≤ y) :
    finish b x y = slice b x.toNat y.toNat := by
  simp [finish, toUsize, hx, hy]

theorem finish_str {b : Bytes} {x y : Int} {r : Bytes} (h : finish b x y = .str r) :
    ∃ s e, slice b s e = .str r := by
  unfold finish at h
  split at h
  · cases h
  · split at h
    · cases h
    · exact ⟨_, _, h⟩

theorem substr3_shape (b : Bytes) (st en : Int) :
    substr3 b st en = .err ∨ ∃ x y, substr3 b st en = finish b x y := by
  unfold substr3
  by_cases h1 : st > (b.length : Int) - 1
  · exact .inl (if_pos h1)
  · by_cases h2 : en ≥ st
    · by_cases h3 : en > (b.length : Int) - 1
      · exact .inl (by rw [if_neg h1, if_pos h2, if_pos h3])
      · exact .inr ⟨st, en, by rw [if_neg h1, if_pos h2, if_neg h3]⟩
    · exact .inl (by rw [if_neg h1, if_neg h2])
theorem substr2_shape (b : Bytes) (v : Int) :
    substr2 b v = .err ∨ ∃ x y, substr2 b v = finish b x y := by
  unfold substr2
  by_cases h1 : v ≥ 0
  · by_cases h2 : v > (b.length : Int) - 1
    · exact .inl (by rw [if_pos h1, if_pos h2])
    · exact .inr ⟨_, _, by rw [if_pos h1, if_neg h2]⟩
  · by_cases h2 : (b.length : Int) + v < 0
    · exact .inl (by rw [if_neg h1, if_pos h2])
    · exact .inr ⟨_, _, by rw [if_neg h1, if_neg h2]⟩

/-- every answer of `substring` is the error result or a checked slice of the text -/
theorem substring_shape (s : Str) (rest : List Str) :
    substring (s :: rest) = .err ∨ ∃ x y, substring (s :: rest) = finish (enc s) x y := by
  match rest with
  | [] => exact .inr ⟨0, ((enc s).length : Int), rfl⟩
  | [a] =>
    simp only [substring]
    cases parseI64 a with
    | none => exact .inl rfl
    | some v => exact substr2_shape _ v
  | a :: b :: r =>
    simp only [substring]
    cases parseI64 a with
    | none => exact .inl rfl
    | some st =>
      simp only
      split
      · exact .inl rfl
      · cases parseI64 b with
        | none => exact .inl rfl
        | some en => exact substr3_shape _ st en

/-- a successful slice of an encoded text is the encoding of a run of its scalars -/
theorem slice_valid {s : Str} {a e : Nat} {r : Bytes} (h : slice (enc s) a e = .str r) :
    ∃ p m q, s = p ++ m ++ q ∧ r = enc m ∧ (enc p).length = a ∧ (enc (p ++ m)).length = e := by
  rw [slice_eq] at h
  split at h
  · rename_i hc
    obtain ⟨hae, ha, he⟩ := hc
    cases h
    obtain ⟨p, q1, hs1, hpa⟩ := boundary_split s a ha
    obtain ⟨p2, q2, hs2, hpe⟩ := boundary_split s e he
    -- the two prefixes are comparable
    have hpp : p <+: p2 := by
      have h1 : p <+: s := ⟨q1, hs1.symm⟩
      have h2 : p2 <+: s := ⟨q2, hs2.symm⟩
      rcases List.prefix_or_prefix_of_prefix h1 h2 with h | h
      · exact h
      · obtain ⟨d, hd⟩ := h
        have hlen : (utf8Encode p).length = (utf8Encode p2).length + (utf8Encode d).length := by
          rw [← hd, utf8Encode_append, List.length_append]
        have hd0 : utf8Encode d = [] := List.length_eq_zero_iff.mp (by omega)
        have := utf8Encode_eq_nil hd0
        subst this
        simp at hd
        rw [hd]
        exact List.prefix_rfl
    obtain ⟨m, hm⟩ := hpp
    refine ⟨p, m, q2, by rw [hm]; exact hs2, ?_, hpa, by rw [hm]; exact hpe⟩
    have hlm : (utf8Encode m).length = e - a := by
      have : (utf8Encode p2).length = (utf8Encode p).length + (utf8Encode m).length := by
        rw [← hm, utf8Encode_append, List.length_append]
      omega
    have hs : enc s = utf8Encode p ++ (utf8Encode m ++ utf8Encode q2) := by
      show utf8Encode s = _
      rw [hs2, ← hm, utf8Encode_append, utf8Encode_append, List.append_assoc]
    have hlm' : e - (utf8Encode p).length = (utf8Encode m).length := by omega
    rw [hs, ← hpa, List.drop_left, hlm', List.take_left]
  · cases h

/-- a match of a non-empty encoded text starts on a character boundary -/
theorem match_boundary {t : Str} {b : Bytes} {k : Nat} (ht : t ≠ [])
    (h : enc t <+: b.drop k) : isBoundary b k = true := by
  obtain ⟨x, r, hx, hc⟩ := utf8Encode_head_not_cont ht
  obtain ⟨d, hd⟩ := h
  have : b[k]? = some x := by
    have h0 : (b.drop k)[0]? = some x := by
      rw [← hd]
      show (utf8Encode t ++ d)[0]? = some x
      rw [hx]; rfl
    simpa using h0
  simp [isBoundary, this, hc]

/-! ### integer literals -/

theorem parseI64_some {s : Str} {v : Int} (h : parseI64 s = some v) : parseInt s = some v := by
  unfold parseI64 at h
  split at h
  · split at h
    · cases h; assumption
    · cases h
  · cases h

theorem takeWhile_all {l : List Char} (h : l.all isDigit = true) :
    l.takeWhile isDigit = l ∧ l.dropWhile isDigit = [] := by
  induction l with
  | nil => simp
  | cons c r ih =>
    simp only [List.all_cons, Bool.and_eq_true] at h
    simp [h.1, ih h.2]

/-! ### results as options; joining with a separator; white space -/

theorem optNat_eq_nat {o : Option Nat} {k : Nat} : optNat o = .nat k ↔ o = some k := by
  cases o <;> simp [optNat]

theorem optNat_eq_none {o : Option Nat} : optNat o = .none ↔ o = none := by
  cases o <;> simp [optNat]

theorem intercalate_nil_sep {α} : ∀ (l : List (List α)), ([] : List α).intercalate l = l.flatten
  | [] => by simp [List.intercalate]
  | [a] => by simp
  | a :: b :: r => by rw [intercalate_cons_cons, intercalate_nil_sep (b :: r)]; simp

theorem intercalate_map_trailing {α β} (f : β → List α) (to : List α) : ∀ (s : List β),
    to.intercalate (s.map f ++ [[]]) = s.flatMap (fun c => f c ++ to)
  | [] => by simp
  | c :: r => by
    have hne : r.map f ++ [[]] ≠ [] := by simp
    rw [List.map_cons, List.cons_append, intercalate_cons_of_ne_nil _ _ hne,
      intercalate_map_trailing f to r]
    simp

theorem dropWhile_head_not (p : Char → Bool) (l : List Char) (c : Char) (r : List Char)
    (h : l.dropWhile p = c :: r) : p c = false := by
  have := List.head?_dropWhile_not p l
  rwa [h] at this

end Duck.Strings
