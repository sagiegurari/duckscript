/-
  The tree run is followed by the goto-machine (every terminating tree run; not the converse) — run composition (`Steps`),
  program layout (`At`), argument binding of literal words and of the `for` line.
-/
import DuckModel.Sdk.Flow
import DuckModel.Spec.TreeSimple
import DuckModel.Lemmas.ExpansionLemmas
import DuckModel.Lemmas.RunnerLemmas
import DuckModel.Lemmas.ScanLemmas

namespace Duck
open Duck.Spec Duck.Generated

/-! ### run composition -/

/-- the machine, started in `(l, v, s)`, reaches `(l', v', s')` after finitely many steps, whatever
    the fuel (from 3 on) of the nested evaluator, the remaining fuel and the poll counter are.
    From 3 on every condition of the fragment has its final value (`cond_eval`; `not` around a
    command condition needs 3, `condEvals_not`). The 3 in `runCmdF … 3` of the step lemmas is another
    number: the fuel `sdkSem` gives the command dispatcher (the generic `end` dispatches again) -/
def Steps (is : List Instruction) (l : Nat) (v : Vars) (s : Sdk) (l' : Nat) (v' : Vars) (s' : Sdk) :
    Prop :=
  ∃ n, ∀ (f k p : Nat), 3 ≤ f →
    runLoop (sdkSem (evalInstrsF f) is) is (labelTable is) (fun _ _ => false) (n + k) ⟨l, p, v, s⟩ =
      runLoop (sdkSem (evalInstrsF f) is) is (labelTable is) (fun _ _ => false) k ⟨l', p + n, v', s'⟩

theorem Steps.refl (is : List Instruction) (l : Nat) (v : Vars) (s : Sdk) : Steps is l v s l v s :=
  ⟨0, fun _ k p _ => by simp⟩

theorem Steps.trans {is : List Instruction} {l1 l2 l3 : Nat} {v1 v2 v3 : Vars} {s1 s2 s3 : Sdk}
    (h1 : Steps is l1 v1 s1 l2 v2 s2) (h2 : Steps is l2 v2 s2 l3 v3 s3) :
    Steps is l1 v1 s1 l3 v3 s3 := by
  obtain ⟨n1, h1⟩ := h1
  obtain ⟨n2, h2⟩ := h2
  refine ⟨n1 + n2, fun f k p hf => ?_⟩
  rw [Nat.add_assoc, h1 f _ _ hf, h2 f _ _ hf, Nat.add_assoc]

/-- one step whose outcome may depend on the nested evaluator (command conditions) -/
theorem Steps.singleF {is : List Instruction} {l l' : Nat} {v v' : Vars} {s s' : Sdk}
    (h : ∀ (f : Nat), 3 ≤ f → ∀ (p : Nat),
      runStep (sdkSem (evalInstrsF f) is) is (labelTable is) (fun _ _ => false) ⟨l, p, v, s⟩ =
        .inl ⟨l', p + 1, v', s'⟩) :
    Steps is l v s l' v' s' := by
  refine ⟨1, fun f k p hf => ?_⟩
  rw [Nat.add_comm 1 k, runLoop_succ, h f hf]

theorem Steps.single {is : List Instruction} {l l' : Nat} {v v' : Vars} {s s' : Sdk}
    (h : ∀ (nested : EvalFn) (p : Nat),
      runStep (sdkSem nested is) is (labelTable is) (fun _ _ => false) ⟨l, p, v, s⟩ =
        .inl ⟨l', p + 1, v', s'⟩) :
    Steps is l v s l' v' s' :=
  Steps.singleF (fun f _ p => h (evalInstrsF f) p)

theorem Steps.cast {is : List Instruction} {l l' l'' : Nat} {v v' v'' : Vars} {s s' s'' : Sdk}
    (h : Steps is l v s l' v' s') (hl : l' = l'') (hv : v' = v'') (hs : s' = s'') :
    Steps is l v s l'' v'' s'' := by
  subst hl; subst hv; subst hs; exact h

/-! ### program layout -/

theorem instrsFrom_nil (n : Nat) : instrsFrom n [] = [] := rfl

theorem instrsFrom_cons (n : Nat) (x : ScriptInstr) (l : List ScriptInstr) :
    instrsFrom n (x :: l) = ⟨{ line := some (n + 1), source := none }, .script x⟩ :: instrsFrom (n + 1) l :=
  rfl

theorem length_instrsFrom (n : Nat) (l : List ScriptInstr) : (instrsFrom n l).length = l.length :=
  program_go_length l (n + 1)

theorem instrsFrom_append (n : Nat) (a b : List ScriptInstr) :
    instrsFrom n (a ++ b) = instrsFrom n a ++ instrsFrom (n + a.length) b := by
  induction a generalizing n with
  | nil => simp [instrsFrom_nil]
  | cons x a ih =>
    simp only [List.cons_append, instrsFrom_cons, ih, List.length_cons]
    congr 3
    omega

/-- the script lines `l` sit in the program `is` from 0-based index `lo` on -/
def At (is : List Instruction) (lo : Nat) (l : List ScriptInstr) : Prop :=
  ∃ pre post, pre.length = lo ∧ is = pre ++ instrsFrom lo l ++ post

theorem At.left {is : List Instruction} {lo : Nat} {a b : List ScriptInstr} (h : At is lo (a ++ b)) :
    At is lo a := by
  obtain ⟨pre, post, hl, rfl⟩ := h
  refine ⟨pre, instrsFrom (lo + a.length) b ++ post, hl, ?_⟩
  rw [instrsFrom_append]
  simp

theorem At.right {is : List Instruction} {lo : Nat} {a b : List ScriptInstr} (h : At is lo (a ++ b)) :
    At is (lo + a.length) b := by
  obtain ⟨pre, post, hl, rfl⟩ := h
  refine ⟨pre ++ instrsFrom lo a, post, ?_, ?_⟩
  · simp [length_instrsFrom, hl]
  · rw [instrsFrom_append]
    simp

theorem At.tail {is : List Instruction} {lo : Nat} {x : ScriptInstr} {l : List ScriptInstr}
    (h : At is lo (x :: l)) : At is (lo + 1) l := by
  have := At.right (a := [x]) (b := l) (by simpa using h)
  simpa using this

theorem At.head {is : List Instruction} {lo : Nat} {x : ScriptInstr} {l : List ScriptInstr}
    (h : At is lo (x :: l)) :
    is[lo]? = some ⟨{ line := some (lo + 1), source := none }, .script x⟩ := by
  obtain ⟨pre, post, hl, rfl⟩ := h
  subst hl
  simp [instrsFrom_cons]

theorem At.program (b : Block) : At (program b) 0 b.flatten :=
  ⟨[], [], rfl, by simp [instrsFrom]; rfl⟩

theorem length_program (b : Block) : (program b).length = b.flatten.length :=
  length_instrsFrom 0 b.flatten

/-! ### binding of literal words -/

theorem litOK_of_isLiteral {w : Str} (h : isLiteral w = true) : LitOK w := by
  intro c hc
  have := (List.all_eq_true.mp h) c hc
  simp at this
  exact ⟨this.1.1, this.1.2, this.2⟩

theorem bind_cons (vars : Vars) (a : Str) (rest : List Str) :
    bind vars (some (a :: rest)) = bind vars (some [a]) ++ bind vars (some rest) := by
  simp [bind]

theorem bind_literal (vars : Vars) (w : Str) (h : isLiteral w = true) :
    bind vars (some [w]) = [w] := by
  have := bind_templates vars [[Seg.lit w]] (by
    intro t ht s hs
    simp at ht
    subst ht
    simp at hs
    subst hs
    exact litOK_of_isLiteral h)
  simpa [renderTemplate, Seg.render, tmplValue, Seg.value] using this

theorem bind_cons_literal (vars : Vars) (w : Str) (rest : List Str) (h : isLiteral w = true) :
    bind vars (some (w :: rest)) = w :: bind vars (some rest) := by
  rw [bind_cons, bind_literal vars w h]
  rfl

theorem handleVar_inv {w hn : Str} (h : handleVar? w = some hn) :
    w = '$' :: '{' :: (hn ++ ['}']) ∧ KeyOK hn := by
  unfold handleVar? at h
  split at h
  · rename_i rest
    split at h
    · rename_i nameRev hrev
      dsimp only at h
      split at h
      · rename_i hcond
        injection h with h
        subst h
        have hrest : rest = nameRev.reverse ++ ['}'] := by
          have := congrArg List.reverse hrev
          simpa using this
        refine ⟨by rw [hrest], ?_⟩
        simp only [Bool.and_eq_true, List.all_eq_true] at hcond
        intro c hc
        have := hcond.2 c hc
        simp at this
        obtain ⟨⟨⟨⟨⟨⟨⟨⟨⟨_, _⟩, _⟩, h4⟩, _⟩, h6⟩, h7⟩, h8⟩, h9⟩, h10⟩ := this
        exact ⟨h4, h6, h7, h8, h9, h10⟩
      · cases h
    · cases h
  · cases h

theorem bind_handle (vars : Vars) (w hn : Str) (h : handleVar? w = some hn) :
    bind vars (some [w]) = [(vars.get hn).getD []] := by
  obtain ⟨rfl, hk⟩ := handleVar_inv h
  have := bind_templates vars [[Seg.var hn]] (by
    intro t ht s hs
    simp at ht
    subst ht
    simp at hs
    subst hs
    exact hk)
  simpa [renderTemplate, Seg.render, tmplValue, Seg.value] using this

theorem bind_for (vars : Vars) (x w hn : Str) (hx : isLiteral x = true) (h : handleVar? w = some hn) :
    bind vars (some [x, "in".toList, w]) = [x, "in".toList, (vars.get hn).getD []] := by
  rw [bind_cons_literal vars x _ hx, bind_cons_literal vars "in".toList _ (by decide),
    bind_handle vars w hn h]

theorem bind_none (vars : Vars) : bind vars none = [] := rfl
theorem bind_some_nil (vars : Vars) : bind vars (some []) = [] := rfl

/-- the written arguments of a tree line, as they sit in the instruction -/
theorem bind_mkArgs (vars : Vars) (args : List Str) :
    bind vars (if args.isEmpty then none else some args) = bind vars (some args) := by
  cases args <;> rfl

end Duck
