/-
  The value scanner on rendered text.  Defines the shapes of what may follow a token
  (`EolTail`, `Bnd`, `SpTail`, with `afterTok`: what the scanner leaves of it) and the characters
  of a token (`TokChar`); proves that leading spaces are skipped, that an end-of-line tail yields
  no value, and that a token followed by a boundary is read back.
-/
import DuckModel.Lemmas.ScannerLemmas
import DuckModel.Spec.Render

namespace Duck
open Duck.Spec

/-! ### characters -/

theorem isWs_false_ne {c : Char} (h : isWs c = false) :
    c ≠ ' ' ∧ c ≠ '\n' ∧ c ≠ '\r' ∧ c ≠ '\t' := by
  refine ⟨?_, ?_, ?_, ?_⟩ <;> (rintro rfl; revert h; decide)

theorem isWs_space : isWs ' ' = true := by decide

theorem spaces_succ (k : Nat) : spaces (k + 1) = ' ' :: spaces k := by
  simp [spaces, List.replicate_succ]

theorem spaces_zero : spaces 0 = [] := rfl

theorem spaces_add (a b : Nat) : spaces a ++ spaces b = spaces (a + b) := by
  simp [spaces, List.replicate_append_replicate]

theorem mem_spaces {k : Nat} {c : Char} (h : c ∈ spaces k) : c = ' ' := by
  simp [spaces] at h; exact h.2

theorem spaces_ws (k : Nat) : ∀ c ∈ spaces k, isWs c = true := by
  intro c hc; rw [mem_spaces hc]; decide

/-! ### leading spaces -/

theorem pvLoop_spaces (fl : PVFlags) (k : Nat) (l : Str) :
    pvLoop fl {} (spaces k ++ l) = pvLoop fl {} l := by
  induction k with
  | zero => simp [spaces]
  | succ k ih =>
    rw [spaces_succ, List.cons_append, pvLoop]
    simp [pvStep]
    exact ih

theorem parseNextValue_spaces (fl : PVFlags) (k : Nat) (l : Str) :
    parseNextValue fl (spaces k ++ l) = parseNextValue fl l := by
  rw [parseNextValue_eq, parseNextValue_eq, pvLoop_spaces]

/-! ### end-of-line-like tails: spaces, then nothing or a comment -/

inductive EolTail : Str → Prop
  | nil : EolTail []
  | hash (t : Str) : EolTail ('#' :: t)
  | space {t : Str} : EolTail t → EolTail (' ' :: t)

theorem EolTail.spaces_append {t : Str} (k : Nat) (h : EolTail t) : EolTail (spaces k ++ t) := by
  induction k with
  | zero => simpa [spaces] using h
  | succ k ih => rw [spaces_succ]; exact EolTail.space ih

theorem EolTail.spaces (k : Nat) : EolTail (spaces k) := by
  simpa using EolTail.spaces_append k EolTail.nil

theorem EolTail.renderComment (cm : Option (Nat × Str)) : EolTail (renderComment cm) := by
  cases cm with
  | none => exact EolTail.nil
  | some p =>
    obtain ⟨k, t⟩ := p
    exact EolTail.spaces_append k (EolTail.hash t)

theorem pvLoop_eol (fl : PVFlags) {t : Str} (h : EolTail t) :
    pvLoop fl {} t = .ok ({}, [], false) := by
  induction h with
  | nil => rfl
  | hash t => simp [pvLoop, pvStep]
  | space _ ih => rw [pvLoop]; simp [pvStep]; exact ih

theorem parseNextValue_eol (fl : PVFlags) {t : Str} (h : EolTail t) :
    parseNextValue fl t = .ok ([], none) := by
  rw [parseNextValue_eq, pvLoop_eol fl h]
  simp [pvFinish]

/-! ### token boundaries -/

/-- what is left after a token that is followed by `tail` -/
def afterTok : Str → Str
  | '#' :: _ => []
  | t => t

/-- `tail` ends a token (with `eq`: also `=` does) -/
inductive Bnd (eq : Bool) : Str → Prop
  | nil : Bnd eq []
  | space (t : Str) : Bnd eq (' ' :: t)
  | hash (t : Str) : Bnd eq ('#' :: t)
  | equals (t : Str) : eq = true → Bnd eq ('=' :: t)

theorem afterTok_length_le (t : Str) : (afterTok t).length ≤ t.length := by
  unfold afterTok
  split <;> simp

theorem afterTok_space (t : Str) : afterTok (' ' :: t) = ' ' :: t := by
  simp [afterTok]

theorem afterTok_nil : afterTok [] = [] := rfl

/-- the remainder after an argument: nothing, or the space before the next argument -/
def SpTail (tail : Str) : Prop := tail = [] ∨ ∃ r, tail = ' ' :: r

theorem SpTail.bnd {tail : Str} (h : SpTail tail) : Bnd false tail := by
  rcases h with rfl | ⟨r, rfl⟩
  · exact Bnd.nil
  · exact Bnd.space r

theorem SpTail.afterTok {tail : Str} (h : SpTail tail) : afterTok tail = tail := by
  rcases h with rfl | ⟨r, rfl⟩
  · rfl
  · exact afterTok_space r

theorem afterTok_hash (t : Str) : afterTok ('#' :: t) = [] := rfl

theorem EolTail.bnd {eq : Bool} {t : Str} (h : EolTail t) : Bnd eq t := by
  cases h with
  | nil => exact Bnd.nil
  | hash t => exact Bnd.hash t
  | space h => exact Bnd.space _

theorem Bnd.mono {t : Str} (h : Bnd false t) : Bnd true t := by
  cases h with
  | nil => exact Bnd.nil
  | space t => exact Bnd.space t
  | hash t => exact Bnd.hash t
  | equals t h => exact absurd h (by simp)

theorem EolTail.afterTok {t : Str} (h : EolTail t) : EolTail (afterTok t) := by
  cases h with
  | nil => exact EolTail.nil
  | hash t => exact EolTail.nil
  | space h => rw [afterTok_space]; exact EolTail.space h

/-- an unquoted value being accumulated ends at a boundary -/
theorem pv_finish_at_bnd (fl : PVFlags) (arg tail : Str) (hne : arg ≠ [])
    (hb : Bnd fl.stopOnEquals tail) :
    (match pvLoop fl { arg := arg, inArg := true } tail with
      | .error e => (.error e : Except PErr (Str × Option Str))
      | .ok (st, rest, fe) => pvFinish st rest fe) = .ok (afterTok tail, some arg) := by
  have hemp : arg.isEmpty = false := by
    cases arg with
    | nil => exact absurd rfl hne
    | cons _ _ => rfl
  cases hb with
  | nil => simp [pvLoop, pvFinish, hemp, afterTok]
  | space t => simp [pvLoop, pvStep, pvFinish, hemp, afterTok]
  | hash t => simp [pvLoop, pvStep, pvFinish, hemp, afterTok]
  | equals t he => simp [pvLoop, pvStep, pvFinish, hemp, afterTok, he]

/-! ### names (label name, output variable, command) -/

/-- characters allowed inside a token scanned with flags `fl` -/
def TokChar (fl : PVFlags) (c : Char) : Prop :=
  isWs c = false ∧ c ≠ '#' ∧ c ≠ '\\' ∧ (fl.stopOnEquals = true → c ≠ '=')

theorem pvStep_tok_first (fl : PVFlags) (c : Char) (rest : Str) (h : TokChar fl c) (hq : c ≠ '"') :
    pvStep fl {} c rest = .cont { arg := [c], inArg := true } := by
  obtain ⟨hws, h1, h2, _⟩ := h
  have := (isWs_false_ne hws).1
  simp [pvStep, *]

theorem pvStep_tok_next (fl : PVFlags) (acc : Str) (c : Char) (rest : Str) (h : TokChar fl c) :
    pvStep fl { arg := acc, inArg := true } c rest = .cont { arg := acc ++ [c], inArg := true } := by
  obtain ⟨hws, h1, h2, h3⟩ := h
  have := (isWs_false_ne hws).1
  simp [pvStep, *]
  intro he1 he
  exact absurd he (h3 he1)

theorem pvLoop_tok_body (fl : PVFlags) (nm acc tail : Str) (h : ∀ c ∈ nm, TokChar fl c) :
    pvLoop fl { arg := acc, inArg := true } (nm ++ tail) =
      pvLoop fl { arg := acc ++ nm, inArg := true } tail := by
  induction nm generalizing acc with
  | nil => simp
  | cons c t ih =>
    rw [List.cons_append, pvLoop, pvStep_tok_next fl acc c _ (h c (by simp))]
    simp only []
    rw [ih _ (fun x hx => h x (by simp [hx]))]
    simp

theorem pvLoop_tok (fl : PVFlags) (c : Char) (t tail : Str) (h : ∀ x ∈ c :: t, TokChar fl x)
    (hq : c ≠ '"') :
    pvLoop fl {} (c :: t ++ tail) = pvLoop fl { arg := c :: t, inArg := true } tail := by
  rw [List.cons_append, pvLoop, pvStep_tok_first fl c _ (h c (by simp)) hq]
  simp only []
  rw [pvLoop_tok_body fl t [c] tail (fun x hx => h x (by simp [hx]))]
  simp

/-- a well-formed token followed by a boundary is read back exactly -/
theorem parseNextValue_tok (fl : PVFlags) (nm tail : Str) (hne : nm ≠ [])
    (h : ∀ x ∈ nm, TokChar fl x) (hq : nm.head? ≠ some '"') (hb : Bnd fl.stopOnEquals tail) :
    parseNextValue fl (nm ++ tail) = .ok (afterTok tail, some nm) := by
  cases nm with
  | nil => exact absurd rfl hne
  | cons c t =>
    rw [parseNextValue_eq, pvLoop_tok fl c t tail h (by simpa using hq)]
    exact pv_finish_at_bnd fl (c :: t) tail (by simp) hb

end Duck
