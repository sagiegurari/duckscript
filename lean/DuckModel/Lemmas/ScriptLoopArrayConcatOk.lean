/-
  `array_concat` run from source, SUCCESS path, for every argument list whose elements name live
  arrays: the validation loop (`if not is_array` false for every argument), `array`, the NESTED
  loops (`for arg in ${arguments}` / `for item in ${arg}` / `array_push`), the tail; and the call
  without arguments.  All three loops are left through their `for` line (`ForBlock.run`); the
  invariant of the outer and of the inner loop is the same structure (`AOutPost`).
  Exports `ac_call` (one successful call, for every budget from the bound on) with what it leaves,
  `ACallPost`; `ac_runF_nil` (end state `acNilFinal`); `acCost_eq`, `acCells_lists`, `lists?_of_live`.
-/
import DuckModel.Lemmas.ScriptLoopArrayConcat

namespace Duck.ScriptRun
open Duck Duck.Alias Duck.Coll Duck.Spec Duck.Generated Duck.Reser

attribute [local irreducible] tremove tinsert

/-! ### the invariant of caches and `end` table -/

/-- what every state of an `array_concat` body keeps true of the block-position caches and the
    `end` table, relative to the state `st0` the body started in: untouched outside the command's
    own prefix, the cached block ends of its four flow lines right -/
structure AInv (st0 : ScriptSt) (IM : KV (Nat × List Nat)) (FM : KV Nat) (ET : KV Str) : Prop where
  ifMeta : ∀ k, underPrefix aScope k = false → IM.get k = st0.ifMeta.get k
  forMeta : ∀ k, underPrefix aScope k = false → FM.get k = st0.forMeta.get k
  endTable : ∀ k, underPrefix aScope k = false → ET.get k = st0.endTable.get k
  c1 : CacheOK FM (aKey 1) 5
  c2 : IfCacheOK IM (aKey 2) 4
  c9 : CacheOK FM (aKey 9) 13
  c10 : CacheOK FM (aKey 10) 12

theorem AInv.frame {st0 : ScriptSt} {IM : KV (Nat × List Nat)} {FM : KV Nat} {ET : KV Str} (h : AInv st0 IM FM ET) :
    FlowFrame aScope st0 IM FM ET :=
  ⟨h.ifMeta, h.forMeta, h.endTable⟩

theorem AInv.afterIf {st0 : ScriptSt} {IM : KV (Nat × List Nat)} {FM : KV Nat} {ET : KV Str}
    (h : AInv st0 IM FM ET) : AInv st0 (ifMetaAfter IM (aKey 2) 4) FM (ET.put (aKey 4) fullNameEndIf) :=
  have f := h.frame.afterIf 2 4
  ⟨f.ifMeta, f.forMeta, f.endTable, h.c1, ifCacheOK_after h.c2 (by omega), h.c9, h.c10⟩

theorem AInv.afterFor {st0 : ScriptSt} {IM : KV (Nat × List Nat)} {FM : KV Nat} {ET : KV Str}
    (h : AInv st0 IM FM ET) (line stop : Nat)
    (hl : line = 1 ∧ stop = 5 ∨ line = 9 ∧ stop = 13 ∨ line = 10 ∧ stop = 12) :
    AInv st0 IM (forMetaAfter FM (aKey line) stop) (ET.put (aKey stop) fullNameEndForIn) :=
  have f := h.frame.afterFor line stop
  ⟨f.ifMeta, f.forMeta, f.endTable, cacheOK_forMetaAfter_lineKey h.c1 (by omega), h.c2,
    cacheOK_forMetaAfter_lineKey h.c9 (by omega), cacheOK_forMetaAfter_lineKey h.c10 (by omega)⟩

/-! ### the validation loop -/

/-- what the validation loop leaves -/
structure AValPost (st0 s s' : ScriptSt) (fs : List ForCall) (vars vars' : Vars) : Prop where
  ctx : s'.ctx = aScope
  inv : AInv st0 s'.ifMeta s'.forMeta s'.endTable
  forStack : s'.forStack = fs
  ifStack : s'.ifStack = s.ifStack
  coll : s'.coll = s.coll
  args : vars'.get aArgs = vars.get aArgs
  clr : clear aScope vars' = clear aScope vars

/-- lines 1-5 over arguments that all name arrays: 3 instructions per argument and one -/
theorem ac_val (d : Nat) (st0 s : ScriptSt) (vars : Vars) (hA : Str) (args : List Str) (fo : Option Str)
    (hctx : s.ctx = aScope) (hstale : NoStaleFor aScope s.forStack) (hinv : AInv st0 s.ifMeta s.forMeta s.endTable)
    (hvA : vars.get aArgs = some hA) (hTA : tget s.coll.tbl hA = some (.list (args.map .str)))
    (hall : ∀ x ∈ args, ArgOK x = true ∧ ∃ l, tget s.coll.tbl x = some (.list l)) :
    ∃ vars' s', (∀ G, Steps (G + 2) (d + 2) acIs (3 * args.length + 1) ⟨1, fo, vars, s⟩ ⟨6, none, vars', s'⟩) ∧
      AValPost st0 s s' s.forStack vars vars' := by
  obtain ⟨vars', s', hrun, _, hfs, hP⟩ := ac_block1.run (d := d + 1) (fo := fo) (vars := vars) (s := s) (X := hA)
    (L := args.map .str) (fun _ vars' s' => AValPost st0 s s' s'.forStack vars vars') 2 (fun _ => 1)
    (fun _ _ _ _ h => ⟨h.ctx, h.inv, h.forStack, h.ifStack, h.coll, by rw [get_set, if_neg (aNe .args .arg)]; exact h.args,
      by rw [clear_set_under _ _ _ _ (acVars.under .arg)]; exact h.clr⟩)
    (fun _ _ _ _ h => ⟨h.ctx, h.inv, rfl, h.ifStack, h.coll, h.args, h.clr⟩)
    (by
      intro i x vars' s' fo' hx hS _ hv hJ
      obtain ⟨X, _, hXm, rfl⟩ := getElem?_map_str hx
      obtain ⟨hX, l, hl⟩ := hall X hXm
      refine ⟨none, vars', ifStP s' 2 4 false, fun G => Steps.if_not_is_array_list (F := G) (d := d) rfl (ac_if_args hv) hX
          ac_findIf hS.ctx hJ.inv.c2 (by rw [hJ.coll]; exact hl),
        ⟨hS.ctx, ?_, hS.handle, hS.cells⟩, rfl, hS.ctx, ?_, rfl, hJ.ifStack, hJ.coll, hJ.args, hJ.clr⟩
      · rw [ifStP_eq hS.ctx]
        exact (get_put_lineKey_ne _ _ (by omega)).trans hS.endT
      · rw [ifStP_eq hS.ctx]; exact hJ.inv.afterIf)
    hctx (popFor_noStale 1 aScope _ hstale) hinv.c1 (by rw [hvA]; rfl) hTA
    ⟨hctx, by rw [forSt_eq hctx]; exact hinv.afterFor 1 5 (.inl ⟨rfl, rfl⟩), rfl, rfl, rfl, rfl, rfl⟩
  exact ⟨vars', s', fun G => (hrun G).of_eq (by rw [loopCost_const, List.length_map]),
    hP.ctx, hP.inv, hfs, hP.ifStack, hP.coll, hP.args, hP.clr⟩

/-! ### the nested loops -/

/-- the table during the loops: the new array holds `acc`, every other lookup as at loop entry -/
structure AInvT (T0 : Table) (hR : Str) (T : Table) (acc : List Item) : Prop where
  arr : tget T hR = some (.list acc)
  other : ∀ k, k ≠ hR → tget T k = tget T0 k

theorem AInvT.push {T0 T : Table} {hR : Str} {acc : List Item} (h : AInvT T0 hR T acc) (x : Str) :
    AInvT T0 hR (tinsert (tremove T hR) hR (.list (acc ++ [.str x]))) (acc ++ [.str x]) :=
  ⟨by rw [tget_tinsert, if_pos rfl], fun k hk => by rw [tget_tinsert, if_neg hk, tget_tremove, if_neg hk, h.other k hk]⟩

/-- the variables of the body during the nested loops: the handles of the argument array and of the new array -/
structure AInvV (vars0 vars : Vars) (hA hR : Str) : Prop where
  args : vars.get aArgs = some hA
  array : vars.get aArray = some hR
  clr : clear aScope vars = clear aScope vars0

theorem AInvV.set_other {vars0 vars : Vars} {hA hR : Str} (h : AInvV vars0 vars hA hR) (k x : Str)
    (hu : underPrefix aScope k = true) (h1 : aArgs ≠ k) (h2 : aArray ≠ k) : AInvV vars0 (vars.set k x) hA hR := by
  refine ⟨?_, ?_, ?_⟩
  · rw [get_set, if_neg h1]; exact h.args
  · rw [get_set, if_neg h2]; exact h.array
  · rw [clear_set_under _ _ _ _ hu]; exact h.clr

/-- instructions of the outer loop over the arrays named by `xs` -/
def acCost (t : Table) : List Str → Nat
  | [] => 0
  | x :: r => 3 * arrLen t x + 3 + acCost t r

/-- the cells the outer loop pushes (as strings) -/
def acCells (t : Table) : List Str → List Str
  | [] => []
  | x :: r => (match tget t x with | some (.list l) => l.map Item.render | _ => []) ++ acCells t r

theorem acCost_congr (t t' : Table) (xs : List Str) (h : ∀ x ∈ xs, tget t x = tget t' x) :
    acCost t xs = acCost t' xs := by
  induction xs with
  | nil => rfl
  | cons x r ih =>
    simp only [acCost, arrLen]
    rw [h x (by simp), ih (fun y hy => h y (List.mem_cons_of_mem _ hy))]

theorem acCells_congr (t t' : Table) (xs : List Str) (h : ∀ x ∈ xs, tget t x = tget t' x) :
    acCells t xs = acCells t' xs := by
  induction xs with
  | nil => rfl
  | cons x r ih =>
    simp only [acCells]
    rw [h x (by simp), ih (fun y hy => h y (List.mem_cons_of_mem _ hy))]

theorem acCost_loop (t : Table) (xs : List Str) :
    loopCost (fun x => 3 * arrLen t x.render + 1) (xs.map .str) = acCost t xs := by
  induction xs with
  | nil => rfl
  | cons x r ih =>
    simp only [List.map_cons, loopCost, acCost, ih]
    show 3 * arrLen t x + 1 + 2 + _ = _
    omega

/-- the cells pushed up to and including the argument `X` at index `i` -/
theorem acCells_take_succ (t : Table) (xs : List Str) (i : Nat) (X : Str) (Lx : List Item) (hX : xs[i]? = some X)
    (hLx : tget t X = some (.list Lx)) :
    (acCells t (xs.take i)).map Item.str ++ Lx.map (fun y => .str y.render) = (acCells t (xs.take (i + 1))).map .str := by
  have happ : ∀ ys zs, acCells t (ys ++ zs) = acCells t ys ++ acCells t zs := by
    intro ys zs
    induction ys with
    | nil => rfl
    | cons y r ih => simp only [List.cons_append, acCells, ih, List.append_assoc]
  rw [List.take_add_one, hX, happ]
  simp [acCells, hLx]

/-- the state of the outer and of the inner loop: caches, stacks, allocator; the new array holds
    `acc'`; the body's variables -/
structure AOutPost (st0 s s' : ScriptSt) (T0 : Table) (hA hR : Str) (fs : List ForCall) (acc' : List Item)
    (vars0 vars' : Vars) : Prop where
  ctx : s'.ctx = aScope
  inv : AInv st0 s'.ifMeta s'.forMeta s'.endTable
  forStack : s'.forStack = fs
  ifStack : s'.ifStack = s.ifStack
  next : s'.coll.next = s.coll.next
  tbl : AInvT T0 hR s'.coll.tbl acc'
  vars : AInvV vars0 vars' hA hR

/-- line 11: `array_push ${array} ${item}` -/
theorem ac_push {F d : Nat} {s : ScriptSt} {vars : Vars} {fo : Option Str} {hR x : Str} {cur : List Item}
    (hvR : vars.get aArray = some hR) (hvI : vars.get aItem = some x) (hcur : tget s.coll.tbl hR = some (.list cur)) :
    Steps F d acIs 1 ⟨11, fo, vars, s⟩
      ⟨12, some sTrue, vars, { s with coll := { s.coll with tbl := (tinsert (tremove s.coll.tbl hR) hR (.list (cur ++ [.str x]))) } }⟩ := by
  refine Steps.step (Steps.native (vals := [hR, x]) rfl rs_array_push (bind_eq ac_args.2.2.1
    (by simp only [List.map, tmplValue_var, hvR, hvI, Option.getD_some])) (run_arrayPush hR x cur vars s hcur)) ?_
  exact Steps.refl _

/-- lines 10-12, one iteration of the outer loop: the inner loop over the cells `Lx` of the array
    `X`, entered below the outer loop's entry: 3 instructions per cell and one -/
theorem ac_inner (d : Nat) (st0 s0 s : ScriptSt) (vars0 vars : Vars) (hA hR X : Str) (Lx acc : List Item) (T0 : Table)
    (fo : Option Str) (i : Nat) (fs : List ForCall) (hfs : s.forStack = ⟨i, 9, 13, aScope⟩ :: fs)
    (hP : AOutPost st0 s0 s T0 hA hR s.forStack acc vars0 vars)
    (he13 : s.endTable.get (lineKey aScope 13) = some fullNameEndForIn)
    (hvX : vars.get aArg = some X) (hLx : tget T0 X = some (.list Lx)) (hXR : X ≠ hR) :
    ∃ vars' s', (∀ G, Steps (G + 2) (d + 2) acIs (3 * Lx.length + 1) ⟨10, fo, vars, s⟩ ⟨13, none, vars', s'⟩) ∧
      AOutPost st0 s0 s' T0 hA hR s.forStack (acc ++ Lx.map fun y => .str y.render) vars0 vars' ∧
      s'.endTable.get (lineKey aScope 13) = some fullNameEndForIn := by
  obtain ⟨vars', s', hrun, _, hfs', hP', he'⟩ := ac_block10.run (d := d + 1) (fo := fo) (vars := vars) (s := s) (X := X)
    (L := Lx)
    (fun j v2 s2 => AOutPost st0 s0 s2 T0 hA hR s2.forStack (acc ++ (Lx.take j).map fun y => .str y.render) vars0 v2 ∧
      s2.endTable.get (lineKey aScope 13) = some fullNameEndForIn) 2 (fun _ => 1)
    (fun _ _ _ _ h => ⟨⟨h.1.ctx, h.1.inv, h.1.forStack, h.1.ifStack, h.1.next, h.1.tbl,
      h.1.vars.set_other aItem _ (acVars.under .item) (aNe .args .item) (aNe .array .item)⟩, h.2⟩)
    (fun _ _ _ _ h => ⟨⟨h.1.ctx, h.1.inv, rfl, h.1.ifStack, h.1.next, h.1.tbl, h.1.vars⟩, h.2⟩)
    (by
      intro j y v2 s2 fo' hy hS _ hv hJ
      refine ⟨some sTrue, v2, _, fun G => ac_push hJ.1.vars.array hv hJ.1.tbl.arr,
        ⟨hS.ctx, hS.endT, hS.handle, ?_⟩, rfl, ⟨hJ.1.ctx, hJ.1.inv, rfl, hJ.1.ifStack, hJ.1.next, ?_, hJ.1.vars⟩, hJ.2⟩
      · show tget (tinsert (tremove s2.coll.tbl hR) hR _) X = _
        rw [tget_tinsert, if_neg hXR, tget_tremove, if_neg hXR]; exact hS.cells
      · have := hJ.1.tbl.push y.render
        rw [List.take_add_one, hy]
        simpa [List.append_assoc] using this)
    hP.ctx (by rw [hfs]; exact popFor_mismatch 10 _ _ fs (by simp) (by simp)) hP.inv.c10 (by rw [hvX]; rfl)
    (by rw [hP.tbl.other X hXR]; exact hLx)
    ⟨⟨hP.ctx, by rw [forSt_eq hP.ctx]; exact hP.inv.afterFor 10 12 (.inr (.inr ⟨rfl, rfl⟩)), rfl, hP.ifStack, hP.next,
        by show AInvT T0 hR s.coll.tbl _; simpa using hP.tbl, hP.vars⟩,
      by rw [forSt_eq hP.ctx]; exact (get_put_lineKey_ne _ _ (by omega)).trans he13⟩
  rw [List.take_length] at hP'
  exact ⟨vars', s', fun G => (hrun G).of_eq (by rw [loopCost_const]), ⟨hP'.ctx, hP'.inv, hfs', hP'.ifStack, hP'.next,
    hP'.tbl, hP'.vars⟩, he'⟩

/-- lines 9-13: the outer loop over arguments that all name arrays -/
theorem ac_outer (d : Nat) (st0 s0 s : ScriptSt) (vars0 vars : Vars) (hA hR : Str) (args : List Str) (T0 : Table)
    (fo : Option Str) (hP : AOutPost st0 s0 s T0 hA hR s.forStack [] vars0 vars) (hstale : NoStaleFor aScope s.forStack)
    (hT0A : tget T0 hA = some (.list (args.map .str))) (hAR : hA ≠ hR)
    (hall : ∀ x ∈ args, x ≠ hR ∧ ∃ l, tget T0 x = some (.list l)) :
    ∃ vars' s', (∀ G, Steps (G + 2) (d + 2) acIs (acCost T0 args + 1) ⟨9, fo, vars, s⟩ ⟨14, none, vars', s'⟩) ∧
      AOutPost st0 s0 s' T0 hA hR s.forStack ((acCells T0 args).map .str) vars0 vars' := by
  obtain ⟨vars', s', hrun, _, hfs', hP'⟩ := ac_block9.run (d := d + 1) (fo := fo) (vars := vars) (s := s) (X := hA)
    (L := args.map .str)
    (fun i v2 s2 => AOutPost st0 s0 s2 T0 hA hR s2.forStack ((acCells T0 (args.take i)).map .str) vars0 v2) 2
    (fun x => 3 * arrLen T0 x.render + 1)
    (fun _ _ _ _ h => ⟨h.ctx, h.inv, h.forStack, h.ifStack, h.next, h.tbl,
      h.vars.set_other aArg _ (acVars.under .arg) (aNe .args .arg) (aNe .array .arg)⟩)
    (fun _ _ _ _ h => ⟨h.ctx, h.inv, rfl, h.ifStack, h.next, h.tbl, h.vars⟩)
    (by
      intro i x v2 s2 fo' hx hS hfs hv hJ
      obtain ⟨X, hXi, hXm, rfl⟩ := getElem?_map_str hx
      obtain ⟨hXR, Lx, hLx⟩ := hall X hXm
      obtain ⟨v3, s3, hrun, hP3, he13⟩ := ac_inner d st0 s0 s2 vars0 v2 hA hR X Lx _ T0 fo' (i + 1) s.forStack hfs hJ
        hS.endT hv hLx hXR
      rw [acCells_take_succ T0 args i X Lx hXi hLx] at hP3
      exact ⟨none, v3, s3, fun G => (hrun G).of_eq (by simp [arrLen, hLx, Item.render]),
        ⟨hP3.ctx, he13, by rw [hP3.vars.args]; rfl, by rw [hP3.tbl.other hA hAR]; exact hT0A⟩, hP3.forStack,
        hP3.ctx, hP3.inv, rfl, hP3.ifStack, hP3.next, hP3.tbl, hP3.vars⟩)
    hP.ctx (popFor_noStale 9 aScope _ hstale) hP.inv.c9 (by rw [hP.vars.args]; rfl) (by rw [hP.tbl.other hA hAR]; exact hT0A)
    ⟨hP.ctx, by rw [forSt_eq hP.ctx]; exact hP.inv.afterFor 9 13 (.inr (.inl ⟨rfl, rfl⟩)), rfl, hP.ifStack, hP.next,
      hP.tbl, hP.vars⟩
  rw [List.length_map, List.take_length] at hP'
  exact ⟨vars', s', fun G => (hrun G).of_eq (by rw [acCost_loop]), hP'.ctx, hP'.inv, hfs', hP'.ifStack, hP'.next, hP'.tbl,
    hP'.vars⟩

/-! ### the body -/

/-- the state after `array = array` -/
def acS3 (s : ScriptSt) : ScriptSt :=
  { s with coll := { tbl := tinsert s.coll.tbl (Coll.handleName s.coll.next) (.list []), next := s.coll.next + 1 } }

/-- lines 6-8: `array = array` -/
theorem ac_array {F d : Nat} (s : ScriptSt) (vars : Vars) (fo : Option Str) :
    Steps F d acIs 3 ⟨6, fo, vars, s⟩
      ⟨9, some (Coll.handleName s.coll.next), vars.set aArray (Coll.handleName s.coll.next), acS3 s⟩ := by
  refine Steps.step (Steps.skip rfl) ?_
  refine Steps.step (Steps.native (vals := []) rfl rs_array rfl (run_array_nil vars s)) ?_
  refine Steps.step (Steps.skip rfl) ?_
  exact Steps.refl _

/-- lines 14-16: the result is the handle of the new array -/
theorem ac_tail {F d : Nat} {s : ScriptSt} {vars : Vars} {fo : Option Str} {hR : Str} (h : vars.get aArray = some hR) :
    Ends F d acIs 3 ⟨14, fo, vars, s⟩ (.finished (some hR), vars, s) := by
  refine Ends.step (Steps.skip rfl) ?_
  refine Ends.step (Steps.native (vals := [hR]) rfl rs_set (bind_eq ac_args.2.2.2
    (by simp only [List.map, tmplValue_var, h, Option.getD_some])) rfl) ?_
  exact Ends.last rfl

/-- what a successful body leaves -/
structure ABodyPost (s s' : ScriptSt) (vars vars' : Vars) (hR : Str) (cells : List Str) : Prop where
  inv : AInv s s'.ifMeta s'.forMeta s'.endTable
  forStack : s'.forStack = s.forStack
  ifStack : s'.ifStack = s.ifStack
  next : s'.coll.next = s.coll.next + 1
  arr : tget s'.coll.tbl hR = some (.list (cells.map .str))
  other : ∀ k, k ≠ hR → tget s'.coll.tbl k = tget s.coll.tbl k
  clr : clear aScope vars' = clear aScope vars

/-- every argument names an array: `3·n + acCost + 9` instructions (`acCost` = 3 per cell + 3
    per argument); the new array (the next allocator name) holds all cells as strings -/
theorem ac_body_ok (d : Nat) (s : ScriptSt) (vars : Vars) (args : List Str) (hA : Str)
    (hctx : s.ctx = aScope) (hvA : vars.get aArgs = some hA)
    (hTA : tget s.coll.tbl hA = some (.list (args.map .str)))
    (hall : ∀ x ∈ args, ArgOK x = true ∧ ∃ l, tget s.coll.tbl x = some (.list l))
    (hfree : tget s.coll.tbl (Coll.handleName s.coll.next) = none)
    (hstale : NoStaleFor aScope s.forStack) (hinv : AInv s s.ifMeta s.forMeta s.endTable) :
    ∃ vars' s',
      (∀ G, Ends (G + 2) (d + 2) acIs (3 * args.length + acCost s.coll.tbl args + 9) ⟨0, none, vars, s⟩
        (.finished (some (Coll.handleName s.coll.next)), vars', s')) ∧
      ABodyPost s s' vars vars' (Coll.handleName s.coll.next) (acCells s.coll.tbl args) := by
  have hne : ∀ x, (∃ v, tget s.coll.tbl x = some v) → x ≠ Coll.handleName s.coll.next := by
    rintro x ⟨v, hv⟩ e; rw [e, hfree] at hv; cases hv
  have hcong : ∀ x ∈ args, tget (tinsert s.coll.tbl (Coll.handleName s.coll.next) (.list [])) x = tget s.coll.tbl x := by
    intro x hx
    obtain ⟨_, l, hl⟩ := hall x hx
    rw [tget_tinsert, if_neg (hne x ⟨_, hl⟩)]
  obtain ⟨vars2, s2, hrun2, hP2⟩ := ac_val d s s vars hA args none hctx hstale hinv hvA hTA hall
  have hcoll : s2.coll = s.coll := hP2.coll
  obtain ⟨vars5, s5, hrun5, hP5⟩ := ac_outer d s (acS3 s2) (acS3 s2) vars (vars2.set aArray (Coll.handleName s.coll.next)) hA
    (Coll.handleName s.coll.next) args (tinsert s.coll.tbl (Coll.handleName s.coll.next) (.list []))
    (some (Coll.handleName s.coll.next))
    ⟨hP2.ctx, hP2.inv, rfl, rfl, rfl,
      by show AInvT _ _ (tinsert s2.coll.tbl (Coll.handleName s2.coll.next) (.list [])) []
         rw [hcoll]; exact ⟨by rw [tget_tinsert, if_pos rfl], fun _ _ => rfl⟩,
      by rw [get_set, if_neg (aNe .args .array), hP2.args]; exact hvA, by rw [get_set, if_pos rfl],
      by rw [clear_set_under _ _ _ _ (acVars.under .array)]; exact hP2.clr⟩
    (by rw [show (acS3 s2).forStack = s2.forStack from rfl, hP2.forStack]; exact hstale)
    (by rw [tget_tinsert, if_neg (hne hA ⟨_, hTA⟩)]; exact hTA) (hne hA ⟨_, hTA⟩)
    (fun x hx => by obtain ⟨_, l, hl⟩ := hall x hx; exact ⟨hne x ⟨_, hl⟩, l, (hcong x hx).trans hl⟩)
  refine ⟨vars5, s5, fun G => ?_, hP5.inv, hP5.forStack.trans hP2.forStack, hP5.ifStack.trans hP2.ifStack,
    by rw [hP5.next]; show s2.coll.next + 1 = _; rw [hcoll], ?_, ?_, hP5.vars.clr⟩
  · have h3 := ac_array (F := G + 2) (d := d + 2) s2 vars2 none
    rw [hcoll] at h3
    refine (((Steps.skip (ln := 1) rfl).trans ((hrun2 G).trans (h3.trans (hrun5 G)))).ends (ac_tail hP5.vars.array)).mono ?_
    rw [acCost_congr _ _ _ hcong]; omega
  · rw [hP5.tbl.arr, acCells_congr _ _ _ hcong]
  · intro k hk
    rw [hP5.tbl.other k hk, tget_tinsert, if_neg hk]

/-! ### the call -/

theorem acCost_eq (t : Table) (xs : List Str) : acCost t xs = 3 * (acCells t xs).length + 3 * xs.length := by
  induction xs with
  | nil => rfl
  | cons x r ih =>
    simp only [acCost, acCells, arrLen, List.length_append, List.length_cons, ih]
    cases hv : tget t x with
    | none => simp; omega
    | some w => cases w <;> simp <;> omega

/-- the cells the script pushes are the cells the specified function collects -/
theorem acCells_lists (t : Table) : ∀ (xs : List Str) (ls : List (List Item)), lists? t xs = some ls →
    (acCells t xs).map Item.str = ls.flatten.map fun i => Item.str i.render
  | [], ls, h => by
    simp only [lists?] at h
    cases h; rfl
  | x :: r, ls, h => by
    simp only [lists?] at h
    cases hv : tget t x with
    | none => rw [hv] at h; cases h
    | some w =>
      rw [hv] at h
      cases w with
      | list l =>
        simp only [] at h
        cases hr : lists? t r with
        | none => rw [hr] at h; cases h
        | some ls' =>
          rw [hr] at h
          simp only [Option.map_some, Option.some.injEq] at h
          subst h
          have ih := acCells_lists t r ls' hr
          simp only [acCells, hv, List.map_append, List.flatten_cons, ih, List.map_map]
          rfl
      | _ => cases h

theorem lists?_of_live (t : Table) : ∀ (xs : List Str), (∀ x ∈ xs, ∃ l, tget t x = some (.list l)) →
    ∃ ls, lists? t xs = some ls
  | [], _ => ⟨[], rfl⟩
  | x :: r, h => by
    obtain ⟨l, hl⟩ := h x (by simp)
    obtain ⟨ls, hls⟩ := lists?_of_live t r (fun y hy => h y (List.mem_cons_of_mem _ hy))
    exact ⟨l :: ls, by simp [lists?, hl, hls]⟩

/-- what one successful call leaves -/
structure ACallPost (st : ScriptSt) (vars : Vars) (args : List Str) (r : CmdResult × Vars × ScriptSt) : Prop where
  res : r.1 = .continue (some (Coll.handleName (st.coll.next + 1)))
  arr : tget r.2.2.coll.tbl (Coll.handleName (st.coll.next + 1)) = some (.list ((acCells st.coll.tbl args).map .str))
  other : ∀ k, k ≠ Coll.handleName (st.coll.next + 1) → tget r.2.2.coll.tbl k = tget st.coll.tbl k
  frame : LoopFrame aScope 2 (clear aScope vars) [] st r
  c1 : CacheOK r.2.2.forMeta (aKey 1) 5
  c2 : IfCacheOK r.2.2.ifMeta (aKey 2) 4
  c9 : CacheOK r.2.2.forMeta (aKey 9) 13
  c10 : CacheOK r.2.2.forMeta (aKey 10) 12

/-- one call whose arguments all name live arrays, uniformly in the instruction budget -/
theorem ac_call (depth : Nat) (a : Str) (rest : List Str) (vars : Vars) (st : ScriptSt)
    (hfree : tget st.coll.tbl (Coll.handleName st.coll.next) = none)
    (hfree1 : tget st.coll.tbl (Coll.handleName (st.coll.next + 1)) = none)
    (hall : ∀ x ∈ a :: rest, ArgOK x = true ∧ ∃ l, tget st.coll.tbl x = some (.list l))
    (hstale : NoStaleFor aScope st.forStack)
    (hc1 : CacheOK st.forMeta (aKey 1) 5) (hc2 : IfCacheOK st.ifMeta (aKey 2) 4)
    (hc9 : CacheOK st.forMeta (aKey 9) 13) (hc10 : CacheOK st.forMeta (aKey 10) 12) :
    ∃ r, (∀ k, runScriptCmdF (depth + 2) (k + 3 * (a :: rest).length + acCost st.coll.tbl (a :: rest) + 9)
            "array_concat".toList (a :: rest) vars st = r) ∧
      ACallPost st vars (a :: rest) r := by
  have hS : Coll.handleName (st.coll.next + 1) ≠ Coll.handleName st.coll.next := handleName_ne (Nat.succ_ne_self _)
  have hTA : tget (pubSt aScope (a :: rest) st).coll.tbl (Coll.handleName st.coll.next) =
      some (.list ((a :: rest).map .str)) := by
    simp only [pubSt, tget_tinsert, if_true]
  have hcong : ∀ x ∈ a :: rest, tget (pubSt aScope (a :: rest) st).coll.tbl x = tget st.coll.tbl x := by
    intro x hx
    obtain ⟨_, l, hl⟩ := hall x hx
    exact tget_pubSt_ne aScope st _ (by intro e; rw [e, hfree] at hl; cases hl)
  obtain ⟨vars', s', hrun, hpost⟩ := ac_body_ok depth (pubSt aScope (a :: rest) st) (pubVars aScope (a :: rest) vars st)
    (a :: rest) (Coll.handleName st.coll.next) rfl (ac_pubVars_args _ vars st) hTA
    (by intro x hx
        obtain ⟨h1, l, hl⟩ := hall x hx
        exact ⟨h1, l, by rw [hcong x hx, hl]⟩)
    (tget_pubSt_next aScope st _ hfree1) hstale ⟨fun _ _ => rfl, fun _ _ => rfl, fun _ _ => rfl, hc1, hc2, hc9, hc10⟩
  rw [acCost_congr _ _ _ hcong] at hrun
  rw [acCells_congr _ _ _ hcong] at hpost
  have hcall := runScriptCmdF_of_ends_clr ac_findScript ac_parses (F0 := 2) (vars := vars)
    (Nat.not_lt_zero _) (List.cons_ne_nil a rest) (by omega) (Nat.le_refl _) hrun hpost.clr
  refine ⟨_, fun k => by rw [Nat.add_assoc, Nat.add_assoc]; exact hcall k, rfl, ?_, ?_,
    ⟨rfl, ?_, rfl, hpost.ifStack, hpost.forStack, hpost.inv.ifMeta, hpost.inv.forMeta, hpost.inv.endTable⟩,
    hpost.inv.c1, hpost.inv.c2, hpost.inv.c9, hpost.inv.c10⟩
  · show tget (tremove s'.coll.tbl _) _ = _
    rw [tget_tremove, if_neg hS]
    exact hpost.arr
  · intro k hk
    show tget (tremove s'.coll.tbl _) k = _
    rw [tget_tremove]
    by_cases e : k = Coll.handleName st.coll.next
    · rw [if_pos e, e, hfree]
    · rw [if_neg e, hpost.other k hk, tget_pubSt_ne aScope st _ e]
  · show s'.coll.next = _
    rw [hpost.next]; rfl

/-- the state a call without arguments ends in -/
def acNilFinal (st : ScriptSt) : ScriptSt :=
  { forSt (acS3 (forSt { st with ctx := aScope } 1 5)) 9 13 with ctx := st.ctx }

/-- `array_concat` without arguments: both loops read the caller's `scope::array_concat::arguments`
    (the wrapper sets it only for a non-empty argument list); when that names no array both loops
    are skipped and the answer is a new empty array: 9 instructions -/
theorem ac_runF_nil (depth fuel : Nat) (vars : Vars) (st : ScriptSt)
    (hstale : NoStaleFor aScope st.forStack)
    (hc1 : CacheOK st.forMeta (aKey 1) 5) (hc9 : CacheOK st.forMeta (aKey 9) 13)
    (hempty : ∀ l, tget st.coll.tbl ((vars.get aArgs).getD []) ≠ some (.list l)) :
    runScriptCmdF (depth + 1) (fuel + 9) "array_concat".toList [] vars st =
      (.continue (some (Coll.handleName st.coll.next)), clear aScope vars, acNilFinal st) := by
  -- the name the two `for` lines read names no array, or (the second time) the new, empty one
  have hn9 : nextIteration (forSt (acS3 (forSt { st with ctx := aScope } 1 5)) 9 13) ((vars.get aArgs).getD []) 0 = none := by
    by_cases e : (vars.get aArgs).getD [] = Coll.handleName st.coll.next
    · unfold nextIteration
      show (match tget (tinsert st.coll.tbl (Coll.handleName st.coll.next) (.list [])) _ with
        | some (.list l) => (l[0]?).map Item.render | _ => none) = none
      rw [tget_tinsert, if_pos e]
      rfl
    · exact nextIteration_of_not_list (t := tinsert st.coll.tbl (Coll.handleName st.coll.next) (.list []))
        (fun l => by rw [tget_tinsert, if_neg e]; exact hempty l) rfl 0
  have h1 := ac_block1.enter (F := fuel + 9) (d := depth) (fo := none) (vars := vars) (s := { st with ctx := aScope }) rfl
    hstale hc1
  simp only [forNext, nextIteration_of_not_list hempty (s := forSt { st with ctx := aScope } 1 5) rfl] at h1
  have h9 := ac_block9.enter (F := fuel + 9) (d := depth) (fo := some (Coll.handleName st.coll.next))
    (vars := vars.set aArray (Coll.handleName st.coll.next)) (s := acS3 (forSt { st with ctx := aScope } 1 5)) rfl hstale
    (by show CacheOK (forMetaAfter st.forMeta (flowKey { st with ctx := aScope } 1) 5) (lineKey aScope 9) 13
        rw [flowKey_lineKey rfl]; exact cacheOK_forMetaAfter_lineKey hc9 (by omega))
  rw [get_set, if_neg (aNe .args .array)] at h9
  simp only [forNext, hn9] at h9
  have hbody := ((Steps.skip (ln := 1) rfl).trans (h1.trans ((ac_array _ vars none).trans h9))).ends
    (ac_tail (by rw [get_set, if_pos rfl]))
  rw [ac_entry, aliasRun_handleOps_nil _ aScope vars st _ _ _ (hbody.body fuel)
    (clear_set_under _ _ _ _ (acVars.under .array))]
  rfl

end Duck.ScriptRun
