/-
  Helper lemmas for Props/C13Flow.lean: the halt flag raised from inside a script
  (Sdk/FlowHalt.lean).

  The idea: `CmdUses` is ONE case analysis of `runCmd` saying how an invocation uses the nested
  evaluator and the dispatcher one level down (not at all / exactly one nested evaluation started
  on the trace as it was / it IS one invocation one level down).  Three properties of the emit
  trace are then carried along it level by level, from the dispatcher to the whole run: the trace
  only grows (`…_mono`), `__halt__` stays its last entry (`…_haltLast`), and with the flag still
  down at the end the poll-free evaluator did the same (`…_agree`).
-/
import DuckModel.Sdk.FlowHalt
import DuckModel.Lemmas.RunnerLemmas
import DuckModel.Lemmas.SimStep

namespace Duck

/-! ### the trace -/

/-- the flag, on a bare trace -/
def seenL (l : List (List Str)) : Bool := l.any (fun x => x == haltWord)

/-- `__halt__` is followed by nothing, on a bare trace -/
def HaltLastL (l : List (List Str)) : Prop :=
  ∀ (pre post : List (List Str)), l = pre ++ haltWord :: post → post = []

theorem haltSeen_eq (s : Sdk) : haltSeen s = seenL s.emitted := rfl

theorem seenL_append (a b : List (List Str)) : seenL (a ++ b) = (seenL a || seenL b) := by
  simp [seenL, List.any_append]

theorem seenL_mid (pre post : List (List Str)) : seenL (pre ++ haltWord :: post) = true := by
  simp [seenL]

theorem haltLastL_of_not_seen (l : List (List Str)) (h : seenL l = false) : HaltLastL l := by
  intro pre post hl
  rw [hl, seenL_mid] at h
  cases h

theorem haltLastL_snoc (l : List (List Str)) (a : List Str) (h : seenL l = false) :
    HaltLastL (l ++ [a]) := by
  intro pre post hl
  rcases List.eq_nil_or_concat post with hp | ⟨post', b, hp⟩
  · exact hp
  · exfalso
    subst hp
    have h2 : l ++ [a] = (pre ++ haltWord :: post') ++ [b] := by
      rw [hl]; simp
    have h3 := (List.append_inj' h2 rfl).1
    rw [h3, seenL_mid] at h
    cases h

/-! ### how `evalCondition` uses the nested evaluator: at most one call, on the state it got -/

theorem evalCondition_uses (nested : EvalFn) (is : List Instruction) (args : List Str) (vars : Vars)
    (s : Sdk) :
    ((evalCondition nested is args vars s).2.2 = s ∧
      ∀ nested' : EvalFn, evalCondition nested' is args vars s = evalCondition nested is args vars s) ∨
    (∃ (is' : List Instruction) (line' : Nat),
      (evalCondition nested is args vars s).2.2 = (nested is' line' vars s).2.2.2 ∧
      ∀ nested' : EvalFn, nested' is' line' vars s = nested is' line' vars s →
        evalCondition nested' is args vars s = evalCondition nested is args vars s) := by
  cases args with
  | nil => left; exact ⟨rfl, fun _ => rfl⟩
  | cons first rest =>
    by_cases hr : (resolveCmd s first).isSome = true
    · cases hp : evalParse (first :: rest) with
      | none =>
        left
        refine ⟨?_, fun _ => ?_⟩ <;> simp only [evalCondition, hr, if_true, hp]
      | some instr =>
        right
        refine ⟨is ++ [instr], (is ++ [instr]).length - 1, ?_, ?_⟩
        · simp only [evalCondition, hr, if_true, hp]
          rcases hn : nested (is ++ [instr]) ((is ++ [instr]).length - 1) vars s with ⟨r, o, v', s'⟩
          cases r with
          | none => rfl
          | some r => cases r <;> rfl
        · intro nested' h'
          simp only [evalCondition, hr, if_true, hp, h']
    · left
      refine ⟨?_, fun _ => ?_⟩
      · simp only [evalCondition, hr, Bool.false_eq_true, if_false]
        split <;> rfl
      · simp only [evalCondition, hr, Bool.false_eq_true, if_false]

/-- the type of the `endRec` parameter of `runCmd`: the dispatcher one level down, which the
    generic `end` calls -/
abbrev EndRec := Cmd → List Str → Option Str → Nat → Vars → Sdk → CmdResult × Vars × Sdk

/-- how one command invocation `f nested endRec` uses its two parameters -/
def CmdUses (nested : EvalFn) (endRec : EndRec) (s : Sdk) (args : List Str) (line : Nat) (vars : Vars)
    (f : EvalFn → EndRec → CmdResult × Vars × Sdk) : Prop :=
  -- (A) not at all; the trace is untouched or (`emit`) gets the arguments appended
  ((((f nested endRec).2.2.emitted = s.emitted ∨ (f nested endRec).2.2.emitted = s.emitted ++ [args]) ∧
      ∀ n' e', f n' e' = f nested endRec)) ∨
  -- (B) exactly one nested evaluation, started on the trace as it was, whose trace is the result's
  (∃ (is' : List Instruction) (line' : Nat) (vars' : Vars) (s1 : Sdk), s1.emitted = s.emitted ∧
      (f nested endRec).2.2.emitted = (nested is' line' vars' s1).2.2.2.emitted ∧
      ∀ n' e', n' is' line' vars' s1 = nested is' line' vars' s1 → f n' e' = f nested endRec) ∨
  -- (C) the generic `end`: the invocation IS one invocation one level down, on the same state
  (∃ c' : Cmd, ∀ n' e', f n' e' = e' c' [] none line vars s)

theorem cmdUses_of_cond (nested : EvalFn) (endRec : EndRec) (s : Sdk) (args : List Str) (line : Nat)
    (vars : Vars) (f : EvalFn → EndRec → CmdResult × Vars × Sdk)
    (is : List Instruction) (cargs : List Str) (cvars : Vars) (s1 : Sdk)
    (hs1 : s1.emitted = s.emitted)
    (hem : (f nested endRec).2.2.emitted = (evalCondition nested is cargs cvars s1).2.2.emitted)
    (hind : ∀ n' e', evalCondition n' is cargs cvars s1 = evalCondition nested is cargs cvars s1 →
      f n' e' = f nested endRec) :
    CmdUses nested endRec s args line vars f := by
  rcases evalCondition_uses nested is cargs cvars s1 with ⟨hs, hi⟩ | ⟨is', line', hs, hi⟩
  · left
    exact ⟨Or.inl (by rw [hem, hs, hs1]), fun n' e' => hind n' e' (hi n')⟩
  · right; left
    exact ⟨is', line', cvars, s1, hs1, by rw [hem, hs], fun n' e' h' => hind n' e' (hi n' h')⟩

/-- the three block look-ups only fill a cache field of the state: the trace is as it was -/
theorem ifMetaFor_emitted (is : List Instruction) (s : Sdk) (line : Nat) (m : Nat × List Nat) (s1 : Sdk)
    (h : ifMetaFor is s line = .ok (m, s1)) : s1.emitted = s.emitted := by
  unfold ifMetaFor at h
  dsimp only at h
  repeat' split at h
  all_goals (cases h <;> rfl)

theorem whileMetaFor_emitted (is : List Instruction) (s : Sdk) (line : Nat) (m : Nat) (s1 : Sdk)
    (h : whileMetaFor is s line = .ok (m, s1)) : s1.emitted = s.emitted := by
  unfold whileMetaFor at h
  dsimp only at h
  repeat' split at h
  all_goals (cases h <;> rfl)

theorem forMetaFor_emitted (is : List Instruction) (s : Sdk) (line : Nat) (m : Nat) (s1 : Sdk)
    (h : forMetaFor is s line = .ok (m, s1)) : s1.emitted = s.emitted := by
  unfold forMetaFor at h
  dsimp only at h
  repeat' split at h
  all_goals (cases h <;> rfl)

theorem scopePop_emitted (vars : Vars) (s : Sdk) (copy : List Str) (v' : Vars) (s' : Sdk)
    (h : scopePop vars s copy = some (v', s')) : s'.emitted = s.emitted := by
  unfold scopePop at h
  split at h
  · cases h
  · injection h with h; injection h with _ h; subst h; rfl

section
variable (nested : EvalFn) (endRec : EndRec) (is : List Instruction) (args : List Str)
  (out : Option Str) (line : Nat) (vars : Vars) (s : Sdk)

theorem runCmd_uses_ifC :
    CmdUses nested endRec s args line vars (fun n e => runCmd n e is .ifC args out line vars s) := by
  by_cases ha : args.isEmpty = true
  · left; refine ⟨Or.inl ?_, fun _ _ => ?_⟩ <;> simp [runCmd, ha]
  · cases hm : ifMetaFor is s line with
    | error r => left; refine ⟨Or.inl ?_, fun _ _ => ?_⟩ <;> simp [runCmd, ha, hm]
    | ok ms =>
      obtain ⟨⟨stop, elses⟩, s1⟩ := ms
      refine cmdUses_of_cond nested endRec s args line vars _ is args vars s1
        (ifMetaFor_emitted is s line _ s1 hm) ?_ ?_
      · simp only [runCmd, ha, hm]
        rcases evalCondition nested is args vars s1 with ⟨r, v', s'⟩
        cases r with
        | error _ => rfl
        | ok p => cases p <;> cases elses <;> rfl
      · intro n' e' h'
        simp only [runCmd, ha, hm, h']

theorem runCmd_uses_whileC :
    CmdUses nested endRec s args line vars (fun n e => runCmd n e is .whileC args out line vars s) := by
  by_cases ha : args.isEmpty = true
  · left; refine ⟨Or.inl ?_, fun _ _ => ?_⟩ <;> simp [runCmd, ha]
  · cases hm : whileMetaFor is s line with
    | error r => left; refine ⟨Or.inl ?_, fun _ _ => ?_⟩ <;> simp [runCmd, ha, hm]
    | ok ms =>
      obtain ⟨stop, s1⟩ := ms
      refine cmdUses_of_cond nested endRec s args line vars _ is args vars s1
        (whileMetaFor_emitted is s line _ s1 hm) ?_ ?_
      · simp only [runCmd, ha, hm]
        rcases evalCondition nested is args vars s1 with ⟨r, v', s'⟩
        cases r with
        | error _ => rfl
        | ok p => cases p <;> rfl
      · intro n' e' h'
        simp only [runCmd, ha, hm, h']

theorem runCmd_uses_notC :
    CmdUses nested endRec s args line vars (fun n e => runCmd n e is .notC args out line vars s) := by
  by_cases ha : args.isEmpty = true
  · left; refine ⟨Or.inl ?_, fun _ _ => ?_⟩ <;> simp [runCmd, ha]
  · refine cmdUses_of_cond nested endRec s args line vars _ is args vars s rfl ?_ ?_
    · simp only [runCmd, ha]
      rcases evalCondition nested is args vars s with ⟨r, v', s'⟩
      cases r with
      | error _ => rfl
      | ok p => rfl
    · intro n' e' h'
      simp only [runCmd, ha, h']

theorem runCmd_uses_elseIf :
    CmdUses nested endRec s args line vars (fun n e => runCmd n e is .elseIf args out line vars s) := by
  by_cases ha : args.isEmpty = true
  · left; refine ⟨Or.inl ?_, fun _ _ => ?_⟩ <;> simp [runCmd, ha]
  · cases hp : popIf line s.lineCtx s.ifStack with
    | none => left; refine ⟨Or.inl ?_, fun _ _ => ?_⟩ <;> simp [runCmd, ha, hp]
    | some cr =>
      obtain ⟨ci, rest⟩ := cr
      by_cases hpass : ci.passed = true
      · left; refine ⟨Or.inl ?_, fun _ _ => ?_⟩ <;> simp [runCmd, ha, hp, hpass]
      · refine cmdUses_of_cond nested endRec s args line vars _ is args vars { s with ifStack := rest }
          rfl ?_ ?_
        · simp only [runCmd, ha, hp, hpass]
          rcases evalCondition nested is args vars { s with ifStack := rest } with ⟨r, v', s'⟩
          cases r with
          | error _ => rfl
          | ok p =>
            cases p
            · by_cases hlt : ci.elseIdx + 1 < ci.elses.length <;> simp [hlt]
            · rfl
        · intro n' e' h'
          simp only [runCmd, ha, hp, hpass, h']

end

/-- `runCmd` branches that never look at `nested` / `endRec` and leave the trace alone -/
theorem cmdUses_plain (nested : EvalFn) (endRec : EndRec) (s : Sdk) (args : List Str) (line : Nat)
    (vars : Vars) (r : CmdResult × Vars × Sdk) (h : r.2.2.emitted = s.emitted) :
    CmdUses nested endRec s args line vars (fun _ _ => r) :=
  Or.inl ⟨Or.inl h, fun _ _ => rfl⟩

theorem runCmd_uses (nested : EvalFn) (endRec : EndRec) (is : List Instruction) (c : Cmd)
    (args : List Str) (out : Option Str) (line : Nat) (vars : Vars) (s : Sdk) :
    CmdUses nested endRec s args line vars (fun n e => runCmd n e is c args out line vars s) := by
  cases c with
  | ifC => exact runCmd_uses_ifC nested endRec is args out line vars s
  | elseIf => exact runCmd_uses_elseIf nested endRec is args out line vars s
  | whileC => exact runCmd_uses_whileC nested endRec is args out line vars s
  | notC => exact runCmd_uses_notC nested endRec is args out line vars s
  | emit => exact Or.inl ⟨Or.inr rfl, fun _ _ => rfl⟩
  | endC =>
    cases hg : s.endTable.get (lineKey s line) with
    | none => left; refine ⟨Or.inl ?_, fun _ _ => ?_⟩ <;> simp [runCmd, hg]
    | some name =>
      cases hr : resolveCmd s name with
      | none => left; refine ⟨Or.inl ?_, fun _ _ => ?_⟩ <;> simp [runCmd, hg, hr]
      | some c' => right; right; exact ⟨c', fun n' e' => by simp [runCmd, hg, hr]⟩
  | endIf | array => exact cmdUses_plain nested endRec s args line vars _ rfl
  | elseC | endWhile | endFor | function | set | equals | range | inc | lt =>
    refine cmdUses_plain nested endRec s args line vars _ ?_
    repeat' split
    all_goals rfl
  | forIn =>
    refine cmdUses_plain nested endRec s args line vars _ ?_
    split
    · split
      · rfl
      · rcases hpf : popFor line s.lineCtx false s.forStack with ⟨found, stack'⟩
        cases found with
        | some ci => dsimp only; split <;> rfl
        | none =>
          dsimp only
          cases hm : forMetaFor is { s with forStack := stack' } line with
          | error r => rfl
          | ok ms =>
            obtain ⟨stop, s1⟩ := ms
            have := forMetaFor_emitted is _ line stop s1 hm
            dsimp only
            split <;> exact this
    · rfl
  | endFunction | returnC =>
    refine cmdUses_plain nested endRec s args line vars _ ?_
    split
    · rfl
    · split
      · dsimp only
        split
        · split
          · rfl
          · rename_i h; exact (scopePop_emitted _ _ _ _ _ h).trans rfl
        · rfl
      · rfl
  | call name =>
    refine cmdUses_plain nested endRec s args line vars _ ?_
    split
    · rfl
    · rename_i fi _
      cases fi.isScoped <;> rfl

/-! ### three properties of evaluators and dispatchers, and how `CmdUses` transports them -/

theorem seenL_of_prefix {a b : List (List Str)} (h : a <+: b) (ha : seenL a = true) : seenL b = true := by
  obtain ⟨t, rfl⟩ := h
  rw [seenL_append, ha]; rfl

theorem not_seenL_of_prefix {a b : List (List Str)} (h : a <+: b) (hb : seenL b = false) :
    seenL a = false := by
  cases ha : seenL a with
  | false => rfl
  | true => rw [seenL_of_prefix h ha] at hb; cases hb

/-- the trace only grows -/
def EvalMono (nested : EvalFn) : Prop :=
  ∀ is line vars s, s.emitted <+: (nested is line vars s).2.2.2.emitted
def EndMono (e : EndRec) : Prop :=
  ∀ c args out line vars s, s.emitted <+: (e c args out line vars s).2.2.emitted

/-- `__halt__` stays last.  The two levels need different hypotheses: the nested evaluator polls
    before it starts anything, so it keeps `__halt__` last on ANY trace that has it last; a
    dispatcher does not poll and may well emit after a `__halt__` that is already there, so it is
    only asked about traces on which the flag is still down. -/
def EvalHL (nested : EvalFn) : Prop :=
  ∀ is line vars s, HaltLastL s.emitted → HaltLastL (nested is line vars s).2.2.2.emitted
def EndHL (e : EndRec) : Prop :=
  ∀ c args out line vars s, seenL s.emitted = false → HaltLastL (e c args out line vars s).2.2.emitted

/-- `nF` does what `nH` does whenever `nH` ends with the flag still down -/
def EvalAgree (nH nF : EvalFn) : Prop :=
  ∀ is line vars s, seenL (nH is line vars s).2.2.2.emitted = false → nF is line vars s = nH is line vars s
def EndAgree (eH eF : EndRec) : Prop :=
  ∀ c args out line vars s, seenL (eH c args out line vars s).2.2.emitted = false →
    eF c args out line vars s = eH c args out line vars s

theorem cmdUses_mono {nested : EvalFn} {endRec : EndRec} {s : Sdk} {args : List Str} {line : Nat}
    {vars : Vars} {f : EvalFn → EndRec → CmdResult × Vars × Sdk}
    (hu : CmdUses nested endRec s args line vars f) (hn : EvalMono nested) (he : EndMono endRec) :
    s.emitted <+: (f nested endRec).2.2.emitted := by
  rcases hu with ⟨h | h, _⟩ | ⟨is', line', vars', s1, hs1, hem, _⟩ | ⟨c', hc⟩
  · rw [h]; exact List.prefix_refl _
  · rw [h]; exact List.prefix_append _ _
  · rw [hem, ← hs1]; exact hn is' line' vars' s1
  · rw [hc]; exact he c' [] none line vars s

theorem cmdUses_haltLast {nested : EvalFn} {endRec : EndRec} {s : Sdk} {args : List Str} {line : Nat}
    {vars : Vars} {f : EvalFn → EndRec → CmdResult × Vars × Sdk}
    (hu : CmdUses nested endRec s args line vars f) (hn : EvalHL nested) (he : EndHL endRec)
    (hs : seenL s.emitted = false) :
    HaltLastL (f nested endRec).2.2.emitted := by
  rcases hu with ⟨h | h, _⟩ | ⟨is', line', vars', s1, hs1, hem, _⟩ | ⟨c', hc⟩
  · rw [h]; exact haltLastL_of_not_seen _ hs
  · rw [h]; exact haltLastL_snoc _ _ hs
  · rw [hem]
    exact hn is' line' vars' s1 (haltLastL_of_not_seen _ (by rw [hs1]; exact hs))
  · rw [hc]; exact he c' [] none line vars s hs

theorem cmdUses_agree {nH nF : EvalFn} {eH eF : EndRec} {s : Sdk} {args : List Str} {line : Nat}
    {vars : Vars} {f : EvalFn → EndRec → CmdResult × Vars × Sdk}
    (hu : CmdUses nH eH s args line vars f) (hn : EvalAgree nH nF) (he : EndAgree eH eF)
    (h : seenL (f nH eH).2.2.emitted = false) :
    f nF eF = f nH eH := by
  rcases hu with ⟨_, hi⟩ | ⟨is', line', vars', s1, hs1, hem, hi⟩ | ⟨c', hc⟩
  · exact hi nF eF
  · exact hi nF eF (hn is' line' vars' s1 (by rw [← hem]; exact h))
  · rw [hc nF eF, hc nH eH]
    exact he c' [] none line vars s (by rw [← hc nH eH]; exact h)

/-! ### the dispatcher with fuel -/

theorem runCmdF_mono (nested : EvalFn) (is : List Instruction) (hn : EvalMono nested) (n : Nat) :
    EndMono (runCmdF nested is n) := by
  induction n with
  | zero => intro c args out line vars s; exact List.prefix_refl _
  | succ n ih =>
    intro c args out line vars s
    exact cmdUses_mono (runCmd_uses nested (runCmdF nested is n) is c args out line vars s) hn ih

theorem runCmdF_haltLast (nested : EvalFn) (is : List Instruction) (hn : EvalHL nested) (n : Nat) :
    EndHL (runCmdF nested is n) := by
  induction n with
  | zero => intro c args out line vars s hs; exact haltLastL_of_not_seen _ hs
  | succ n ih =>
    intro c args out line vars s hs
    exact cmdUses_haltLast (runCmd_uses nested (runCmdF nested is n) is c args out line vars s) hn ih hs

theorem runCmdF_agree (nH nF : EvalFn) (is : List Instruction) (hn : EvalAgree nH nF) (n : Nat) :
    EndAgree (runCmdF nH is n) (runCmdF nF is n) := by
  induction n with
  | zero => intro c args out line vars s _; rfl
  | succ n ih =>
    intro c args out line vars s h
    exact cmdUses_agree (runCmd_uses nH (runCmdF nH is n) is c args out line vars s) hn ih h

/-! ### one instruction (`run_instruction` over `sdkSem`) -/

/-- an answered call of the SDK semantics is one invocation of the fuelled dispatcher (the fuel
    of `sdkSem`, 3, is mentioned here only) -/
theorem sdkSem_eq_some {nested : EvalFn} {is : List Instruction} {name : Str} {args : List Str}
    {out : Option Str} {line : Nat} {vars : Vars} {s : Sdk} {x : CmdResult × Vars × Sdk} :
    sdkSem nested is name args out line vars s = some x ↔
      ∃ c, resolveCmd s name = some c ∧ runCmdF nested is 3 c args out line vars s = x := by
  unfold sdkSem
  cases resolveCmd s name <;> simp

theorem sdkSem_mono {nested : EvalFn} {is : List Instruction} (hn : EvalMono nested) {name : Str}
    {args : List Str} {out : Option Str} {line : Nat} {vars v' : Vars} {s s' : Sdk} {r : CmdResult}
    (h : sdkSem nested is name args out line vars s = some (r, v', s')) : s.emitted <+: s'.emitted := by
  obtain ⟨c, _, e⟩ := sdkSem_eq_some.1 h
  show s.emitted <+: (r, v', s').2.2.emitted
  rw [← e]
  exact runCmdF_mono nested is hn _ c args out line vars s

theorem sdkSem_haltLast {nested : EvalFn} {is : List Instruction} (hn : EvalHL nested) {name : Str}
    {args : List Str} {out : Option Str} {line : Nat} {vars v' : Vars} {s s' : Sdk} {r : CmdResult}
    (h : sdkSem nested is name args out line vars s = some (r, v', s'))
    (hs : seenL s.emitted = false) : HaltLastL s'.emitted := by
  obtain ⟨c, _, e⟩ := sdkSem_eq_some.1 h
  show HaltLastL (r, v', s').2.2.emitted
  rw [← e]
  exact runCmdF_haltLast nested is hn _ c args out line vars s hs

theorem runInstruction_mono (nested : EvalFn) (is : List Instruction) (hn : EvalMono nested)
    (vars : Vars) (s : Sdk) (instr : Instruction) (line : Nat) :
    s.emitted <+: (runInstruction (sdkSem nested is) vars s instr line).2.2.2.emitted := by
  rcases runInstruction_st_cases (sdkSem nested is) vars s instr line with e | ⟨_, _, _, _, _, e⟩
  · rw [e]; exact List.prefix_refl _
  · exact sdkSem_mono hn e

theorem runInstruction_haltLast (nested : EvalFn) (is : List Instruction) (hn : EvalHL nested)
    (vars : Vars) (s : Sdk) (instr : Instruction) (line : Nat) (hs : seenL s.emitted = false) :
    HaltLastL (runInstruction (sdkSem nested is) vars s instr line).2.2.2.emitted := by
  rcases runInstruction_st_cases (sdkSem nested is) vars s instr line with e | ⟨_, _, _, _, _, e⟩
  · rw [e]; exact haltLastL_of_not_seen _ hs
  · exact sdkSem_haltLast hn e hs

theorem sdkSem_agree {nH nF : EvalFn} {is : List Instruction} (hn : EvalAgree nH nF) {name : Str}
    {args : List Str} {out : Option Str} {line : Nat} {vars : Vars} {s : Sdk}
    (h : ∀ r v' s', sdkSem nH is name args out line vars s = some (r, v', s') →
      seenL s'.emitted = false) :
    sdkSem nF is name args out line vars s = sdkSem nH is name args out line vars s := by
  unfold sdkSem at h ⊢
  cases hr : resolveCmd s name with
  | none => rfl
  | some c =>
    simp only [hr] at h ⊢
    rw [runCmdF_agree nH nF is hn _ c _ _ _ _ s (h _ _ _ rfl)]

theorem runInstruction_agree (nH nF : EvalFn) (is : List Instruction) (hn : EvalAgree nH nF)
    (vars : Vars) (s : Sdk) (instr : Instruction) (line : Nat)
    (h : seenL (runInstruction (sdkSem nH is) vars s instr line).2.2.2.emitted = false) :
    runInstruction (sdkSem nF is) vars s instr line = runInstruction (sdkSem nH is) vars s instr line := by
  cases hinv : Spec.invocationOf instr with
  | none => rw [runInstruction_noInvocation _ _ _ _ _ hinv, runInstruction_noInvocation _ _ _ _ _ hinv]
  | some na =>
    rw [runInstruction_invocation _ _ _ _ _ na.1 na.2 hinv] at h ⊢
    rw [runInstruction_invocation _ _ _ _ _ na.1 na.2 hinv, sdkSem_agree hn]
    intro r v' s' hs
    rw [hs] at h
    exact h

/-! ### the nested evaluator with its poll -/

/-- a reflexive, transitive relation that every instruction started with the flag down respects
    holds between the state the nested evaluator gets and the one it hands back -/
theorem goH_rel (R : Sdk → Sdk → Prop) (hrefl : ∀ s, R s s) (htrans : ∀ {a b c}, R a b → R b c → R a c)
    (fuel : Nat) (nested : EvalFn) (is : List Instruction)
    (hstep : ∀ vars s instr line, haltSeen s = false →
      R s (runInstruction (sdkSem nested is) vars s instr line).2.2.2) (n : Nat) :
    ∀ (line : Nat) (vars : Vars) (s : Sdk) (flowOut : Option Str),
      R s (evalInstrsH.go fuel nested n is line vars s flowOut).2.2.2 := by
  induction n with
  | zero => intro line vars s flowOut; exact hrefl s
  | succ n ih =>
    intro line vars s flowOut
    unfold evalInstrsH.go
    split
    · exact hrefl s
    · rename_i hseen
      split
      · exact hrefl s
      · rename_i instr _
        split
        · have h1 := hstep vars s instr line (by simpa using hseen)
          rcases hri : runInstruction (sdkSem nested is) vars s instr line with ⟨r, o, v1, s1⟩
          rw [hri] at h1
          dsimp only at h1 ⊢
          cases r with
          | exit v => exact h1
          | error e => exact h1
          | crash e => exact h1
          | goTo v g =>
            cases g with
            | label l => exact h1
            | line l => exact htrans h1 (ih l v1 s1 v)
          | «continue» v => exact htrans h1 (ih (line + 1) _ s1 v)
        · exact ih (line + 1) vars s flowOut

theorem goH_mono (fuel : Nat) (nested : EvalFn) (hn : EvalMono nested) (n : Nat)
    (is : List Instruction) (line : Nat) (vars : Vars) (s : Sdk) (flowOut : Option Str) :
    s.emitted <+: (evalInstrsH.go fuel nested n is line vars s flowOut).2.2.2.emitted :=
  goH_rel (fun a b => a.emitted <+: b.emitted) (fun _ => List.prefix_refl _) List.IsPrefix.trans
    fuel nested is (fun vars s instr line _ => runInstruction_mono nested is hn vars s instr line)
    n line vars s flowOut

theorem goH_haltLast (fuel : Nat) (nested : EvalFn) (hn : EvalHL nested) (n : Nat)
    (is : List Instruction) (line : Nat) (vars : Vars) (s : Sdk) (flowOut : Option Str) :
    HaltLastL s.emitted →
      HaltLastL (evalInstrsH.go fuel nested n is line vars s flowOut).2.2.2.emitted :=
  goH_rel (fun a b => HaltLastL a.emitted → HaltLastL b.emitted) (fun _ h => h)
    (fun f g h => g (f h)) fuel nested is
    (fun vars s instr line hs _ => runInstruction_haltLast nested is hn vars s instr line hs)
    n line vars s flowOut

theorem go_agree (fuel : Nat) (nH nF : EvalFn) (hm : EvalMono nH) (hn : EvalAgree nH nF) (n : Nat) :
    ∀ (is : List Instruction) (line : Nat) (vars : Vars) (s : Sdk) (flowOut : Option Str),
      seenL (evalInstrsH.go fuel nH n is line vars s flowOut).2.2.2.emitted = false →
      evalInstrsF.go fuel nF n is line vars s flowOut =
        evalInstrsH.go fuel nH n is line vars s flowOut := by
  induction n with
  | zero => intro is line vars s flowOut _; rfl
  | succ n ih =>
    intro is line vars s flowOut h
    have hs : haltSeen s = false := by
      rw [haltSeen_eq]
      exact not_seenL_of_prefix (goH_mono fuel nH hm (n + 1) is line vars s flowOut) h
    unfold evalInstrsH.go at h ⊢
    unfold evalInstrsF.go
    simp only [hs, Bool.false_eq_true, if_false] at h ⊢
    cases hi : is[line]? with
    | none => rfl
    | some instr =>
      simp only [hi] at h ⊢
      cases hty : instr.ty with
      | script si =>
        simp only [hty] at h ⊢
        rcases hri : runInstruction (sdkSem nH is) vars s instr line with ⟨r, o, v1, s1⟩
        rw [hri] at h
        have key : seenL s1.emitted = false →
            runInstruction (sdkSem nF is) vars s instr line = (r, o, v1, s1) := by
          intro h1
          rw [← hri]
          exact runInstruction_agree nH nF is hn vars s instr line (by rw [hri]; exact h1)
        cases r with
        | exit v => rw [key h]
        | error e => rw [key h]
        | crash e => rw [key h]
        | goTo v g =>
          cases g with
          | label l => rw [key h]
          | line l =>
            dsimp only at h
            rw [key (not_seenL_of_prefix (goH_mono fuel nH hm n is l v1 s1 v) h)]
            exact ih is l v1 s1 v h
        | «continue» v =>
          dsimp only at h
          rw [key (not_seenL_of_prefix (goH_mono fuel nH hm n is (line + 1) _ s1 v) h)]
          exact ih is (line + 1) _ s1 v h
      | empty =>
        simp only [hty] at h ⊢
        exact ih is (line + 1) vars s flowOut h
      | preProcess a b =>
        simp only [hty] at h ⊢
        exact ih is (line + 1) vars s flowOut h

theorem evalInstrsH_mono (fuel : Nat) : EvalMono (evalInstrsH fuel) := by
  induction fuel with
  | zero => intro is line vars s; exact List.prefix_refl _
  | succ fuel ih =>
    intro is line vars s
    exact goH_mono fuel (evalInstrsH fuel) ih (fuel + 1) is line vars s none

theorem evalInstrsH_haltLast (fuel : Nat) : EvalHL (evalInstrsH fuel) := by
  induction fuel with
  | zero => intro is line vars s hs; exact hs
  | succ fuel ih =>
    intro is line vars s hs
    exact goH_haltLast fuel (evalInstrsH fuel) ih (fuel + 1) is line vars s none hs

theorem evalInstrs_agree (fuel : Nat) : EvalAgree (evalInstrsH fuel) (evalInstrsF fuel) := by
  induction fuel with
  | zero => intro is line vars s _; rfl
  | succ fuel ih =>
    intro is line vars s h
    exact go_agree fuel (evalInstrsH fuel) (evalInstrsF fuel) (evalInstrsH_mono fuel) ih (fuel + 1)
      is line vars s none h

/-! ### `on_error` (the second invocation of an iteration, with no poll in between) -/

theorem resolve_onError (s : Sdk) :
    resolveCmd s onErrorName = none ∨ resolveCmd s onErrorName = some (.call onErrorName) := by
  rw [resolveCmd_eq, resolve_onError_empty]
  cases (s.fns.get onErrorName).isSome <;> simp

theorem runCmdF_call_emitted (nested : EvalFn) (is : List Instruction) (n : Nat) (name : Str)
    (args : List Str) (out : Option Str) (line : Nat) (vars : Vars) (s : Sdk) :
    (runCmdF nested is n (.call name) args out line vars s).2.2.emitted = s.emitted := by
  cases n with
  | zero => rfl
  | succ n =>
    show (runCmd nested (runCmdF nested is n) is (.call name) args out line vars s).2.2.emitted = _
    unfold runCmd
    dsimp only
    split
    · rfl
    · rename_i fi _
      cases fi.isScoped <;> rfl

/-- a name that resolves to nothing or to a user function: CALLING a function emits nothing
    (its body runs in later iterations) -/
theorem sdkSem_call_emitted {nested : EvalFn} {is : List Instruction} {n : Str} {args : List Str}
    {out : Option Str} {line : Nat} {vars v' : Vars} {s s' : Sdk} {r : CmdResult}
    (hn : resolveCmd s n = none ∨ resolveCmd s n = some (.call n))
    (h : sdkSem nested is n args out line vars s = some (r, v', s')) : s'.emitted = s.emitted := by
  obtain ⟨c, hc, e⟩ := sdkSem_eq_some.1 h
  have hc' : c = .call n := by
    rcases hn with h' | h' <;> rw [h'] at hc <;> cases hc
    rfl
  show (r, v', s').2.2.emitted = s.emitted
  rw [← e, hc']
  exact runCmdF_call_emitted nested is _ n args out line vars s

/-- the error handler never touches the trace: `on_error` is no built-in of the model -/
theorem runOnError_emitted (nested : EvalFn) (is : List Instruction) (vars : Vars) (s : Sdk)
    (e : Str) (mi : Meta) :
    (runOnError (sdkSem nested is) vars s e mi).2.2.emitted = s.emitted := by
  rcases runOnError_st_cases (sdkSem nested is) vars s e mi with h | ⟨_, _, h⟩
  · rw [h]
  · exact sdkSem_call_emitted (resolve_onError s) h

theorem runOnError_agree (nH nF : EvalFn) (is : List Instruction) (hn : EvalAgree nH nF)
    (vars : Vars) (s : Sdk) (e : Str) (mi : Meta)
    (h : seenL (runOnError (sdkSem nH is) vars s e mi).2.2.emitted = false) :
    runOnError (sdkSem nF is) vars s e mi = runOnError (sdkSem nH is) vars s e mi := by
  rw [runOnError_emitted] at h
  refine runOnError_congr (sdkSem_agree hn fun r v' s' hs => ?_)
  rw [sdkSem_call_emitted (resolve_onError s) hs]
  exact h

/-! ### the top-level loop -/

abbrev haltH : Nat → Sdk → Bool := fun _ s => haltSeen s

theorem runStep_mono (nested : EvalFn) (is : List Instruction) (hn : EvalMono nested)
    (labels : List (Str × Nat)) (halt : Nat → Sdk → Bool) (rs : RunState Sdk) :
    rs.st.emitted <+: (stepSt (runStep (sdkSem nested is) is labels halt rs)).emitted :=
  runStep_inv (P := fun s => rs.st.emitted <+: s.emitted)
    (fun h hp => hp.trans (sdkSem_mono hn h)) is labels halt rs (List.prefix_refl _)

theorem runStep_haltLast (nested : EvalFn) (is : List Instruction) (hn : EvalHL nested)
    (labels : List (Str × Nat)) (rs : RunState Sdk) (hs : HaltLastL rs.st.emitted) :
    HaltLastL (stepSt (runStep (sdkSem nested is) is labels haltH rs)).emitted := by
  rcases runStep_st_cases (sdkSem nested is) is labels haltH rs with
    ⟨h, _⟩ | ⟨instr, _, hh, h | ⟨v, e, _, h⟩⟩
  · rw [h]; exact hs
  · rw [h]; exact runInstruction_haltLast nested is hn _ _ _ _ hh
  · rw [h, runOnError_emitted]; exact runInstruction_haltLast nested is hn _ _ _ _ hh

theorem runStep_agree (nH nF : EvalFn) (is : List Instruction) (hm : EvalMono nH)
    (hn : EvalAgree nH nF) (labels : List (Str × Nat)) (rs : RunState Sdk)
    (h : seenL (stepSt (runStep (sdkSem nH is) is labels haltH rs)).emitted = false) :
    runStep (sdkSem nF is) is labels Spec.noHalt rs = runStep (sdkSem nH is) is labels haltH rs := by
  have hs : haltH rs.polls rs.st = false := by
    show haltSeen rs.st = false
    rw [haltSeen_eq]
    exact not_seenL_of_prefix (runStep_mono nH is hm labels haltH rs) h
  rw [runStep_halt_false (sdkSem nH is) is labels haltH rs hs] at h ⊢
  cases hi : is[rs.line]? with
  | none => rw [runStep_end _ is labels _ rs rfl hi, runStep_end _ is labels _ rs rfl hi]
  | some instr =>
    -- the instruction ended with the flag down: `on_error` adds nothing to its trace
    have key : seenL (runInstruction (sdkSem nH is) rs.vars rs.st instr rs.line).2.2.2.emitted =
        false := by
      rcases runStep_st_cases (sdkSem nH is) is labels Spec.noHalt rs with
        ⟨_, h0 | h0⟩ | ⟨instr', hi', _, h0 | ⟨v, e, _, h0⟩⟩
      · cases h0
      · rw [h0] at hi; cases hi
      · rw [hi] at hi'; cases hi'
        rw [h0] at h; exact h
      · rw [hi] at hi'; cases hi'
        rw [h0, runOnError_emitted] at h; exact h
    rw [runStep_instr _ is labels _ rs rfl hi, runStep_instr _ is labels _ rs rfl hi,
      runInstruction_agree nH nF is hn _ _ _ _ key]
    exact afterInstr_congr labels rs instr.mi _ fun e vars _ =>
      runOnError_agree nH nF is hn _ _ _ _ (by rw [runOnError_emitted]; exact key)

/-- the flag never comes down during a run -/
theorem runLoop_mono (nested : EvalFn) (is : List Instruction) (hn : EvalMono nested)
    (labels : List (Str × Nat)) (halt : Nat → Sdk → Bool) (fuel : Nat) (rs : RunState Sdk) :
    rs.st.emitted <+: (runLoop (sdkSem nested is) is labels halt fuel rs).1.st.emitted :=
  runLoop_inv (P := fun s => rs.st.emitted <+: s.emitted)
    (fun h hp => hp.trans (sdkSem_mono hn h)) is labels halt fuel rs
    (List.prefix_refl _)

theorem runLoop_haltLast (nested : EvalFn) (is : List Instruction) (hn : EvalHL nested)
    (labels : List (Str × Nat)) (fuel : Nat) (rs : RunState Sdk) :
    HaltLastL rs.st.emitted →
      HaltLastL (runLoop (sdkSem nested is) is labels haltH fuel rs).1.st.emitted :=
  runLoop_of_step (P := fun s => HaltLastL s.emitted) _ is labels haltH
    (runStep_haltLast nested is hn labels) fuel rs

theorem runLoop_agree (nH nF : EvalFn) (is : List Instruction) (hm : EvalMono nH)
    (hn : EvalAgree nH nF) (labels : List (Str × Nat)) (fuel : Nat) :
    ∀ rs : RunState Sdk,
      seenL (runLoop (sdkSem nH is) is labels haltH fuel rs).1.st.emitted = false →
      runLoop (sdkSem nF is) is labels Spec.noHalt fuel rs = runLoop (sdkSem nH is) is labels haltH fuel rs := by
  induction fuel with
  | zero => intro rs _; rfl
  | succ fuel ih =>
    intro rs h
    rw [runLoop_succ] at h
    -- the flag is down at the end of the run, hence after this iteration
    have hst : seenL (stepSt (runStep (sdkSem nH is) is labels haltH rs)).emitted = false := by
      cases hs : runStep (sdkSem nH is) is labels haltH rs with
      | inl rs1 =>
        rw [hs] at h
        exact not_seenL_of_prefix (runLoop_mono nH is hm labels haltH fuel rs1) h
      | inr r => rw [hs] at h; exact h
    rw [runLoop_succ, runLoop_succ, runStep_agree nH nF is hm hn labels rs hst]
    cases hs : runStep (sdkSem nH is) is labels haltH rs with
    | inl rs1 => rw [hs] at h; exact ih rs1 h
    | inr r => rfl

/-! ### the two interpreters are `runLoop` from line 0 -/

theorem interpRunH_eq (fuel : Nat) (is : List Instruction) (vars : Vars) (s : Sdk) :
    interpRunH fuel is vars s =
      runLoop (sdkSem (evalInstrsH fuel) is) is (labelTable is) haltH fuel ⟨0, 0, vars, s⟩ := rfl

theorem interpRun_eq (fuel : Nat) (is : List Instruction) (vars : Vars) (s : Sdk) :
    interpRun fuel is vars s =
      runLoop (sdkSem (evalInstrsF fuel) is) is (labelTable is) Spec.noHalt fuel ⟨0, 0, vars, s⟩ := rfl

end Duck
