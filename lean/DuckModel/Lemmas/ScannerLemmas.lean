/-
  The value scanner (`pvStep` / `pvLoop` / `pvFinish` / `parseNextValue`) on arbitrary input:
  what is left is a suffix of the input, a value costs a character, which errors can occur,
  what a scan without quotes can return, and the error kinds of the functions built on the
  scanner, up to a whole line.  Also unfoldings that leave a special case behind:
  `parseNextValue` is the loop and the finish on every text, `parseCommandLine` the chain of its
  parts on a non-empty one, `parseArgsLoop` goes on after every value.
-/
import DuckModel.Parser

namespace Duck

variable {fl : PVFlags} {st st' : PVSt} {c : Char} {l rest r r' : Str} {fe : Bool} {e : PErr}
  {v : Option Str}

/-! ### one step -/

/-- an unquoted token ends on a blank, `=` or `#`: what is neither of the first two is `#` -/
theorem tokenEnd_hash {fl : PVFlags} {c : Char}
    (h : c = ' ' ∨ c = '#' ∨ (fl.stopOnEquals ∧ c = '=')) (h2 : ¬(c = ' ' ∨ c = '=')) : c = '#' := by
  rcases h with h | h | ⟨_, h⟩
  · exact absurd (Or.inl h) h2
  · exact h
  · exact absurd (Or.inr h) h2

theorem pvStep_brk (h : pvStep fl st c rest = .brk st' r fe) : st' = st ∧ r <:+ c :: rest := by
  revert h
  fun_cases pvStep fl st c rest
  all_goals intro h; cases h
  -- the `break`s: at `#` nothing is left, at a blank or `=` the character stays, at the closing
  -- quote the rest is left
  all_goals first
    | exact ⟨rfl, List.nil_suffix⟩ | exact ⟨rfl, List.suffix_cons _ _⟩ | exact ⟨rfl, List.suffix_refl _⟩

/-- the error kinds of the value scanner -/
def scanErrors : List PErr :=
  [.controlWithoutValidValue, .invalidControlLocation, .missingEndQuotes, .invalidQuotesLocation]

theorem pvStep_err (h : pvStep fl st c rest = .err e) : e ∈ scanErrors := by
  revert h
  fun_cases pvStep fl st c rest
  all_goals intro h; cases h
  all_goals decide

/-- with quotes disallowed a step does not enter quoted mode -/
theorem pvStep_cont_noQuotes (hq : fl.allowQuotes = false) (hu : st.usingQuotes = false)
    (h : pvStep fl st c rest = .cont st') : st'.usingQuotes = false := by
  revert h
  fun_cases pvStep fl st c rest
  all_goals intro h; cases h
  all_goals first | exact hu | (rw [hq] at *; contradiction)

/-! ### the loop -/

theorem pvLoop_suffix (h : pvLoop fl st l = .ok (st', r, fe)) : r <:+ l := by
  fun_induction pvLoop fl st l with
  | case1 => cases h; exact List.suffix_refl _
  | case2 _ _ _ _ _ ih => exact (ih h).trans (List.suffix_cons _ _)
  | case3 _ _ _ _ _ _ hs => cases h; exact (pvStep_brk hs).2
  | case4 => cases h

/-- a scan that ends in a different state consumed something -/
theorem pvLoop_progress (h : pvLoop fl st l = .ok (st', r, fe)) : st' = st ∨ r.length < l.length := by
  cases l with
  | nil => cases h; exact Or.inl rfl
  | cons c rest =>
    rw [pvLoop] at h
    split at h
    · exact Or.inr (Nat.lt_succ_of_le (pvLoop_suffix h).length_le)
    · next hs => cases h; exact Or.inl (pvStep_brk hs).1
    · cases h

theorem pvLoop_err (h : pvLoop fl st l = .error e) : e ∈ scanErrors := by
  fun_induction pvLoop fl st l with
  | case1 => cases h
  | case2 _ _ _ _ _ ih => exact ih h
  | case3 => cases h
  | case4 _ _ _ _ hs => cases h; exact pvStep_err hs

theorem pvLoop_noQuotes (hq : fl.allowQuotes = false) (hu : st.usingQuotes = false)
    (h : pvLoop fl st l = .ok (st', r, fe)) : st'.usingQuotes = false := by
  fun_induction pvLoop fl st l with
  | case1 => cases h; exact hu
  | case2 _ _ _ _ hs ih => exact ih (pvStep_cont_noQuotes hq hu hs) h
  | case3 _ _ _ _ _ _ hs => cases h; exact (pvStep_brk hs).1 ▸ hu
  | case4 => cases h

/-! ### `parseNextValue` is the loop followed by the finish, also on the empty text -/

theorem parseNextValue_eq (fl : PVFlags) (l : Str) :
    parseNextValue fl l =
      match pvLoop fl {} l with
      | .error e => .error e
      | .ok (st, rest, fe) => pvFinish st rest fe := by
  cases l with
  | nil => simp [parseNextValue, pvLoop, pvFinish]
  | cons c t => rfl

theorem pvFinish_rest (h : pvFinish st r fe = .ok (r', v)) : r' = r := by
  revert h
  fun_cases pvFinish st r fe
  all_goals intro h; cases h
  all_goals rfl

theorem pvFinish_err (h : pvFinish st r fe = .error e) : e ∈ scanErrors := by
  revert h
  fun_cases pvFinish st r fe
  all_goals intro h; cases h
  all_goals decide

/-- a successful `parseNextValue` is a successful scan followed by a successful finish -/
theorem parseNextValue_ok (h : parseNextValue fl l = .ok (r, v)) :
    ∃ st fe, pvLoop fl {} l = .ok (st, r, fe) ∧ pvFinish st r fe = .ok (r, v) := by
  rw [parseNextValue_eq] at h
  split at h
  · cases h
  · next st r' fe hl => cases pvFinish_rest h; exact ⟨st, fe, hl, h⟩

theorem parseNextValue_some_lt {a : Str} (h : parseNextValue fl l = .ok (r, some a)) :
    r.length < l.length := by
  obtain ⟨st, fe, hl, hf⟩ := parseNextValue_ok h
  rcases pvLoop_progress hl with rfl | hlt
  · simp [pvFinish] at hf
  · exact hlt

/-- `parseNextValue` fails with one of the four kinds only -/
theorem parseNextValue_err (h : parseNextValue fl l = .error e) : e ∈ scanErrors := by
  rw [parseNextValue_eq] at h
  split at h
  · next hl => cases h; exact pvLoop_err hl
  · exact pvFinish_err h

/-- without quotes the scanner only returns a value that has at least one character -/
theorem parseNextValue_noQuotes_nonempty {a : Str} (hq : fl.allowQuotes = false)
    (h : parseNextValue fl l = .ok (r, some a)) : a ≠ [] := by
  obtain ⟨st, fe, hl, hf⟩ := parseNextValue_ok h
  have hu := pvLoop_noQuotes hq rfl hl
  revert hf
  fun_cases pvFinish st r fe
  all_goals intro hf; cases hf
  · simp_all
  · intro ha; simp_all

/-! ### the argument loop -/

/-- the loop of `parse_arguments_with_options` without the guard that makes its termination
    evident: the guard always holds, a value costs a character -/
theorem parseArgsLoop_eq (cac : Bool) (l : Str) :
    parseArgsLoop cac l =
      match parseNextValue (argFlags cac) l with
      | .error e => .error e
      | .ok (_, none) => .ok []
      | .ok (r, some a) =>
        match parseArgsLoop cac r with
        | .error e => .error e
        | .ok as => .ok (a :: as) := by
  rw [parseArgsLoop]
  split
  · next hp => rw [hp]
  · next hp => rw [hp]
  · next hp => rw [hp]; simp only [parseNextValue_some_lt hp, ↓reduceIte]; rfl
/-! ### `parseCommandLine` on a non-empty text -/

theorem parseCommandLine_eq (l : Str) (h : l ≠ []) :
    parseCommandLine l =
      match findLabel l with
      | .error e => .error e
      | .ok (r1, label) =>
        match findOutputAndCommand r1 with
        | .error e => .error e
        | .ok (r2, output, command) =>
          match parseArguments r2 with
          | .error e => .error e
          | .ok args =>
            if label.isNone ∧ output.isNone ∧ command.isNone then .ok .empty
            else .ok (.script { label := label, output := output, command := command, args := args }) := by
  cases l with
  | nil => exact absurd rfl h
  | cons c t => rfl

/-! ### the errors of the functions built on the scanner -/

/-- `find_label` fails as the scanner does: its own error kind needs an empty name, and a name
    is scanned without quotes -/
theorem findLabel_err {l : Str} {e : PErr} (h : findLabel l = .error e) : e ∈ scanErrors := by
  fun_induction findLabel l with
  | case1 | case3 | case5 | case6 => cases h
  | case2 _ _ hp => cases h; exact parseNextValue_err hp
  | case4 _ _ _ hp he =>
    exact absurd (List.isEmpty_iff.mp he) (parseNextValue_noQuotes_nonempty rfl hp)
  | case7 _ _ _ _ ih => exact ih h

theorem parseArgsLoop_err {cac : Bool} {l : Str} {e : PErr}
    (h : parseArgsLoop cac l = .error e) : e ∈ scanErrors := by
  fun_induction parseArgsLoop cac l with
  | case1 _ _ hp => cases h; exact parseNextValue_err hp
  | case3 _ _ _ _ _ _ he ih => cases h; exact ih he
  | case2 | case4 | case5 => cases h

theorem parseArguments_err {l : Str} {e : PErr} (h : parseArguments l = .error e) :
    e ∈ scanErrors := by
  revert h
  unfold parseArguments
  fun_cases parseArgumentsWith false l
  case case1 _ hp => intro h; cases h; exact parseArgsLoop_err hp
  all_goals intro h; cases h

theorem findOutputAndCommand_err {l : Str} {e : PErr}
    (h : findOutputAndCommand l = .error e) : e ∈ scanErrors := by
  revert h
  fun_cases findOutputAndCommand l
  case case1 _ hp | case3 _ _ _ _ _ _ hp => intro h; cases h; exact parseNextValue_err hp
  all_goals intro h; cases h

theorem parseCommandLine_err {l : Str} {e : PErr} (h : parseCommandLine l = .error e) :
    e ∈ scanErrors := by
  cases l with
  | nil => cases h
  | cons c t =>
    rw [parseCommandLine_eq _ (by simp)] at h
    split at h
    · next hp => cases h; exact findLabel_err hp
    · split at h
      · next hp => cases h; exact findOutputAndCommand_err hp
      · split at h
        · next hp => cases h; exact parseArguments_err hp
        · split at h <;> cases h

theorem parsePreProcessLine_err {l : Str} {e : PErr} (h : parsePreProcessLine l = .error e) :
    e ∈ PErr.preProcessNoCommandFound :: scanErrors := by
  revert h
  fun_cases parsePreProcessLine l
  case case2 _ _ _ _ _ hp =>
    intro h; cases h; exact List.mem_cons_of_mem _ (parseArguments_err hp)
  all_goals intro h; cases h
  exact List.mem_cons_self

/-- the error kinds a line can be rejected with -/
theorem parseLine_err {line : Str} {e : PErr} (h : parseLine line = .error e) :
    e ∈ PErr.preProcessNoCommandFound :: scanErrors := by
  simp only [parseLine] at h
  split at h
  · cases h
  · split at h
    · cases h
    · split at h
      · exact parsePreProcessLine_err h
      · exact List.mem_cons_of_mem _ (parseCommandLine_err h)

end Duck
