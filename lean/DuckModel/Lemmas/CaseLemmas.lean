/-
  The loop of `str::to_lowercase` (`lowerGo`, Sdk/CaseMap.lean) over the good table `lowerMap`.
  `lowerCtx` is defined here: the loop on a piece of a text that goes on, which
  `C16_case_final_sigma` (Props/C16Case.lean) is stated with, since the sigma rule looks at what
  follows.  The loop splits at any point (`lowerGo_append`); one step yields a good image of its
  character, `Σ` included (`lowerAt_image`), whence fixed points, idempotence and lengths; without
  `Σ` the loop is `flatMap lowerChar`.  Last, `lowerFixedChar` of UnicodeLower.lean (`isLowerText`,
  C20) says "not a key of `lowerMap`".
-/
import DuckModel.Lemmas.CaseTableLemmas

namespace Duck.UCase
open Duck

/-! ### `str::to_lowercase`: the loop with its context -/

/-- `lowerGo` on a piece `l` of a text that continues with `after` -/
def lowerCtx : List Char → List Char → List Char → List Char
  | _, [], _ => []
  | rb, c :: rest, after => lowerAt rb (rest ++ after) c ++ lowerCtx (c :: rb) rest after

theorem lowerCtx_nil (rb l : List Char) : lowerCtx rb l [] = lowerGo rb l := by
  induction l generalizing rb with
  | nil => rfl
  | cons c r ih => simp [lowerCtx, lowerGo, ih]

theorem lowerGo_append (rb p q : List Char) :
    lowerGo rb (p ++ q) = lowerCtx rb p q ++ lowerGo (p.reverse ++ rb) q := by
  induction p generalizing rb with
  | nil => simp [lowerCtx]
  | cons c p ih =>
    simp only [List.cons_append, lowerGo, lowerCtx, ih, List.reverse_cons, List.append_assoc,
      List.nil_append]

theorem lowerAt_sigma (rb after : List Char) (c : Char) (h : c.toNat = 0x3A3) :
    lowerAt rb after c =
      [if caseIgnorableThenCased rb && !caseIgnorableThenCased after then Char.ofNat 0x3C2
       else Char.ofNat 0x3C3] := by
  simp [lowerAt, h]

theorem lowerAt_not_sigma (rb after : List Char) (c : Char) (h : c.toNat ≠ 0x3A3) :
    lowerAt rb after c = lowerChar c := by
  simp [lowerAt, h]

theorem lowerAt_fixed (rb after : List Char) (c : Char) (h : lowerMap.lookup c.toNat = none) :
    lowerAt rb after c = [c] := by
  rw [lowerAt_not_sigma _ _ _ fun e => by simp [e, lower_sigma] at h]
  exact mapChar_none h

/-- `ς` and `σ` stand for `Σ` the way a target of the table would -/
theorem lowerAt_image (rb after : List Char) (c : Char) :
    GoodImage lowerMap c (lowerAt rb after c) := by
  by_cases h : c.toNat = 0x3A3
  · have hx : ∀ x, x = 0x3C2 ∨ x = 0x3C3 → GoodImage lowerMap c [Char.ofNat x] := by
      intro x hx
      have hv : (Char.ofNat x).toNat = x := toNat_ofNat (Or.inl (by omega))
      refine ⟨fun d hd => ?_, by simp, fun _ => ⟨_, [], rfl, fun e => ?_⟩⟩
      · rw [List.mem_singleton.mp hd, hv]
        rcases hx with rfl | rfl
        · exact lower_final_sigma_fixed
        · exact lowerGood.target_not_key lower_sigma (by simp)
      · have := congrArg Char.toNat e
        rw [hv, h] at this
        omega
    rw [lowerAt_sigma _ _ _ h]
    split
    · exact hx _ (Or.inl rfl)
    · exact hx _ (Or.inr rfl)
  · rw [lowerAt_not_sigma _ _ _ h]
    exact lowerGood.mapChar c

theorem lowerGo_out_fixed (rb l : List Char) (d : Char) (hd : d ∈ lowerGo rb l) :
    lowerMap.lookup d.toNat = none := by
  induction l generalizing rb with
  | nil => simp [lowerGo] at hd
  | cons c r ih =>
    rw [lowerGo, List.mem_append] at hd
    rcases hd with hd | hd
    · exact (lowerAt_image _ _ _).fixed d hd
    · exact ih _ hd

theorem lowerGo_eq_self_iff (rb l : List Char) :
    lowerGo rb l = l ↔ ∀ c ∈ l, lowerMap.lookup c.toNat = none := by
  induction l generalizing rb with
  | nil => simp [lowerGo]
  | cons c r ih =>
    rw [lowerGo, List.forall_mem_cons, ← ih (c :: rb)]
    by_cases hc : lowerMap.lookup c.toNat = none
    · simp [lowerAt_fixed _ _ _ hc, hc]
    · obtain ⟨a, t, e, hne⟩ := (lowerAt_image rb r c).head_ne hc
      simp [e, hc, hne]

theorem lowerGo_length (rb l : List Char) :
    l.length ≤ (lowerGo rb l).length ∧ (lowerGo rb l).length ≤ 3 * l.length := by
  induction l generalizing rb with
  | nil => simp [lowerGo]
  | cons c r ih =>
    have h1 := (lowerAt_image rb r c).length
    have h2 := ih (c :: rb)
    simp only [lowerGo, List.length_append, List.length_cons]
    omega

theorem lowerGo_no_sigma (rb l : List Char) (h : ∀ c ∈ l, c.toNat ≠ 0x3A3) :
    lowerGo rb l = l.flatMap lowerChar := by
  induction l generalizing rb with
  | nil => rfl
  | cons c r ih =>
    rw [lowerGo, lowerAt_not_sigma _ _ _ (h c (by simp)), ih _ (fun d hd => h d (by simp [hd]))]
    rfl

/-! ### the link to UnicodeLower.lean (`isLowerText`, C20) -/

theorem lowerFixedChar_iff (c : Char) :
    lowerFixedChar c = true ↔ lowerMap.lookup c.toNat = none := by
  rw [lookup_eq_none_iff_not_key, lower_key_iff, lowerFixedChar, inRanges, List.any_cons]
  -- the test of `notLowerRanges` is the same Boolean on both sides
  generalize notLowerRanges.any _ = b
  simp [asciiLowerChar_fixed_iff]

end Duck.UCase
