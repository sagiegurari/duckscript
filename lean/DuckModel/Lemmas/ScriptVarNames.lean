/-
  The variable names of one script body as a table.  A body reads and writes a handful of
  variables `scope::<cmd>::<name>`; following it needs, again and again, that two of them differ
  and that each lies under the command's prefix.  Both are facts about string literals: they are
  evaluated once per script, over the list of all its names, and used through `Names.ne` /
  `Names.under` with the names given as constructors of the script's own enumeration.
-/
import DuckModel.Sdk.AliasCmd

namespace Duck.ScriptRun
open Duck Duck.Alias

/-- `str` enumerates variable names of the script `scope`: distinct, each under the prefix, none
    under the prefix of a script in `others` (the commands the body calls) -/
structure Names {ι : Type} (scope : Str) (others : List Str) (str : ι → Str) : Prop where
  inj : ∀ a b, str a = str b → a = b
  under : ∀ a, underPrefix scope (str a) = true
  outside : ∀ o ∈ others, ∀ a, underPrefix o (str a) = false

theorem Names.ne {ι : Type} {scope : Str} {others : List Str} {str : ι → Str} (h : Names scope others str)
    {a b : ι} (hab : a ≠ b) : str a ≠ str b :=
  fun e => hab (h.inj a b e)

/-- the table from one evaluation over the list `all` of all constructors -/
theorem Names.of_list {ι : Type} (scope : Str) (others : List Str) (str : ι → Str) (all : List ι)
    (hall : ∀ a, a ∈ all)
    (h : (all.map str).Pairwise (· ≠ ·) ∧
      ∀ a ∈ all, underPrefix scope (str a) = true ∧ ∀ o ∈ others, underPrefix o (str a) = false) :
    Names scope others str where
  inj a b :=
    have hp := List.pairwise_map.mp h.1
    List.Pairwise.forall_of_forall_of_flip (R := fun a b => str a = str b → a = b) (fun _ _ _ => rfl)
      (hp.imp fun hne e => absurd e hne) (hp.imp fun hne e => absurd e.symm hne) (hall a) (hall b)
  under a := (h.2 a (hall a)).1
  outside o ho a := (h.2 a (hall a)).2 o ho

/-- a name under the prefix whose first letter is not `a` is none of the published `argument::<i>` -/
theorem ne_argKey (scope k rest : Str) (c : Char) (hc : c ≠ 'a') (hk : k = scope ++ ':' :: ':' :: c :: rest) (j : Nat) :
    k ≠ argKey scope j := by
  intro e
  have ha : "::argument::".toList = ':' :: ':' :: 'a' :: "rgument::".toList := by decide +kernel
  rw [hk, argKey, ha] at e
  have h := List.append_cancel_left e
  injection h with _ h
  injection h with _ h
  injection h with h _
  exact hc h

end Duck.ScriptRun
