/-
  C12: one step of the implementation model against the reference model.  The three take-out /
  put-back helpers against `onVec` / `onMap` / `onSet` (`sim_onVec` …), the plain `release`
  (`sim_release_plain`), then every command except the recursive release in one theorem
  (`sim_exec`); the recursive release is in CollectionsRelease.
-/
import DuckModel.Lemmas.CollectionsLemmas

namespace Duck.Coll
open Duck
open Duck.Spec.Store (Coll Out Store upd onVec onMap onSet readVec readMap readSet)

@[simp] theorem render_str (x : Str) : (Item.str x).render = x := rfl
@[simp] theorem map_render_str (vs : List Str) : (vs.map Item.str).map Item.render = vs := by
  induction vs <;> simp_all
@[simp] theorem map_render_comp_str (vs : List Str) : List.map (Item.render ∘ Item.str) vs = vs := by
  induction vs <;> simp_all
theorem map_eraseIdx' (l : List Item) (n : Nat) :
    (l.eraseIdx n).map Item.render = (l.map Item.render).eraseIdx n := by
  induction l generalizing n with
  | nil => rfl
  | cons x r ih => cases n <;> simp [List.eraseIdx, ih]

variable {m : St} {s : Spec.Store.St}

/-- one step of the two models is in simulation -/
def Sim (fuel : Nat) (m : St) (s : Spec.Store.St) (c : CollCmd) (args : List Str) : Prop :=
  R (exec m c args).1 (Spec.Store.exec fuel s c args).1 ∧
    absR (exec m c args).2 = (Spec.Store.exec fuel s c args).2

theorem R.self_tbl (hR : R m s) : R { m with tbl := m.tbl } s := hR

theorem sim_onVec (hR : R m s) (h : Str) (f : List Item → List Item × Res) (post : Res → Res)
    (g : List Str → List Str × Out) (hpost : post .err = .err)
    (hfg : ∀ l, ((f l).1.map Item.render, absR (post (f l).2)) = g (l.map Item.render)) :
    R { m with tbl := (mutateList m.tbl h f).1 } (onVec s h g).1 ∧
      absR (post (mutateList m.tbl h f).2) = (onVec s h g).2 := by
  rcases hR.cases h with ⟨hv, hs⟩ | ⟨l, hv, hs⟩ | ⟨mm, hv, hs⟩ | ⟨x, hv, hs⟩
  case inr.inl =>
    have e := hfg l
    rw [mutateList_list _ _ _ _ hv]
    simp only [onVec, hs, ← e, and_true]
    exact hR.update h _ _ (by rw [hv]; simp) (by simp [absV])
  all_goals
    obtain ⟨e, hl⟩ := mutateList_wrong m.tbl h f (by intro v e; rw [hv] at e; cases e <;> rfl)
    simp only [e, onVec, hs, hpost, absR, and_true]
    exact hR.of_lookupEq hl

theorem sim_onMap (hR : R m s) (h : Str) (f : List (Str × Item) → List (Str × Item) × Res)
    (post : Res → Res) (g : List (Str × Str) → List (Str × Str) × Out) (hpost : post .err = .err)
    (hfg : ∀ l, (absM (f l).1, absR (post (f l).2)) = g (absM l)) :
    R { m with tbl := (mutateMap m.tbl h f).1 } (onMap s h g).1 ∧
      absR (post (mutateMap m.tbl h f).2) = (onMap s h g).2 := by
  rcases hR.cases h with ⟨hv, hs⟩ | ⟨l, hv, hs⟩ | ⟨mm, hv, hs⟩ | ⟨x, hv, hs⟩
  case inr.inr.inl =>
    have e := hfg mm
    rw [mutateMap_map _ _ _ _ hv]
    simp only [onMap, hs, ← e, and_true]
    exact hR.update h _ _ (by rw [hv]; simp) (by simp [absV])
  all_goals
    obtain ⟨e, hl⟩ := mutateMap_wrong m.tbl h f (by intro v e; rw [hv] at e; cases e <;> rfl)
    simp only [e, onMap, hs, hpost, absR, and_true]
    exact hR.of_lookupEq hl

theorem sim_onSet (hR : R m s) (h : Str) (f : List Str → List Str × Res)
    (post : Res → Res) (g : List Str → List Str × Out) (hpost : post .err = .err)
    (hfg : ∀ l, ((f l).1, absR (post (f l).2)) = g l) :
    R { m with tbl := (mutateSet m.tbl h f).1 } (onSet s h g).1 ∧
      absR (post (mutateSet m.tbl h f).2) = (onSet s h g).2 := by
  rcases hR.cases h with ⟨hv, hs⟩ | ⟨l, hv, hs⟩ | ⟨mm, hv, hs⟩ | ⟨x, hv, hs⟩
  case inr.inr.inr =>
    have e := hfg x
    rw [mutateSet_set _ _ _ _ hv]
    simp only [onSet, hs, ← e, and_true]
    exact hR.update h _ _ (by rw [hv]; simp) (by simp [absV])
  all_goals
    obtain ⟨e, hl⟩ := mutateSet_wrong m.tbl h f (by intro v e; rw [hv] at e; cases e <;> rfl)
    simp only [e, onSet, hs, hpost, absR, and_true]
    exact hR.of_lookupEq hl

theorem sim_err (hR : R m s) : R m s ∧ absR .err = Out.err := ⟨hR, rfl⟩

/-! ### the handles of `array_concat` -/

theorem lists_vecs (hR : R m s) (hs : List Str) :
    (lists? m.tbl hs).map (fun ls => ls.map fun l => l.map Item.render) = Spec.Store.vecs? s.store hs := by
  induction hs with
  | nil => rfl
  | cons h r ih =>
    rcases hR.cases h with ⟨hv, hst⟩ | ⟨l, hv, hst⟩ | ⟨mm, hv, hst⟩ | ⟨x, hv, hst⟩ <;>
      simp only [lists?, Spec.Store.vecs?, hv, hst, Option.map_none]
    rw [← ih]
    cases lists? m.tbl r <;> simp

/-! ### release (one handle) -/

theorem isSome_agree (hR : R m s) (h : Str) : (tget m.tbl h).isSome = (s.store h).isSome := by
  rcases hR.cases h with ⟨hv, hs⟩ | ⟨l, hv, hs⟩ | ⟨mm, hv, hs⟩ | ⟨x, hv, hs⟩ <;> simp [hv, hs]

theorem sim_release_plain (fuel) (hR : R m s) (args : List Str)
    (hnr : ∀ a b r, args = a :: b :: r → isRecFlag a = false) : Sim fuel m s .release args := by
  unfold Sim
  match args, hnr with
  | [], _ => simp [exec, cmdRelease, Spec.Store.exec, absR, sFalse_eq, hR]
  | [a], _ =>
    simp only [exec, cmdRelease, Spec.Store.exec, absR, boolStr_eq, isSome_agree hR a, and_true]
    exact hR.remove a
  | a :: b :: r, hnr =>
    have hf := hnr a b r rfl
    have hf' : Spec.Store.recFlag a = false := by rw [← isRecFlag_eq]; exact hf
    simp only [exec, cmdRelease, Spec.Store.exec, hf, hf', absR, boolStr_eq, isSome_agree hR a,
      Bool.false_eq_true, if_false, and_true]
    exact hR.remove a

/-! ### every command except the recursive form of `release` -/

/-- `release -r h` / `release --recursive h`: the only command form whose reference answer
    depends on the reference model's recursion bound -/
def _root_.Duck.isRecRelease (c : CollCmd) (args : List Str) : Bool :=
  match c, args with
  | .release, a :: _ :: _ => isRecFlag a
  | _, _ => false

/-- one step of the two models, command by command; too few arguments are an error on both sides -/
theorem sim_exec (fuel) (hR : R m s) (c : CollCmd) (args : List Str)
    (hnr : isRecRelease c args = false) : Sim fuel m s c args := by
  cases c
  case release =>
    refine sim_release_plain fuel hR args ?_
    rintro a b r rfl
    simpa [isRecRelease] using hnr
  all_goals unfold Sim
  -- constructors
  case array =>
    unfold exec cmdArray Spec.Store.exec
    exact hR.alloc (.list (args.map .str)) (.vec args) (by simp [absV])
  case map =>
    unfold exec cmdMap Spec.Store.exec
    exact hR.alloc (.map []) (.map []) (by simp [absV, absM])
  case setNew =>
    unfold exec cmdSetNew Spec.Store.exec
    exact hR.alloc (.set (sinsertAll [] args)) (.set (Spec.Store.addAll [] args))
      (by simp [absV, sinsertAll_eq])
  case range =>
    match args with
    | a :: b :: _ =>
      unfold exec cmdRange Spec.Store.exec
      simp only [parseI64_eq]
      cases Spec.Store.int64 a with
      | none => exact sim_err hR
      | some st =>
        cases Spec.Store.int64 b with
        | none => exact sim_err hR
        | some en =>
          simp only []
          by_cases hgt : st > en
          · simp only [hgt, if_true]; exact sim_err hR
          · simp only [hgt, if_false]
            exact hR.alloc _ _ (by simp [absV, Item.render, Function.comp_def])
    | [] | [_] => exact sim_err hR
  case arrayConcat =>
    have e := lists_vecs hR args
    simp only [exec, cmdArrayConcat, Spec.Store.exec]
    cases hl : lists? m.tbl args with
    | none =>
      rw [hl] at e
      simp only [Option.map_none] at e
      rw [← e]
      exact sim_err hR
    | some ls =>
      rw [hl] at e
      simp only [Option.map_some] at e
      rw [← e]
      exact hR.alloc _ _ (by simp [absV, List.map_flatten, Function.comp_def])
  -- a list behind the handle is changed
  case arrayPush =>
    match args with
    | h :: vs =>
      unfold exec cmdArrayPush Spec.Store.exec
      exact sim_onVec hR h _ okTrue _ rfl (by intro l; simp [okTrue, absR, sTrue_eq])
    | [] => exact sim_err hR
  case arrayPop =>
    match args with
    | h :: _ =>
      unfold exec cmdArrayPop Spec.Store.exec
      exact sim_onVec hR h _ id _ rfl (by intro l; simp [absR, List.map_dropLast])
    | [] => exact sim_err hR
  case arrayClear =>
    match args with
    | h :: _ =>
      unfold exec cmdArrayClear Spec.Store.exec
      exact sim_onVec hR h _ okTrue _ rfl (by intro l; simp [okTrue, absR, sTrue_eq])
    | [] => exact sim_err hR
  case arrayGet =>
    match args with
    | h :: i :: _ =>
      unfold exec cmdArrayGet Spec.Store.exec
      simp only [parseUsize_eq]
      cases Spec.Store.index i with
      | none => exact sim_err hR
      | some n => exact sim_onVec hR h _ id _ rfl (by intro l; simp [absR])
    | [] | [_] => exact sim_err hR
  case arraySet =>
    match args with
    | h :: i :: v :: _ =>
      unfold exec cmdArraySet Spec.Store.exec
      simp only [parseUsize_eq]
      cases Spec.Store.index i with
      | none => exact sim_err hR
      | some n =>
        refine sim_onVec hR h _ id _ rfl ?_
        intro l
        by_cases hn : n < l.length <;> simp [hn, absR, sTrue_eq, List.map_set]
    | [] | [_] | [_, _] => exact sim_err hR
  case arrayRemove =>
    match args with
    | h :: i :: _ =>
      unfold exec cmdArrayRemove Spec.Store.exec
      simp only [parseUsize_eq]
      cases Spec.Store.index i with
      | none => exact sim_err hR
      | some n =>
        refine sim_onVec hR h _ id _ rfl ?_
        intro l
        by_cases hn : n < l.length <;> simp [hn, absR, sTrue_eq, map_eraseIdx']
    | [] | [_] => exact sim_err hR
  -- a map behind the handle is changed
  case mapPut =>
    match args with
    | h :: k :: v :: _ =>
      unfold exec cmdMapPut Spec.Store.exec
      exact sim_onMap hR h _ okTrue _ rfl (by intro l; simp [okTrue, absR, sTrue_eq, absM_put])
    | [] | [_] | [_, _] => exact sim_err hR
  case mapGet =>
    match args with
    | h :: k :: _ =>
      unfold exec cmdMapGet Spec.Store.exec
      exact sim_onMap hR h _ id _ rfl (by intro l; simp [absR, absM_lookup])
    | [] | [_] => exact sim_err hR
  case mapRemove =>
    match args with
    | h :: k :: _ =>
      unfold exec cmdMapRemove Spec.Store.exec
      exact sim_onMap hR h _ id _ rfl (by intro l; simp [absR, absM_lookup, absM_del])
    | [] | [_] => exact sim_err hR
  case mapClear =>
    match args with
    | h :: _ =>
      unfold exec cmdMapClear Spec.Store.exec
      exact sim_onMap hR h _ okTrue _ rfl (by intro l; simp [okTrue, absR, sTrue_eq, absM])
    | [] => exact sim_err hR
  -- a set behind the handle is changed
  case setPut =>
    match args with
    | h :: vs =>
      unfold exec cmdSetPut Spec.Store.exec
      exact sim_onSet hR h _ okTrue _ rfl (by intro l; simp [okTrue, absR, sTrue_eq, sinsertAll_eq])
    | [] => exact sim_err hR
  case setRemove =>
    match args with
    | h :: v :: _ =>
      unfold exec cmdSetRemove Spec.Store.exec
      exact sim_onSet hR h _ id _ rfl (by intro l; simp [absR, boolStr_eq, sremove])
    | [] | [_] => exact sim_err hR
  case setContains =>
    match args with
    | h :: v :: _ =>
      unfold exec cmdSetContains Spec.Store.exec
      exact sim_onSet hR h _ id _ rfl (by intro l; simp [absR, boolStr_eq])
    | [] | [_] => exact sim_err hR
  case setClear =>
    match args with
    | h :: _ =>
      unfold exec cmdSetClear Spec.Store.exec
      exact sim_onSet hR h _ okTrue _ rfl (by intro l; simp [okTrue, absR, sTrue_eq])
    | [] => exact sim_err hR
  -- a new collection made from the one behind the handle
  case mapKeys =>
    match args with
    | h :: _ =>
      unfold exec cmdMapKeys Spec.Store.exec
      rcases hR.cases h with ⟨hv, hs⟩ | ⟨l, hv, hs⟩ | ⟨mm, hv, hs⟩ | ⟨x, hv, hs⟩ <;> simp only [hv, hs]
      case inr.inr.inl => exact hR.alloc _ _ (by simp [absV, sortStr_eq, absM_keys])
      all_goals exact sim_err hR
    | [] => exact sim_err hR
  case setToArray =>
    match args with
    | h :: _ =>
      unfold exec cmdSetToArray Spec.Store.exec
      rcases hR.cases h with ⟨hv, hs⟩ | ⟨l, hv, hs⟩ | ⟨mm, hv, hs⟩ | ⟨x, hv, hs⟩ <;> simp only [hv, hs]
      case inr.inr.inr => exact hR.alloc _ _ (by simp [absV, sortStr_eq])
      all_goals exact sim_err hR
    | [] => exact sim_err hR
  case setFromArray =>
    match args with
    | h :: _ =>
      unfold exec cmdSetFromArray Spec.Store.exec
      rcases hR.cases h with ⟨hv, hs⟩ | ⟨l, hv, hs⟩ | ⟨mm, hv, hs⟩ | ⟨x, hv, hs⟩ <;> simp only [hv, hs]
      case inr.inl => exact hR.alloc _ _ (by simp [absV, sinsertAll_eq])
      all_goals exact sim_err hR
    | [] => exact sim_err hR
  -- the collection behind the handle is only read
  case arrayContains =>
    match args with
    | h :: v :: _ =>
      unfold exec cmdArrayContains Spec.Store.exec
      rcases hR.cases h with ⟨hv, hs⟩ | ⟨l, hv, hs⟩ | ⟨mm, hv, hs⟩ | ⟨x, hv, hs⟩
      case inr.inl =>
        simp only [hv, hs, indexOfStr_eq]
        cases Spec.Store.firstIndex v (l.map Item.render) 0 <;> simp [absR, sFalse_eq, natStr_eq, hR]
      all_goals simp [hv, hs, absR, sFalse_eq, hR]
    | [] | [_] => exact sim_err hR
  case arrayJoin | mapContainsKey | mapContainsValue =>
    match args with
    | h :: x :: _ =>
      rcases hR.cases h with ⟨hv, hs⟩ | ⟨l, hv, hs⟩ | ⟨mm, hv, hs⟩ | ⟨x, hv, hs⟩ <;>
        simp [exec, cmdArrayJoin, cmdMapContainsKey, cmdMapContainsValue, Spec.Store.exec, readVec,
          readMap, hv, hs, absR, joinStr_eq, boolStr_eq, absM_lookup, absM_vals, hR]
    | [] | [_] => exact sim_err hR
  case arrayLength | arrayIsEmpty | mapSize | mapIsEmpty | setSize | setIsEmpty | isArray | isMap
      | isSet =>
    match args with
    | h :: _ =>
      rcases hR.cases h with ⟨hv, hs⟩ | ⟨l, hv, hs⟩ | ⟨mm, hv, hs⟩ | ⟨x, hv, hs⟩ <;>
        simp [exec, cmdArrayLength, cmdArrayIsEmpty, cmdMapSize, cmdMapIsEmpty, cmdSetSize,
          cmdSetIsEmpty, cmdIsArray, cmdIsMap, cmdIsSet, Spec.Store.exec, readVec, readMap, readSet,
          hv, hs, absR, natStr_eq, boolStr_eq, absM_length, absM_isEmpty, sTrue_eq, sFalse_eq,
          Spec.Store.bool, hR]
    | [] => exact sim_err hR

end Duck.Coll
