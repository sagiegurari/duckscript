/-
  C17 — lemmas about the JSON text layer (`Sdk/JsonText.lean`): the reader undoes the compact
  writer (strings: every character; documents: number leaves exact integers, strictly increasing
  keys, at most 127 nested containers), white space around the document is skipped, the
  normalisation of `Sdk/Encode.lean` maps into that class.
-/
import DuckModel.Sdk.JsonText

namespace Duck.Enc
-- the mutual document types of `Sdk/Encode.lean` carry no `deriving` clause; the examples of
-- `Props/C17Json.lean` and `Props/C17.lean` that evaluate `parseJson … = some doc` compare documents
deriving instance DecidableEq for Json, JList, JFields
end Duck.Enc

namespace Duck.JsonText
open Duck Duck.Enc

/-! ## strings -/

theorem parseChars_quote (rest : List Char) : parseChars ('"' :: rest) = some ([], rest) := by
  rw [parseChars.eq_def]; simp

/-- a two-character escape -/
theorem parseChars_short (e ch : Char) (T : List Char) (hu : e ≠ 'u') (h : unescape e = some ch) :
    parseChars ('\\' :: e :: T) = consRes ch (parseChars T) := by
  rw [parseChars.eq_def]
  simp [hu, h]

/-- a `\uXXXX` escape outside the surrogate range -/
theorem parseChars_u4 (a b c d : Char) (n : Nat) (T : List Char) (h : hex4 a b c d = some n)
    (hr : n < 0xD800 ∨ 0xE000 ≤ n) :
    parseChars ('\\' :: 'u' :: a :: b :: c :: d :: T) = consRes (Char.ofNat n) (parseChars T) := by
  rw [parseChars.eq_def]
  have h1 : ¬ (0xDC00 ≤ n ∧ n ≤ 0xDFFF) := by omega
  have h2 : ¬ (0xD800 ≤ n ∧ n ≤ 0xDBFF) := by omega
  simp [h, h1, h2]

/-- a surrogate pair -/
theorem parseChars_pair (a b c d a' b' c' d' : Char) (n m : Nat) (T : List Char)
    (h : hex4 a b c d = some n) (h' : hex4 a' b' c' d' = some m)
    (hn : 0xD800 ≤ n ∧ n ≤ 0xDBFF) (hm : 0xDC00 ≤ m ∧ m ≤ 0xDFFF) :
    parseChars ('\\' :: 'u' :: a :: b :: c :: d :: '\\' :: 'u' :: a' :: b' :: c' :: d' :: T) =
      consRes (Char.ofNat ((n - 0xD800) * 1024 + (m - 0xDC00) + 0x10000)) (parseChars T) := by
  rw [parseChars.eq_def]
  have h1 : ¬ (0xDC00 ≤ n ∧ n ≤ 0xDFFF) := by omega
  simp [h, h', h1, hn, hm]

/-- a character written raw -/
theorem parseChars_raw (c : Char) (T : List Char) (h1 : c ≠ '"') (h2 : c ≠ '\\') (h3 : ¬ c.toNat < 32) :
    parseChars (c :: T) = consRes c (parseChars T) := by
  rw [parseChars.eq_def]
  simp [h1, h2, h3]

/-- the `\u00XX` the writer gives a control character is read as its code -/
theorem hex4_ctrl : ∀ n, n < 32 →
    hex4 '0' '0' (lowerHexDigit (n / 16)) (lowerHexDigit (n % 16)) = some n := by
  decide +kernel

theorem parseChars_esc (c : Char) (T : List Char) :
    parseChars (escChar c ++ T) = consRes c (parseChars T) := by
  have hc : Char.ofNat c.toNat = c := Char.ofNat_toNat c
  by_cases h1 : c = '"'
  · subst h1; exact parseChars_short '"' '"' T (by decide) (by decide)
  by_cases h2 : c = '\\'
  · subst h2; exact parseChars_short '\\' '\\' T (by decide) (by decide)
  by_cases h8 : c.toNat = 8
  · rw [h8] at hc; subst hc; exact parseChars_short 'b' _ T (by decide) (by decide)
  by_cases h9 : c.toNat = 9
  · rw [h9] at hc; subst hc; exact parseChars_short 't' _ T (by decide) (by decide)
  by_cases h10 : c.toNat = 10
  · rw [h10] at hc; subst hc; exact parseChars_short 'n' _ T (by decide) (by decide)
  by_cases h12 : c.toNat = 12
  · rw [h12] at hc; subst hc; exact parseChars_short 'f' _ T (by decide) (by decide)
  by_cases h13 : c.toNat = 13
  · rw [h13] at hc; subst hc; exact parseChars_short 'r' _ T (by decide) (by decide)
  rw [escChar, if_neg h1, if_neg h2, if_neg h8, if_neg h9, if_neg h10, if_neg h12, if_neg h13]
  by_cases h : c.toNat < 32
  · rw [if_pos h]
    have := parseChars_u4 _ _ _ _ c.toNat T (hex4_ctrl _ h) (Or.inl (by omega))
    rwa [hc] at this
  · rw [if_neg h]
    exact parseChars_raw c T h1 h2 h

theorem parseChars_print : ∀ (s : Str) (rest : List Char),
    parseChars (printChars s ++ '"' :: rest) = some (s, rest)
  | [], rest => by simp [printChars, parseChars_quote]
  | c :: r, rest => by
    simp only [printChars, List.append_assoc]
    rw [parseChars_esc, parseChars_print r rest]
    rfl

theorem printString_append (s : Str) (rest : List Char) :
    printString s ++ rest = '"' :: (printChars s ++ '"' :: rest) := by
  simp [printString]

/-! ## white space -/

theorem skipWs_cons {c : Char} (h : isWs c = false) (r : List Char) : skipWs (c :: r) = c :: r := by
  simp [skipWs, h]

theorem skipWs_append : ∀ (w s : List Char), w.all isWs = true → skipWs (w ++ s) = skipWs s
  | [], _, _ => rfl
  | c :: w, s, h => by
    simp only [List.all_cons, Bool.and_eq_true] at h
    simp only [List.cons_append, skipWs, h.1, if_true]
    exact skipWs_append w s h.2

theorem skipWs_all (w : List Char) (h : w.all isWs = true) : skipWs w = [] := by
  simpa [skipWs] using skipWs_append w [] h

theorem skipWs_printString (s : Str) (rest : List Char) :
    skipWs (printString s ++ rest) = printString s ++ rest := by
  rw [printString_append]; exact skipWs_cons (by decide) _

/-! ## the order of keys, `BTreeMap::insert` -/

/-- `ltStr` decides the lexicographic order of `List Char` (characters by code point) -/
theorem ltStr_iff : ∀ a b : Str, ltStr a b = true ↔ a < b
  | [], [] => by simp [ltStr]
  | [], _ :: _ => by simp [ltStr]
  | _ :: _, [] => by simp [ltStr]
  | x :: xs, y :: ys => by
    simp [ltStr, List.cons_lt_cons_iff, ltStr_iff xs ys, Char.lt_def, UInt32.lt_iff_toNat_lt]

theorem ltStr_asymm {a b : Str} (h : ltStr a b = true) : ltStr b a = false :=
  Bool.eq_false_iff.2 fun h' => List.lt_asymm ((ltStr_iff a b).1 h) ((ltStr_iff b a).1 h')

theorem ltStr_ne {a b : Str} (h : ltStr a b = true) : a ≠ b :=
  fun e => List.lt_irrefl b (e ▸ (ltStr_iff a b).1 h)

theorem ltStr_trans {a b c : Str} (h1 : ltStr a b = true) (h2 : ltStr b c = true) :
    ltStr a c = true :=
  (ltStr_iff a c).2 (List.lt_trans ((ltStr_iff a b).1 h1) ((ltStr_iff b c).1 h2))

theorem ltStr_total {a b : Str} (h : ltStr a b = false) (hne : a ≠ b) : ltStr b a = true :=
  (ltStr_iff b a).2 (Std.lt_of_le_of_ne
    (List.not_lt.1 fun h' => Bool.eq_false_iff.1 h ((ltStr_iff a b).2 h')) hne.symm)

/-- concatenation of field lists -/
def appF : JFields → JFields → JFields
  | .nil, g => g
  | .cons k v t, g => .cons k v (appF t g)

theorem appF_nil : ∀ a : JFields, appF a .nil = a
  | .nil => rfl
  | .cons k v t => by simp [appF, appF_nil t]

theorem appF_assoc : ∀ a b c : JFields, appF (appF a b) c = appF a (appF b c)
  | .nil, _, _ => rfl
  | .cons k v t, b, c => by simp [appF, appF_assoc t b c]

theorem keysGt_appF (k : Str) : ∀ a b : JFields, keysGt k (appF a b) = (keysGt k a && keysGt k b)
  | .nil, _ => by simp [appF, keysGt]
  | .cons k' v t, b => by simp [appF, keysGt, keysGt_appF k t b, Bool.and_assoc]

/-- inserting a key that sorts behind all present ones appends the member -/
theorem insertF_sorted (k : Str) (v : Json) (t : JFields) : ∀ a : JFields,
    sortedF (appF a (.cons k v t)) = true → insertF k v a = appF a (.cons k v .nil)
  | .nil, _ => rfl
  | .cons k' v' a, h => by
    simp only [appF, sortedF, keysGt_appF, keysGt, Bool.and_eq_true] at h
    have h1 : k ≠ k' := fun e => ltStr_ne h.1.2.1 e.symm
    have h2 : ltStr k k' = false := ltStr_asymm h.1.2.1
    simp [insertF, h1, h2, appF, insertF_sorted k v t a h.2]

/-! ## fuel

`sizeV d` is the number of calls of `pValue`, `pItems`, `pField`, `pFields` that read the compact
text of `d` (their nesting is at most that): one `pValue` per value; `sizeT` / `sizeFT` count for the
text behind an element or member, one `pItems` / `pFields` for the `]` / `}` or the comma and, in an
object, one `pField` for the member behind the comma (`2 +`); the first member has its `pField`
in `sizeF`. -/

mutual
  def sizeV : Json → Nat
    | .null => 1
    | .bool _ => 1
    | .num _ => 1
    | .str _ => 1
    | .arr l => 1 + sizeL l
    | .obj f => 1 + sizeF f
  def sizeL : JList → Nat
    | .nil => 0
    | .cons h t => sizeV h + sizeT t
  def sizeT : JList → Nat
    | .nil => 1
    | .cons h t => 1 + sizeV h + sizeT t
  def sizeF : JFields → Nat
    | .nil => 0
    | .cons _ v t => 1 + sizeV v + sizeFT t
  def sizeFT : JFields → Nat
    | .nil => 1
    | .cons _ v t => 2 + sizeV v + sizeFT t
end

/-! ## one step of the reader, by the token it finds after the white space -/

theorem tokFacts :
    isWs '[' = false ∧ isWs '{' = false ∧ isWs '"' = false ∧ isWs 'n' = false ∧ isWs 't' = false ∧
    isWs 'f' = false ∧ isDigit '[' = false ∧ isDigit '{' = false ∧ isDigit '"' = false := by
  decide +kernel

theorem skipWs_idem : ∀ s : List Char, skipWs (skipWs s) = skipWs s
  | [] => rfl
  | c :: r => by
    cases h : isWs c
    · simp [skipWs, h]
    · simpa [skipWs, h] using skipWs_idem r

theorem skipWs_append_cons {w : List Char} (hw : w.all isWs = true) {c : Char}
    (hc : isWs c = false) (r : List Char) : skipWs (w ++ c :: r) = c :: r :=
  (skipWs_append w _ hw).trans (skipWs_cons hc r)

/-- the reader looks at its input only behind the leading white space -/
theorem pValue_skipWs (f rem : Nat) (s : List Char) : pValue f rem (skipWs s) = pValue f rem s := by
  cases f with
  | zero => rfl
  | succ g => rw [pValue, pValue, skipWs_idem]

theorem pField_skipWs (f rem : Nat) (acc : JFields) (s : List Char) :
    pField f rem acc (skipWs s) = pField f rem acc s := by
  cases f with
  | zero => rfl
  | succ g => rw [pField, pField, skipWs_idem]

theorem pValue_skip (f rem : Nat) (w s : List Char) (hw : w.all isWs = true) :
    pValue f rem (w ++ s) = pValue f rem s := by
  rw [← pValue_skipWs, skipWs_append w s hw, pValue_skipWs]

/-- a value does not start with `]` (so `[1,]` is refused and `[]` is the empty array) -/
theorem pValue_ok_head {f rem : Nat} {s : List Char} {r : Json × List Char}
    (h : pValue f rem s = .ok r) : ∃ c t, skipWs s = c :: t ∧ c ≠ ']' := by
  cases f with
  | zero => simp [pValue] at h
  | succ g =>
    rw [pValue] at h
    cases hs : skipWs s with
    | nil => simp [hs] at h
    | cons c t =>
      refine ⟨c, t, rfl, ?_⟩
      rintro rfl
      simp [hs, isDigit] at h

/-- a member starts with the quote of its key -/
theorem pField_ok_head {f rem : Nat} {acc : JFields} {s : List Char} {r : JFields × List Char}
    (h : pField f rem acc s = .ok r) : ∃ t, skipWs s = '"' :: t := by
  cases f with
  | zero => simp [pField] at h
  | succ g =>
    rw [pField] at h
    cases hs : skipWs s with
    | nil => simp [hs] at h
    | cons c t =>
      by_cases hc : c = '"'
      · exact ⟨t, by rw [hc]⟩
      · simp [hs, hc] at h

theorem pItems_end : ∀ (f rem : Nat) (S rest : List Char), 0 < f → skipWs S = ']' :: rest →
    pItems f rem S = .ok (.nil, rest)
  | _ + 1, _, _, _, _, hs => by
    rw [pItems]
    simp [hs]

theorem pItems_comma (g rem : Nat) (S S' X rest : List Char) (h : Json) (t : JList)
    (hs : skipWs S = ',' :: S') (hv : pValue g rem S' = .ok (h, X))
    (ht : pItems g rem X = .ok (t, rest)) : pItems (g + 1) rem S = .ok (.cons h t, rest) := by
  rw [pItems]
  simp [hs, hv, ht]

theorem pValue_arr_nil : ∀ (f rem : Nat) (S rest : List Char), 0 < f → 1 < rem →
    skipWs S = ']' :: rest → pValue f rem ('[' :: S) = .ok (.arr .nil, rest)
  | _ + 1, rem, _, _, _, hrem, hs => by
    rw [pValue]
    simp [skipWs, tokFacts, Nat.not_le.2 hrem, hs]

theorem pValue_arr_cons (g rem : Nat) (h : Json) (t : JList) (S X rest : List Char)
    (hrem : 1 < rem) (hv : pValue g (rem - 1) S = .ok (h, X))
    (ht : pItems g (rem - 1) X = .ok (t, rest)) :
    pValue (g + 1) rem ('[' :: S) = .ok (.arr (.cons h t), rest) := by
  obtain ⟨c, r, hs, hne⟩ := pValue_ok_head hv
  rw [← pValue_skipWs, hs] at hv
  rw [pValue]
  simp [skipWs, tokFacts, Nat.not_le.2 hrem, hs, hne, hv, ht]

theorem pFields_end : ∀ (f rem : Nat) (acc : JFields) (S rest : List Char), 0 < f →
    skipWs S = '}' :: rest → pFields f rem acc S = .ok (acc, rest)
  | _ + 1, _, _, _, _, _, hs => by
    rw [pFields]
    simp [hs]

theorem pFields_comma (g rem : Nat) (acc : JFields) (S Y : List Char) (hs : skipWs S = ',' :: Y) :
    pFields (g + 1) rem acc S = pField g rem acc Y := by
  rw [pFields]
  simp [hs]

/-- one member: the key in any spelling `B` that `parseChars` reads as `k` -/
theorem pField_member (g rem : Nat) (acc : JFields) (k : Str) (v : Json) (S B R S' X : List Char)
    (hs : skipWs S = '"' :: B) (hk : parseChars B = some (k, R)) (hc : skipWs R = ':' :: S')
    (hv : pValue g rem S' = .ok (v, X)) :
    pField (g + 1) rem acc S = pFields g rem (insertF k v acc) X := by
  rw [pField]
  simp [hs, hk, hc, hv]

theorem pValue_obj_nil : ∀ (f rem : Nat) (S rest : List Char), 0 < f → 1 < rem →
    skipWs S = '}' :: rest → pValue f rem ('{' :: S) = .ok (.obj .nil, rest)
  | _ + 1, rem, _, _, _, hrem, hs => by
    rw [pValue]
    simp [skipWs, tokFacts, Nat.not_le.2 hrem, hs]

theorem pValue_obj_cons (g rem : Nat) (S rest : List Char) (fs : JFields) (hrem : 1 < rem)
    (hf : pField g (rem - 1) .nil S = .ok (fs, rest)) :
    pValue (g + 1) rem ('{' :: S) = .ok (.obj fs, rest) := by
  obtain ⟨t, hs⟩ := pField_ok_head hf
  rw [← pField_skipWs, hs] at hf
  rw [pValue]
  simp [skipWs, tokFacts, Nat.not_le.2 hrem, hs, hf]

theorem pValue_str_step : ∀ (f rem : Nat) (s : Str) (B rest : List Char), 0 < f →
    parseChars B = some (s, rest) → pValue f rem ('"' :: B) = .ok (.str s, rest)
  | _ + 1, _, _, _, _, _, hk => by
    rw [pValue]
    simp [skipWs, tokFacts, hk]

theorem pValue_null_step : ∀ (f rem : Nat) (rest : List Char), 0 < f →
    pValue f rem ('n' :: 'u' :: 'l' :: 'l' :: rest) = .ok (.null, rest)
  | _ + 1, _, _, _ => by
    rw [pValue]
    simp [skipWs, tokFacts, stripPrefix]

theorem pValue_bool_step : ∀ (f rem : Nat) (b : Bool) (rest : List Char), 0 < f →
    pValue f rem (boolText b ++ rest) = .ok (.bool b, rest)
  | _ + 1, _, b, _, _ => by
    rw [pValue]
    cases b <;> simp [boolText, skipWs, tokFacts, stripPrefix]

/-! ## numbers -/

/-- what may follow a number token: not a digit, not a fraction or exponent mark -/
def followOK : List Char → Bool
  | [] => true
  | c :: _ => !isDigit c && !(c = '.' || c = 'e' || c = 'E')

theorem digit_facts {c : Char} (h : isDigit c = true) :
    isWs c = false ∧ c ≠ 'n' ∧ c ≠ 't' ∧ c ≠ 'f' := by
  have ne : ∀ d : Char, isDigit d = false → c ≠ d := fun d hd e => by rw [e, hd] at h; cases h
  simp [isWs, ne ' ' rfl, ne '\n' rfl, ne '\t' rfl, ne '\r' rfl, ne 'n' rfl, ne 't' rfl, ne 'f' rfl]

theorem spanDigits_append : ∀ (ds rest : List Char), ds.all isDigit = true → followOK rest = true →
    spanDigits (ds ++ rest) = (ds, rest)
  | [], [], _, _ => rfl
  | [], c :: r, _, h => by
    simp only [followOK, Bool.and_eq_true, Bool.not_eq_true'] at h
    simp [spanDigits, h.1]
  | d :: ds, rest, hd, h => by
    simp only [List.all_cons, Bool.and_eq_true] at hd
    simp [spanDigits, hd.1, spanDigits_append ds rest hd.2 h]

theorem parseNumber_canon (neg : Bool) (ds rest : List Char) (hc : canonDigits ds = true)
    (hf : followOK rest = true) :
    parseNumber neg (ds ++ rest) = parseNumber.parseNumberEnd neg ds rest := by
  cases ds with
  | nil => simp [canonDigits] at hc
  | cons d0 more =>
    simp only [canonDigits, Bool.and_eq_true, Bool.not_eq_true', Bool.and_eq_false_iff,
      decide_eq_false_iff_not, Bool.not_eq_false'] at hc
    have hz : ¬ (d0 = '0' ∧ more ≠ []) := by
      rintro ⟨h0, hm⟩
      simp [h0, hm] at hc
    unfold parseNumber
    simp only [spanDigits_append _ rest hc.1 hf, hz, if_false]
    cases rest with
    | nil => rfl
    | cons c r =>
      simp only [followOK, Bool.and_eq_true, Bool.not_eq_true', Bool.or_eq_false_iff,
        decide_eq_false_iff_not] at hf
      simp [hf.2.1.1, hf.2.1.2, hf.2.2]

theorem canonDigits_head {c : Char} {ds : List Char} (h : canonDigits (c :: ds) = true) :
    isDigit c = true := by
  simp only [canonDigits, List.all_cons, Bool.and_eq_true] at h
  exact h.1.1

theorem pValue_num_step (f rem : Nat) (t : Str) (rest : List Char) (h0 : 0 < f)
    (ht : IntText t = true) (hf : followOK rest = true) :
    pValue f rem (t ++ rest) = .ok (.num t, rest) := by
  obtain ⟨g, rfl⟩ : ∃ g, f = g + 1 := ⟨f - 1, by omega⟩
  cases t with
  | nil => simp [IntText] at ht
  | cons c ds =>
    by_cases hm : c = '-'
    · subst hm
      simp only [IntText, if_true, Bool.and_eq_true, decide_eq_true_eq] at ht
      rw [pValue]
      have hv : ¬ digitsValue 0 ds = 0 := by omega
      simp [skipWs, (by decide : isWs '-' = false), parseNumber_canon true ds rest ht.1.1 hf,
        parseNumber.parseNumberEnd, hv, ht.2]
    · simp only [IntText, hm, if_false, Bool.and_eq_true, decide_eq_true_eq] at ht
      have hd := canonDigits_head ht.1
      obtain ⟨h1, h2, h3, h4⟩ := digit_facts hd
      rw [pValue]
      have := parseNumber_canon false (c :: ds) rest ht.1 hf
      simp only [List.cons_append] at this
      simp [skipWs, h1, h2, h3, h4, hm, hd, this, parseNumber.parseNumberEnd, ht.2]


theorem intText_length {t : Str} (h : IntText t = true) : 1 ≤ t.length := by
  cases t with
  | nil => simp [IntText] at h
  | cons c ds => simp

theorem followOK_itemsTail (t : JList) (rest : List Char) :
    followOK (printItemsTail t ++ ']' :: rest) = true := by
  cases t <;> simp [printItemsTail, followOK, isDigit]

theorem followOK_fieldsTail (t : JFields) (rest : List Char) :
    followOK (printFieldsTail t ++ '}' :: rest) = true := by
  cases t <;> simp [printFieldsTail, followOK, isDigit]

theorem followOK_of_isWs {c : Char} (h : isWs c = true) (X : List Char) :
    followOK (c :: X) = true := by
  simp only [isWs, Bool.or_eq_true, decide_eq_true_eq] at h
  rcases h with ((rfl | rfl) | rfl) | rfl <;> simp [followOK, isDigit]

theorem followOK_ws_append : ∀ (w X : List Char), w.all isWs = true → followOK X = true →
    followOK (w ++ X) = true
  | [], _, _, h => h
  | c :: r, _, hw, _ => by
    simp only [List.all_cons, Bool.and_eq_true] at hw
    exact followOK_of_isWs hw.1 _

theorem followOK_ws (w : List Char) (hw : w.all isWs = true) : followOK w = true := by
  simpa using followOK_ws_append w [] hw rfl

/-! ## the reader undoes the writer -/

theorem pField_print (g rem : Nat) (acc : JFields) (k : Str) (v : Json) (S X : List Char)
    (hv : pValue g rem S = .ok (v, X)) :
    pField (g + 1) rem acc (printString k ++ ':' :: S) = pFields g rem (insertF k v acc) X := by
  rw [printString_append]
  exact pField_member g rem acc k v _ _ _ S X (skipWs_cons (by decide) _) (parseChars_print k _)
    (skipWs_cons (by decide) S) hv

mutual
  /-- `pValue` on a printed document (any continuation `rest`, fuel at least the call depth,
      `remaining_depth` above the nesting) -/
  theorem pValue_print : ∀ (d : Json) (f rem : Nat) (rest : List Char),
      ExactNums d = true → SortedKeys d = true → sizeV d ≤ f → depth d < rem →
      followOK rest = true → pValue f rem (printJson d ++ rest) = .ok (d, rest)
    | .null, f, rem, rest, _, _, hf, _, _ => by
      simpa [printJson] using pValue_null_step f rem rest hf
    | .bool b, f, rem, rest, _, _, hf, _, _ => by
      simpa [printJson] using pValue_bool_step f rem b rest hf
    | .num t, f, rem, rest, hn, _, hf, _, hfo => by
      simpa [printJson] using pValue_num_step f rem t rest hf (by simpa [ExactNums] using hn) hfo
    | .str s, f, rem, rest, _, _, hf, _, _ => by
      simpa [printJson, printString] using
        pValue_str_step f rem s _ rest hf (parseChars_print s rest)
    | .arr .nil, f, rem, rest, _, _, hf, hd, _ => by
      simpa [printJson, printItems] using
        pValue_arr_nil f rem _ rest hf hd (skipWs_cons (by decide) rest)
    | .arr (.cons h t), f, rem, rest, hn, hs, hf, hd, _ => by
      simp only [ExactNums, ExactNumsL, SortedKeys, SortedKeysL, sizeV, sizeL, depth, depthL,
        Bool.and_eq_true] at hn hs hf hd
      obtain ⟨g, rfl⟩ : ∃ g, f = g + 1 := ⟨f - 1, by omega⟩
      have hv := pValue_print h g (rem - 1) (printItemsTail t ++ ']' :: rest) hn.1 hs.1 (by omega) (by omega)
        (followOK_itemsTail t rest)
      have ht := pItems_print t g (rem - 1) rest hn.2 hs.2 (by omega) (by omega)
      simpa [printJson, printItems, List.append_assoc] using
        pValue_arr_cons g rem h t _ _ rest (by omega) hv ht
    | .obj .nil, f, rem, rest, _, _, hf, hd, _ => by
      simpa [printJson, printFields] using
        pValue_obj_nil f rem _ rest hf hd (skipWs_cons (by decide) rest)
    | .obj (.cons k v t), f, rem, rest, hn, hs, hf, hd, _ => by
      simp only [ExactNums, ExactNumsF, SortedKeys, SortedKeysF, sizeV, sizeF, depth, depthF,
        Bool.and_eq_true] at hn hs hf hd
      obtain ⟨g, rfl⟩ : ∃ g, f = g + 2 := ⟨f - 2, by omega⟩
      have hv := pValue_print v g (rem - 1) (printFieldsTail t ++ '}' :: rest) hn.1 hs.2.1 (by omega) (by omega)
        (followOK_fieldsTail t rest)
      have ht := pFields_print t g (rem - 1) (.cons k v .nil) rest hn.2 hs.2.2 (by simpa [appF] using hs.1)
        (by omega) (by omega)
      simpa [printJson, printFields, appF, List.append_assoc] using
        pValue_obj_cons (g + 1) rem _ rest _ (by omega)
          ((pField_print g (rem - 1) .nil k v _ _ hv).trans ht)
  theorem pItems_print : ∀ (t : JList) (f rem : Nat) (rest : List Char),
      ExactNumsL t = true → SortedKeysL t = true → sizeT t ≤ f → depthL t < rem →
      pItems f rem (printItemsTail t ++ ']' :: rest) = .ok (t, rest)
    | .nil, f, rem, rest, _, _, hf, _ => by
      simpa [printItemsTail] using pItems_end f rem _ rest hf (skipWs_cons (by decide) rest)
    | .cons h t, f, rem, rest, hn, hs, hf, hd => by
      simp only [ExactNumsL, SortedKeysL, sizeT, depthL, Bool.and_eq_true] at hn hs hf hd
      obtain ⟨g, rfl⟩ : ∃ g, f = g + 1 := ⟨f - 1, by omega⟩
      have hv := pValue_print h g rem (printItemsTail t ++ ']' :: rest) hn.1 hs.1 (by omega) (by omega)
        (followOK_itemsTail t rest)
      have ht := pItems_print t g rem rest hn.2 hs.2 (by omega) (by omega)
      simpa [printItemsTail, List.append_assoc] using
        pItems_comma g rem _ _ _ rest h t (skipWs_cons (by decide) _) hv ht
  theorem pFields_print : ∀ (t : JFields) (f rem : Nat) (acc : JFields) (rest : List Char),
      ExactNumsF t = true → SortedKeysF t = true → sortedF (appF acc t) = true → sizeFT t ≤ f →
      depthF t < rem →
      pFields f rem acc (printFieldsTail t ++ '}' :: rest) = .ok (appF acc t, rest)
    | .nil, f, rem, acc, rest, _, _, _, hf, _ => by
      simpa [printFieldsTail, appF_nil] using
        pFields_end f rem acc _ rest hf (skipWs_cons (by decide) rest)
    | .cons k v t, f, rem, acc, rest, hn, hs, hso, hf, hd => by
      simp only [ExactNumsF, SortedKeysF, sizeFT, depthF, Bool.and_eq_true] at hn hs hf hd
      obtain ⟨g, rfl⟩ : ∃ g, f = g + 2 := ⟨f - 2, by omega⟩
      have hv := pValue_print v g rem (printFieldsTail t ++ '}' :: rest) hn.1 hs.1 (by omega) (by omega)
        (followOK_fieldsTail t rest)
      have ht := pFields_print t g rem (appF acc (.cons k v .nil)) rest hn.2 hs.2
        (by rw [appF_assoc]; simpa [appF] using hso) (by omega) (by omega)
      simp only [printFieldsTail, List.cons_append, List.append_assoc]
      rw [pFields_comma (g + 1) rem acc _ _ (skipWs_cons (by decide) _),
        pField_print g rem acc k v _ _ hv, insertF_sorted k v t acc hso, ht, appF_assoc]
      rfl
end

/-! ## the fuel `parseJsonE` gives is enough -/

theorem printString_length (s : Str) : (printString s).length = (printChars s).length + 2 := by
  simp [printString]

mutual
  theorem sizeV_le : ∀ d : Json, ExactNums d = true → sizeV d ≤ (printJson d).length
    | .null, _ => by simp [sizeV, printJson]
    | .bool b, _ => by cases b <;> simp [sizeV, printJson, boolText]
    | .num t, hn => by
      have := intText_length (t := t) (by simpa [ExactNums] using hn)
      simpa [sizeV, printJson] using this
    | .str s, _ => by simp [sizeV, printJson, printString_length]
    | .arr .nil, _ => by simp [sizeV, sizeL, printJson, printItems]
    | .arr (.cons h t), hn => by
      simp only [ExactNums, ExactNumsL, Bool.and_eq_true] at hn
      have h1 := sizeV_le h hn.1
      have h2 := sizeT_le t hn.2
      simp only [sizeV, sizeL, printJson, printItems, List.length_cons, List.length_append,
        List.length_nil]
      omega
    | .obj .nil, _ => by simp [sizeV, sizeF, printJson, printFields]
    | .obj (.cons k v t), hn => by
      simp only [ExactNums, ExactNumsF, Bool.and_eq_true] at hn
      have h1 := sizeV_le v hn.1
      have h2 := sizeFT_le t hn.2
      simp only [sizeV, sizeF, printJson, printFields, List.length_cons, List.length_append,
        List.length_nil, printString_length]
      omega
  theorem sizeT_le : ∀ t : JList, ExactNumsL t = true → sizeT t ≤ (printItemsTail t).length + 1
    | .nil, _ => by simp [sizeT, printItemsTail]
    | .cons h t, hn => by
      simp only [ExactNumsL, Bool.and_eq_true] at hn
      have h1 := sizeV_le h hn.1
      have h2 := sizeT_le t hn.2
      simp only [sizeT, printItemsTail, List.length_cons, List.length_append]
      omega
  theorem sizeFT_le : ∀ t : JFields, ExactNumsF t = true → sizeFT t ≤ (printFieldsTail t).length + 1
    | .nil, _ => by simp [sizeFT, printFieldsTail]
    | .cons k v t, hn => by
      simp only [ExactNumsF, Bool.and_eq_true] at hn
      have h1 := sizeV_le v hn.1
      have h2 := sizeFT_le t hn.2
      simp only [sizeFT, printFieldsTail, List.length_cons, List.length_append, printString_length]
      omega
end

/-- `from_str` of the compact text, white space before and after it -/
theorem parseJsonE_print (d : Json) (w w' : List Char) (hw : w.all isWs = true)
    (hw' : w'.all isWs = true) (hn : ExactNums d = true) (hs : SortedKeys d = true)
    (hd : depth d < depthLimit) : parseJsonE (w ++ printJson d ++ w') = .ok d := by
  unfold parseJsonE
  rw [List.append_assoc, pValue_skip _ _ w _ hw]
  have hsz := sizeV_le d hn
  rw [pValue_print d _ depthLimit w' hn hs (by simp only [List.length_append]; omega) hd
    (followOK_ws w' hw')]
  simp [skipWs_all w' hw']

/-! ## the normalisation maps into the class -/

mutual
  theorem strLeaves_exactNums : ∀ d : Json, StrLeaves d = true → ExactNums d = true
    | .null, h | .bool _, h | .num _, h => by simp [StrLeaves] at h
    | .str _, _ => rfl
    | .arr l, h => strLeavesL_exactNums l h
    | .obj f, h => strLeavesF_exactNums f h
  theorem strLeavesL_exactNums : ∀ l : JList, StrLeavesL l = true → ExactNumsL l = true
    | .nil, _ => rfl
    | .cons h t, hh => by
      simp only [StrLeavesL, Bool.and_eq_true] at hh
      simp [ExactNumsL, strLeaves_exactNums h hh.1, strLeavesL_exactNums t hh.2]
  theorem strLeavesF_exactNums : ∀ l : JFields, StrLeavesF l = true → ExactNumsF l = true
    | .nil, _ => rfl
    | .cons _ v t, hh => by
      simp only [StrLeavesF, Bool.and_eq_true] at hh
      simp [ExactNumsF, strLeaves_exactNums v hh.1, strLeavesF_exactNums t hh.2]
end

theorem textDoc_iff {d : Json} : TextDoc d ↔ ExactNums d ∧ SortedKeys d := by simp [TextDoc]

theorem stringDoc_iff {d : Json} : StringDoc d ↔ StrLeaves d ∧ SortedKeys d := by simp [StringDoc]

theorem stringDoc_textDoc (d : Json) (h : StringDoc d = true) : TextDoc d = true :=
  have ⟨hl, hs⟩ := stringDoc_iff.1 h
  textDoc_iff.2 ⟨strLeaves_exactNums d hl, hs⟩

theorem keysGt_normF (k : Str) : ∀ f : JFields, keysGt k f = true → keysGt k (normF f) = true
  | .nil, _ => by simp [normF, keysGt]
  | .cons k' v t, h => by
    simp only [keysGt, Bool.and_eq_true] at h
    simp only [normF]
    cases norm v with
    | none => exact keysGt_normF k t h.2
    | some j => simp [keysGt, h.1, keysGt_normF k t h.2]

theorem sortedF_normF : ∀ f : JFields, sortedF f = true → sortedF (normF f) = true
  | .nil, _ => by simp [normF, sortedF]
  | .cons k v t, h => by
    simp only [sortedF, Bool.and_eq_true] at h
    simp only [normF]
    cases norm v with
    | none => exact sortedF_normF t h.2
    | some j => simp [sortedF, keysGt_normF k t h.1, sortedF_normF t h.2]

mutual
  /-- the normalised document has string leaves, is not deeper, and keeps sorted keys sorted -/
  theorem norm_class : ∀ (d j : Json), norm d = some j →
      StrLeaves j = true ∧ depth j ≤ depth d ∧ (SortedKeys d = true → SortedKeys j = true)
    | .null, _, h => by simp [norm] at h
    | .bool _, _, h | .num _, _, h | .str _, _, h => by
      simp only [norm, Option.some.injEq] at h; subst h; simp [StrLeaves, depth, SortedKeys]
    | .arr l, _, h => by
      simp only [norm, Option.some.injEq] at h; subst h
      obtain ⟨h1, h2, h3⟩ := normL_class l
      exact ⟨h1, Nat.add_le_add_left h2 1, h3⟩
    | .obj f, _, h => by
      simp only [norm, Option.some.injEq] at h; subst h
      obtain ⟨h1, h2, h3⟩ := normF_class f
      refine ⟨h1, Nat.add_le_add_left h2 1, fun hs => ?_⟩
      simp only [SortedKeys, Bool.and_eq_true] at hs ⊢
      exact ⟨sortedF_normF f hs.1, h3 hs.2⟩
  theorem normL_class : ∀ l : JList, StrLeavesL (normL l) = true ∧ depthL (normL l) ≤ depthL l ∧
      (SortedKeysL l = true → SortedKeysL (normL l) = true)
    | .nil => by simp [normL, StrLeavesL]
    | .cons h t => by
      obtain ⟨t1, t2, t3⟩ := normL_class t
      cases hh : norm h with
      | none =>
        simp only [normL, hh, depthL, SortedKeysL, Bool.and_eq_true]
        exact ⟨t1, by omega, fun hs => t3 hs.2⟩
      | some j =>
        obtain ⟨h1, h2, h3⟩ := norm_class h j hh
        simp only [normL, hh, StrLeavesL, depthL, SortedKeysL, Bool.and_eq_true]
        exact ⟨⟨h1, t1⟩, by omega, fun hs => ⟨h3 hs.1, t3 hs.2⟩⟩
  theorem normF_class : ∀ l : JFields, StrLeavesF (normF l) = true ∧ depthF (normF l) ≤ depthF l ∧
      (SortedKeysF l = true → SortedKeysF (normF l) = true)
    | .nil => by simp [normF, StrLeavesF]
    | .cons k v t => by
      obtain ⟨t1, t2, t3⟩ := normF_class t
      cases hh : norm v with
      | none =>
        simp only [normF, hh, depthF, SortedKeysF, Bool.and_eq_true]
        exact ⟨t1, by omega, fun hs => t3 hs.2⟩
      | some j =>
        obtain ⟨h1, h2, h3⟩ := norm_class v j hh
        simp only [normF, hh, StrLeavesF, depthF, SortedKeysF, Bool.and_eq_true]
        exact ⟨⟨h1, t1⟩, by omega, fun hs => ⟨h3 hs.1, t3 hs.2⟩⟩
end

theorem normL_strLeaves : ∀ l : JList, StrLeavesL (normL l) = true := fun l => (normL_class l).1
theorem normF_strLeaves : ∀ l : JFields, StrLeavesF (normF l) = true := fun l => (normF_class l).1
theorem normL_depth : ∀ l : JList, depthL (normL l) ≤ depthL l := fun l => (normL_class l).2.1
theorem normF_depth : ∀ l : JFields, depthF (normF l) ≤ depthF l := fun l => (normF_class l).2.1
theorem normL_sortedKeys : ∀ l : JList, SortedKeysL l = true → SortedKeysL (normL l) = true :=
  fun l => (normL_class l).2.2
theorem normF_sortedKeys : ∀ l : JFields, SortedKeysF l = true → SortedKeysF (normF l) = true :=
  fun l => (normF_class l).2.2

end Duck.JsonText
