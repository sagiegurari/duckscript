/-
  One call of each script command with a loop, in the form the property files (C07 / C12 / C19)
  use it: for EVERY instruction budget from the script's bound on (the closed forms of
  Lemmas/ScriptLoop*.lean are stated for the budgets `k + bound`), and with the cached block ends
  named by their literal keys (`"scope::<command>::<line>"`), as the callers state them.
  Each `*_run` gives: the run does not depend on the budget, and what the run leaves.
-/
import DuckModel.Lemmas.ScriptLoopConcat
import DuckModel.Lemmas.ScriptLoopSetFromArray
import DuckModel.Lemmas.ScriptLoopMapContainsValue
import DuckModel.Lemmas.ScriptLoopArrayConcatOk
import DuckModel.Lemmas.ScriptLoopArrayContains
import DuckModel.Lemmas.ScriptLoopArrayJoin

namespace Duck.ScriptRun
open Duck Duck.Alias Duck.Coll Duck.Spec Duck.Generated Duck.Reser

/-- the budget of `runScriptCmd` keeps every loop counter a number `calc` prints exactly -/
theorem lt_two53_of_fuel {n c : Nat} (h : 7 * n + c ≤ scriptFuel) : n < Calc.two53 := by
  have : scriptFuel = 100000 := rfl
  unfold Calc.two53
  omega

theorem concat_run (depth fuel : Nat) (args : List Str) (vars : Vars) (st : ScriptSt)
    (hstale : NoStaleFor cScope st.forStack)
    (hcache : CacheOK st.forMeta "scope::concat::2".toList 4)
    (hempty : args = [] → ∀ l, tget st.coll.tbl ((vars.get cArgs).getD []) ≠ some (.list l))
    (hfuel : 3 * args.length + 6 ≤ fuel) :
    runScriptCmdF (depth + 1) fuel "concat".toList args vars st =
      (.continue (some args.flatten), clear cScope vars, cFinal args st) :=
  (run_of_bound (run := fun n => runScriptCmdF (depth + 1) n "concat".toList args vars st) (P := (· = _))
    ⟨_, fun k => Nat.add_assoc k _ 6 ▸ concat_runF depth k args vars st hstale hcache hempty, rfl⟩ hfuel).2

/-- no argument: nothing is run -/
theorem sfa_run_nil (depth fuel : Nat) (vars : Vars) (st : ScriptSt) :
    runScriptCmdF depth fuel "set_from_array".toList [] vars st = (.error invalidArgsMsg, vars, st) := by
  rw [runScriptCmdF_entry _ _ _ _ _ sfa_findScript sfa_parses, aliasRun_few _ _ _ _ _ _ _ (by decide)]

/-- `set_from_array` with an argument: the run `r` of every budget from the bound on, and the two
    ways it ends -/
theorem sfa_run (depth : Nat) (a : Str) (rest : List Str) (vars : Vars) (st : ScriptSt)
    (hfree : tget st.coll.tbl (Coll.handleName st.coll.next) = none)
    (hfree1 : tget st.coll.tbl (Coll.handleName (st.coll.next + 1)) = none)
    (hne : a ≠ Coll.handleName st.coll.next) (hok : ArgOK a = true)
    (hstale : NoStaleFor sScope st.forStack)
    (hcI : IfCacheOK st.ifMeta "scope::set_from_array::1".toList 3)
    (hcF : CacheOK st.forMeta "scope::set_from_array::6".toList 8) :
    ∃ r, (∀ fuel, 3 * arrLen st.coll.tbl a + 8 ≤ fuel →
        runScriptCmdF (depth + 2) fuel "set_from_array".toList (a :: rest) vars st = r) ∧
      ((∃ L, tget st.coll.tbl a = some (.list L) ∧
        r = (.continue (some (Coll.handleName (st.coll.next + 1))), clear sScope vars, sfaOkFinal (a :: rest) st L)) ∨
       ((∀ l, tget st.coll.tbl a ≠ some (.list l)) ∧
        r = (.error sMsg, clear sScope vars, sfaErrFinal (a :: rest) st))) := by
  refine ⟨_, fun fuel hfuel =>
    (run_of_bound (run := fun n => runScriptCmdF (depth + 2) n "set_from_array".toList (a :: rest) vars st) (P := (· = _))
      ⟨_, fun k => Nat.add_assoc k _ 8 ▸ sfa_runF depth k a rest vars st hfree hfree1 hne hok hstale hcI hcF, rfl⟩ hfuel).2, ?_⟩
  cases hv : tget st.coll.tbl a with
  | none => exact .inr ⟨(fun _ e => nomatch e), rfl⟩
  | some v =>
    cases v with
    | list L => exact .inl ⟨L, rfl, rfl⟩
    | map m => exact .inr ⟨(fun _ e => nomatch e), rfl⟩
    | set x => exact .inr ⟨(fun _ e => nomatch e), rfl⟩
    | other g => exact .inr ⟨(fun _ e => nomatch e), rfl⟩

theorem headIsArray_of_list {t : Table} {a : Str} (rest : List Str) {L : List Item}
    (h : tget t a = some (.list L)) : headIsArray t (a :: rest) = true := by
  simp [headIsArray, h]

theorem headIsArray_of_not {t : Table} {a : Str} (rest : List Str)
    (h : ∀ l, tget t a ≠ some (.list l)) : headIsArray t (a :: rest) = false := by
  show (match tget t a with | some (.list _) => true | _ => false) = false
  split
  · next l hl => exact absurd hl (h l)
  · rfl

theorem mcv_run (depth fuel : Nat) (a v : Str) (rest : List Str) (vars : Vars) (st : ScriptSt)
    (hfree : tget st.coll.tbl (Coll.handleName st.coll.next) = none)
    (hfree1 : tget st.coll.tbl (Coll.handleName (st.coll.next + 1)) = none)
    (hfree2 : tget st.coll.tbl (Coll.handleName (st.coll.next + 2)) = none)
    (hok : ArgOK a = true)
    (hstale : NoStaleFor "scope::map_contains_value".toList st.forStack)
    (hc4 : IfCacheOK st.ifMeta "scope::map_contains_value::4".toList 16)
    (hc12 : IfCacheOK st.ifMeta "scope::map_contains_value::12".toList 14)
    (hc8 : CacheOK st.forMeta "scope::map_contains_value::8".toList 15)
    (hkh : tget st.coll.tbl ((vars.get mKH).getD []) = none)
    (hfuel : 6 * mapLen st.coll.tbl a + 16 ≤ fuel) :
    runScriptCmdF (depth + 2) fuel "map_contains_value".toList (a :: v :: rest) vars st =
      runScriptCmdF (depth + 2) (6 * mapLen st.coll.tbl a + 16) "map_contains_value".toList (a :: v :: rest) vars st ∧
    McvCallPost st vars a v (runScriptCmdF (depth + 2) fuel "map_contains_value".toList (a :: v :: rest) vars st) := by
  obtain ⟨r, hrun, hpost⟩ := mcv_call depth a v rest vars st hfree hfree1 hfree2 hok hstale
    (mcv_keys.1 ▸ hc4) (mcv_keys.2.1 ▸ hc12) (mcv_keys.2.2 ▸ hc8) hkh
  exact run_of_bound (run := fun n => runScriptCmdF (depth + 2) n "map_contains_value".toList (a :: v :: rest) vars st)
    ⟨r, fun k => Nat.add_assoc k _ 16 ▸ hrun k, hpost⟩ hfuel

theorem ac_run (depth fuel : Nat) (a : Str) (rest : List Str) (vars : Vars) (st : ScriptSt)
    (hfree : tget st.coll.tbl (Coll.handleName st.coll.next) = none)
    (hfree1 : tget st.coll.tbl (Coll.handleName (st.coll.next + 1)) = none)
    (hlive : ∀ x ∈ a :: rest, ∃ l, tget st.coll.tbl x = some (.list l))
    (hok : ∀ x ∈ a :: rest, ArgOK x = true)
    (hstale : NoStaleFor "scope::array_concat".toList st.forStack)
    (hc1 : CacheOK st.forMeta "scope::array_concat::1".toList 5)
    (hc2 : IfCacheOK st.ifMeta "scope::array_concat::2".toList 4)
    (hc9 : CacheOK st.forMeta "scope::array_concat::9".toList 13)
    (hc10 : CacheOK st.forMeta "scope::array_concat::10".toList 12)
    (hfuel : 6 * (a :: rest).length + 3 * (acCells st.coll.tbl (a :: rest)).length + 9 ≤ fuel) :
    runScriptCmdF (depth + 2) fuel "array_concat".toList (a :: rest) vars st =
      runScriptCmdF (depth + 2) (6 * (a :: rest).length + 3 * (acCells st.coll.tbl (a :: rest)).length + 9)
        "array_concat".toList (a :: rest) vars st ∧
    ACallPost st vars (a :: rest) (runScriptCmdF (depth + 2) fuel "array_concat".toList (a :: rest) vars st) := by
  obtain ⟨r, hrun, hpost⟩ := ac_call depth a rest vars st hfree hfree1 (fun x hx => ⟨hok x hx, hlive x hx⟩) hstale
    (ac_keys.1 ▸ hc1) (ac_keys.2.1 ▸ hc2) (ac_keys.2.2.1 ▸ hc9) (ac_keys.2.2.2 ▸ hc10)
  have hcost := acCost_eq st.coll.tbl (a :: rest)
  have hB : ∀ k, k + 3 * (a :: rest).length + acCost st.coll.tbl (a :: rest) + 9 =
      k + (6 * (a :: rest).length + 3 * (acCells st.coll.tbl (a :: rest)).length + 9) := fun k => by omega
  exact run_of_bound (run := fun n => runScriptCmdF (depth + 2) n "array_concat".toList (a :: rest) vars st)
    ⟨r, fun k => hB k ▸ hrun k, hpost⟩ hfuel

theorem kc_run (depth fuel : Nat) (a v : Str) (rest : List Str) (vars : Vars) (st : ScriptSt)
    (hfree : tget st.coll.tbl (Coll.handleName st.coll.next) = none)
    (hne : a ≠ Coll.handleName st.coll.next)
    (hstale : NoStaleFor "scope::array_contains".toList st.forStack)
    (hc5 : CacheOK st.forMeta "scope::array_contains::5".toList 14)
    (hc8 : IfCacheOK st.ifMeta "scope::array_contains::8".toList 11)
    (hE : ∀ l, tget st.coll.tbl [] ≠ some (.list l))
    (hlen : arrLen st.coll.tbl a < Calc.two53)
    (hfuel : 7 * arrLen st.coll.tbl a + 12 ≤ fuel) :
    runScriptCmdF (depth + 1) fuel "array_contains".toList (a :: v :: rest) vars st =
      runScriptCmdF (depth + 1) (7 * arrLen st.coll.tbl a + 12) "array_contains".toList (a :: v :: rest) vars st ∧
    KCallPost st vars a v (runScriptCmdF (depth + 1) fuel "array_contains".toList (a :: v :: rest) vars st) := by
  obtain ⟨r, hrun, hpost⟩ := kc_call depth a v rest vars st hfree hne hstale
    (kc_keys.1 ▸ hc5) (kc_keys.2 ▸ hc8) hE hlen
  exact run_of_bound (run := fun n => runScriptCmdF (depth + 1) n "array_contains".toList (a :: v :: rest) vars st)
    ⟨r, fun k => Nat.add_assoc k _ 12 ▸ hrun k, hpost⟩ hfuel

theorem aj_run (depth fuel : Nat) (a sep : Str) (rest : List Str) (vars : Vars) (st : ScriptSt)
    (hfree : tget st.coll.tbl (Coll.handleName st.coll.next) = none)
    (hfree1 : tget st.coll.tbl (Coll.handleName (st.coll.next + 1)) = none)
    (hne : a ≠ Coll.handleName st.coll.next)
    (hok : ArgOK a = true) (hsepOK : ArgOK sep = true)
    (hstale : NoStaleFor "scope::array_join".toList st.forStack)
    (hc1 : IfCacheOK st.ifMeta "scope::array_join::1".toList 3)
    (hc5 : IfCacheOK st.ifMeta "scope::array_join::5".toList 16)
    (hc10 : IfCacheOK st.ifMeta "scope::array_join::10".toList 15)
    (hc6 : CacheOK st.forMeta "scope::array_join::6".toList 8)
    (hstr : vars.get jString = none)
    (hsize : ∀ l, tget st.coll.tbl a = some (.list l) →
      (utf8Encode (joinStr sep (l.map Item.render))).length + (utf8Encode sep).length < Calc.two53)
    (hfuel : 3 * arrLen st.coll.tbl a + 16 ≤ fuel) :
    runScriptCmdF (depth + 3) fuel "array_join".toList (a :: sep :: rest) vars st =
      runScriptCmdF (depth + 3) (3 * arrLen st.coll.tbl a + 16) "array_join".toList (a :: sep :: rest) vars st ∧
    JCallPost st vars a sep (runScriptCmdF (depth + 3) fuel "array_join".toList (a :: sep :: rest) vars st) := by
  obtain ⟨r, hrun, hpost⟩ := aj_call depth a sep rest vars st hfree hfree1 hne hok hsepOK hstale
    (aj_keys.1 ▸ hc1) (aj_keys.2.1 ▸ hc5) (aj_keys.2.2.1 ▸ hc10) (aj_keys.2.2.2 ▸ hc6) hstr
    (fun l hl => aj_size sep _ (hsize l hl))
  exact run_of_bound (run := fun n => runScriptCmdF (depth + 3) n "array_join".toList (a :: sep :: rest) vars st)
    ⟨r, fun k => Nat.add_assoc k _ 16 ▸ hrun k, hpost⟩ hfuel

end Duck.ScriptRun
