/-
  A body that calls another script command: the nested wrapper clears its own prefix in the same
  variable map (two `clear`s commute, the published arguments are not under the other prefix) and
  puts and removes its own temporary argument array (`mieSt`).
-/
import DuckModel.Lemmas.ScriptRunLemmas

namespace Duck.ScriptRun
open Duck Duck.Alias Duck.Coll Duck.Spec

theorem clear_comm (A B : Str) (m : Vars) : clear A (clear B m) = clear B (clear A m) := by
  unfold clear
  rw [List.filter_filter, List.filter_filter]
  apply List.filter_congr
  intro p _
  exact Bool.and_comm _ _

theorem clear_erase_comm (scope : Str) (m : Vars) (k : Str) : clear scope (Vars.erase m k) = Vars.erase (clear scope m) k := by
  unfold clear Vars.erase
  rw [List.filter_filter, List.filter_filter]
  apply List.filter_congr
  intro p _
  exact Bool.and_comm _ _

theorem get_publishArgs_other (scope : Str) (args : List Str) (i : Nat) (m : Vars) (k : Str)
    (h : ∀ j, k ≠ argKey scope j) : Vars.get (publishArgs scope i args m) k = Vars.get m k := by
  induction args generalizing i m with
  | nil => rfl
  | cons a rest ih =>
    simp only [publishArgs]
    rw [ih, get_set, if_neg (h _)]

/-- the state a nested `*_is_empty X` leaves: its temporary argument array put and removed
    again, one allocator name drawn -/
def mieSt (s : ScriptSt) (X : Str) : ScriptSt :=
  { s with coll := { tbl := tremove (tinsert s.coll.tbl (Coll.handleName s.coll.next) (.list [.str X]))
                            (Coll.handleName s.coll.next),
                     next := s.coll.next + 1 } }

theorem tget_mieSt (s : ScriptSt) (X k : Str) (hfree : tget s.coll.tbl (Coll.handleName s.coll.next) = none) :
    tget (mieSt s X).coll.tbl k = tget s.coll.tbl k := by
  simp only [mieSt, tget_tremove, tget_tinsert]
  by_cases e : k = Coll.handleName s.coll.next
  · simp [e, hfree]
  · simp [e]

end Duck.ScriptRun
