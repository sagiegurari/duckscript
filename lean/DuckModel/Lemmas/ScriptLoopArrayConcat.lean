/-
  `array_concat` (std/collections/array_concat/script.ds) run from source: the script written
  down (its three `for … in` blocks, its variables, the keys of its flow lines), and the FIRST
  iteration of its validation loop for every input whose first argument names no array - the run
  answers `Error` from inside `for … in` and leaves the loop's for-in entry on the call stack
  (finding C12-array-concat-after-error, for every such input).
  Exports `ac_runF_err` (that call in closed form, end state `acErrSt`), `ac_entry`, `ac_keys`; the
  script (`acIs`, `ac_block1/9/10`, `aNe`, `acVars`) is used by ScriptLoopArrayConcatOk.lean.
  Conventions: Lemmas/ScriptLoopShared.lean.
-/
import DuckModel.Lemmas.ScriptLoopShared

namespace Duck.ScriptRun
open Duck Duck.Alias Duck.Coll Duck.Spec Duck.Generated Duck.Reser

attribute [local irreducible] tremove tinsert

def aScope : Str := "scope::array_concat".toList
def aArg : Str := "scope::array_concat::arg".toList
def aArgs : Str := "scope::array_concat::arguments".toList
def aArray : Str := "scope::array_concat::array".toList
def aItem : Str := "scope::array_concat::item".toList

inductive AcVar | arg | args | array | item
deriving DecidableEq

@[reducible] def AcVar.name : AcVar → Str
  | .arg => aArg | .args => aArgs | .array => aArray | .item => aItem

def AcVar.all : List AcVar := [.arg, .args, .array, .item]

def acIs : List Instruction :=
  [emptyI 1,
   mkI 2 none "for" (some [[.lit aArg], [.lit "in".toList], [.var aArgs]]),
   mkI 3 none "if" (some [[.lit "not".toList], [.lit "is_array".toList], [.var aArg]]),
   mkI 4 none "trigger_error" (some [[.lit sMsg]]),
   mkI 5 none "end" none,
   mkI 6 none "end" none,
   emptyI 7,
   mkI 8 (some aArray) "array" none,
   emptyI 9,
   mkI 10 none "for" (some [[.lit aArg], [.lit "in".toList], [.var aArgs]]),
   mkI 11 none "for" (some [[.lit aItem], [.lit "in".toList], [.var aArg]]),
   mkI 12 none "array_push" (some [[.var aArray], [.var aItem]]),
   mkI 13 none "end" none,
   mkI 14 none "end" none,
   emptyI 15,
   mkI 16 none "set" (some [[.var aArray]])]

def aKey (n : Nat) : Str := aScope ++ "::".toList ++ natToStr n

theorem aKey_eq (n : Nat) : aKey n = lineKey aScope n := rfl

theorem ac_table :
    parsesTo cmd_collections_array_concat.script acIs = true ∧
    findsTo forTables acIs (1 + 1) [] 5 = true ∧ findsTo ifTables acIs (2 + 1) [] 4 = true ∧
    findsTo forTables acIs (9 + 1) [] 13 = true ∧ findsTo forTables acIs (10 + 1) [] 12 = true ∧
    ((AcVar.all.map AcVar.name).Pairwise (· ≠ ·) ∧
      ∀ a ∈ AcVar.all, underPrefix aScope a.name = true ∧ ∀ o ∈ [], underPrefix o a.name = false) ∧
    (aKey 1 = "scope::array_concat::1".toList ∧ aKey 2 = "scope::array_concat::2".toList ∧
      aKey 9 = "scope::array_concat::9".toList ∧ aKey 10 = "scope::array_concat::10".toList) ∧
    aArgs = argsKey aScope ∧ (LitOK aArg ∧ KeyOK aArgs) ∧ (LitOK aItem ∧ KeyOK aArg) := by
  decide +kernel

theorem ac_parses : parseText cmd_collections_array_concat.script = .ok acIs := parsesTo_eq ac_table.1
theorem ac_findIf : findCommands ifTables acIs (2 + 1) = .ok ⟨[], 4⟩ := findsTo_eq ac_table.2.2.1
theorem acVars : Names aScope [] AcVar.name :=
  Names.of_list _ _ _ AcVar.all (fun a => by cases a <;> decide) ac_table.2.2.2.2.2.1

theorem aNe (a b : AcVar) (h : a ≠ b := by decide) : a.name ≠ b.name := acVars.ne h
theorem ac_findScript : findScript "array_concat".toList = some cmd_collections_array_concat := findScript_of_resolve rs_array_concat

theorem ac_keys : aKey 1 = "scope::array_concat::1".toList ∧ aKey 2 = "scope::array_concat::2".toList ∧
    aKey 9 = "scope::array_concat::9".toList ∧ aKey 10 = "scope::array_concat::10".toList :=
  ac_table.2.2.2.2.2.2.1

/-- the argument templates of the lines 2, 3, 11, 15, in that order, are in the class the expansion
    lemmas cover -/
theorem ac_args :
    ArgsOK [[.lit "not".toList], [.lit "is_array".toList], [.var aArg]] ∧ ArgsOK [[.lit sMsg]] ∧
    ArgsOK [[.var aArray], [.var aItem]] ∧ ArgsOK [[.var aArray]] := by
  decide +kernel

/-- the validation loop, the outer and the inner loop -/
theorem ac_block1 : ForBlock acIs 1 5 aArg aArgs :=
  ⟨⟨_, rfl⟩, ⟨_, rfl⟩, ac_table.2.2.2.2.2.2.2.2.1, aNe .args .arg, findsTo_eq ac_table.2.1⟩
theorem ac_block9 : ForBlock acIs 9 13 aArg aArgs :=
  ⟨⟨_, rfl⟩, ⟨_, rfl⟩, ac_table.2.2.2.2.2.2.2.2.1, aNe .args .arg, findsTo_eq ac_table.2.2.2.1⟩
theorem ac_block10 : ForBlock acIs 10 12 aItem aArg :=
  ⟨⟨_, rfl⟩, ⟨_, rfl⟩, ac_table.2.2.2.2.2.2.2.2.2, aNe .arg .item, findsTo_eq ac_table.2.2.2.2.1⟩

theorem ac_entry (depth fuel : Nat) (args : List Str) (vars : Vars) (st : ScriptSt) :
    runScriptCmdF depth fuel "array_concat".toList args vars st =
      aliasRun handleOps 0 (scriptBody (bodySem fuel depth acIs) (fun _ => false) fuel acIs) aScope args vars st :=
  runScriptCmdF_entry depth fuel _ _ _ ac_findScript ac_parses args vars st

/-- the variable the wrapper publishes the handle of the argument array under -/
theorem ac_pubVars_args (args : List Str) (vars : Vars) (st : ScriptSt) :
    Vars.get (pubVars aScope args vars st) aArgs = some (Coll.handleName st.coll.next) := by
  unfold pubVars
  rw [get_set, if_pos ac_table.2.2.2.2.2.2.2.1]

/-- the arguments of line 2, `if not is_array ${arg}` -/
theorem ac_if_args {vars : Vars} {X : Str} (hvA : vars.get aArg = some X) :
    bind vars ((some [[Seg.lit "not".toList], [Seg.lit "is_array".toList], [Seg.var aArg]]).map fun a => a.map renderTemplate) =
      ["not".toList, "is_array".toList, X] :=
  bind_eq ac_args.1 (by simp only [List.map, tmplValue_lit, tmplValue_var, hvA, Option.getD_some])

/-- the state the body is left in when the first argument names no array -/
def acErrSt (s : ScriptSt) : ScriptSt :=
  { s with
    forMeta := forMetaAfter s.forMeta (flowKey s 1) 5,
    ifMeta := ifMetaAfter s.ifMeta (flowKey s 2) 4,
    endTable := (s.endTable.put (flowKey s 5) fullNameEndForIn).put (flowKey s 4) fullNameEndIf,
    forStack := { iteration := 1, start := 1, stop := 5, ctx := s.ctx } :: s.forStack,
    ifStack := ifEntry 2 4 s.ctx :: s.ifStack }

/-- the body when the first cell of the argument array names no array: 4 instructions, `Error`
    raised inside the loop, the for-in entry (iteration 1) and the if-call entry stay -/
theorem ac_body_err (F d : Nat) (s : ScriptSt) (vars : Vars) (hA X : Str) (rest : List Item) (hX : ArgOK X = true)
    (hctx : s.ctx = aScope) (hv : vars.get aArgs = some hA)
    (hL : tget s.coll.tbl hA = some (.list (.str X :: rest)))
    (hstale : NoStaleFor aScope s.forStack)
    (hcF : CacheOK s.forMeta (aKey 1) 5) (hcI : IfCacheOK s.ifMeta (aKey 2) 4)
    (hnl : ∀ l, tget s.coll.tbl X ≠ some (.list l)) :
    Ends (F + 2) (d + 2) acIs 4 ⟨0, none, vars, s⟩ (.error sMsg, vars.set aArg X, acErrSt s) := by
  have henter := ac_block1.enter_pop (F := F + 2) (d := d + 1) (fo := none) (vars := vars) hctx (popFor_noStale 1 aScope _ hstale) hcF
  have hnext : nextIteration (forSt s 1 5) hA 0 = some X := by simp [nextIteration, forSt, hL, Item.render]
  simp only [forNext, hv, Option.getD_some, hnext] at henter
  have hif := Steps.if_not_is_array_other (F := F) (d := d) (fo := none) (vars := vars.set aArg X)
    (s := { forSt s 1 5 with forStack := ⟨0 + 1, 1, 5, (forSt s 1 5).ctx⟩ :: s.forStack }) (is := acIs) (line := 2) rfl
    (ac_if_args (by rw [get_set, if_pos rfl])) hX ac_findIf hctx hcI hnl
  refine Ends.step (Steps.skip rfl) (Ends.step henter (Ends.step hif ?_))
  exact Ends.native_error (vals := [sMsg]) rfl rs_trigger (bind_eq ac_args.2.1 rfl) rfl

/-- the whole call: first argument names no array -/
theorem ac_runF_err (depth fuel : Nat) (a : Str) (rest : List Str) (vars : Vars) (st : ScriptSt)
    (hne : a ≠ Coll.handleName st.coll.next) (hok : ArgOK a = true)
    (hnl : ∀ l, tget st.coll.tbl a ≠ some (.list l))
    (hstale : NoStaleFor aScope st.forStack)
    (hcF : CacheOK st.forMeta "scope::array_concat::1".toList 5)
    (hcI : IfCacheOK st.ifMeta "scope::array_concat::2".toList 4) :
    runScriptCmdF (depth + 2) (fuel + 4) "array_concat".toList (a :: rest) vars st =
      (.error sMsg, clear aScope vars,
        { acErrSt (pubSt aScope (a :: rest) st) with
          coll := { tbl := tremove (pubSt aScope (a :: rest) st).coll.tbl (Coll.handleName st.coll.next),
                    next := st.coll.next + 1 },
          ctx := st.ctx }) := by
  have hL : tget (pubSt aScope (a :: rest) st).coll.tbl (Coll.handleName st.coll.next) =
      some (.list (.str a :: rest.map .str)) := by
    simp only [pubSt, tget_tinsert, if_true, List.map_cons]
  have hbody := ac_body_err (fuel + 2) depth (pubSt aScope (a :: rest) st) (pubVars aScope (a :: rest) vars st)
    (Coll.handleName st.coll.next) a (rest.map .str) hok rfl (ac_pubVars_args _ vars st) hL hstale
    (ac_keys.1 ▸ hcF) (ac_keys.2.1 ▸ hcI)
    (by intro l
        simp only [pubSt, tget_tinsert]
        rw [if_neg hne]; exact hnl l)
  rw [ac_entry, aliasRun_handleOps 0 _ aScope (a :: rest) vars st (by simp) (by simp) _ _ _ (hbody.body fuel)
    (clear_set_under _ _ _ _ (acVars.under .arg))]
  rfl

end Duck.ScriptRun
