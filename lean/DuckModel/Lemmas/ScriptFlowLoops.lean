/-
  A `for … in` block that is LEFT THROUGH ITS `for` LINE (no iteration stops the run): the exact
  number of instructions from the `for` line to the line behind the block's `end`.  An iteration
  over the cell `x` costs `cb x` instructions for the body, one for the `end` and one for the `for`
  line; the cost may differ from cell to cell (a block inside the body).  `ForBlock.run` enters
  the block by `ForBlock.enter_pop`, so also when an entry of the same script is on top of the
  for-in stack (the entry of the enclosing block).
-/
import DuckModel.Lemmas.ScriptFlowSteps

namespace Duck.ScriptRun
open Duck Duck.Alias Duck.Coll Duck.Spec Duck.Generated Duck.Reser

section
variable {F d : Nat} {is : List Instruction} {a b : Nat} {v hv : Str} {fo : Option Str} {vars : Vars} {s : ScriptSt}

theorem drop_of_getElem? {α : Type} {L : List α} {i : Nat} {x : α} (h : L[i]? = some x) :
    L.drop i = x :: L.drop (i + 1) := by
  obtain ⟨hi, rfl⟩ := List.getElem?_eq_some_iff.mp h
  exact List.drop_eq_getElem_cons hi

/-- instructions of the iterations over the cells `L`, `cb x` for the body of the one over `x` -/
def loopCost (cb : Item → Nat) : List Item → Nat
  | [] => 0
  | x :: r => cb x + 2 + loopCost cb r

theorem loopCost_const (c : Nat) (L : List Item) : loopCost (fun _ => c) L = (c + 2) * L.length := by
  induction L with
  | nil => rfl
  | cons x r ih => simp only [loopCost, ih, List.length_cons, Nat.mul_add_one]; omega

/-- The iterations that are left, none of which stops the run: from the first body line to the
    line behind the block.  `J` as in `ForBlock.loop`. -/
theorem ForBlock.loop_steps (hB : ForBlock is a b v hv) {scope X : Str} {L : List Item} {fs : List ForCall}
    (J : Nat → Vars → ScriptSt → Prop) (F0 : Nat) (cb : Item → Nat)
    (stableV : ∀ i vars s y, J i vars s → J i (vars.set v y) s)
    (stableS : ∀ i vars s st, J i vars s → J i vars { s with forStack := st })
    (body : ∀ i x vars s fo, L[i]? = some x → LoopSt scope b hv X L vars s → s.forStack = ⟨i + 1, a, b, scope⟩ :: fs →
      vars.get v = some x.render → J i vars s →
      ∃ fo' vars' s', (∀ G, Steps (G + F0) (d + 1) is (cb x) ⟨a + 1, fo, vars, s⟩ ⟨b, fo', vars', s'⟩) ∧
        LoopSt scope b hv X L vars' s' ∧ s'.forStack = s.forStack ∧ J (i + 1) vars' s') :
    ∀ n i x vars s fo, i + n + 1 = L.length → L[i]? = some x → LoopSt scope b hv X L vars s →
      s.forStack = ⟨i + 1, a, b, scope⟩ :: fs → vars.get v = some x.render → J i vars s →
      ∃ vars' s', (∀ G, Steps (G + F0) (d + 1) is (loopCost cb (L.drop i)) ⟨a + 1, fo, vars, s⟩ ⟨b + 1, none, vars', s'⟩) ∧
        LoopSt scope b hv X L vars' s' ∧ s'.forStack = fs ∧ J L.length vars' s' := by
  intro n
  induction n with
  | zero =>
    intro i x vars s fo hn hx hS hfs hv' hJ
    obtain ⟨fo', vars', s', hst, hS', hfs', hJ'⟩ := body i x vars s fo hx hS hfs hv' hJ
    have hback := fun G => hB.back (F := G + F0) (d := d) (fo := fo') (vars := vars') hS'.ctx hS'.endT (hfs'.trans hfs)
    have hnone : L[i + 1]? = none := List.getElem?_eq_none (by omega)
    simp only [forNext, hS'.handle, hS'.next, hnone, Option.map_none] at hback
    have hdrop : L.drop i = [x] := by rw [drop_of_getElem? hx, List.drop_eq_nil_of_le (by omega)]
    refine ⟨vars', { s' with forStack := fs }, fun G => ((hst G).trans (hback G)).of_eq (by simp [hdrop, loopCost]; omega),
      ⟨hS'.ctx, hS'.endT, hS'.handle, hS'.cells⟩, rfl, ?_⟩
    rw [show L.length = i + 1 by omega]; exact stableS _ _ _ _ hJ'
  | succ n ih =>
    intro i x vars s fo hn hx hS hfs hv' hJ
    obtain ⟨fo', vars', s', hst, hS', hfs', hJ'⟩ := body i x vars s fo hx hS hfs hv' hJ
    have hback := fun G => hB.back (F := G + F0) (d := d) (fo := fo') (vars := vars') hS'.ctx hS'.endT (hfs'.trans hfs)
    obtain ⟨y, hy⟩ : ∃ y, L[i + 1]? = some y := ⟨L[i + 1]'(by omega), List.getElem?_eq_getElem _⟩
    simp only [forNext, hS'.handle, hS'.next, hy, Option.map_some] at hback
    obtain ⟨vars2, s2, hrun, hpost⟩ := ih (i + 1) y (vars'.set v y.render)
      { s' with forStack := ⟨i + 1 + 1, a, b, s'.ctx⟩ :: fs } none (by omega) hy
      ⟨hS'.ctx, hS'.endT, by rw [get_set, if_neg hB.ne]; exact hS'.handle, hS'.cells⟩ (by rw [hS'.ctx])
      (by rw [get_set, if_pos rfl]) (stableS _ _ _ _ (stableV _ _ _ _ hJ'))
    exact ⟨vars2, s2, fun G => (((hst G).trans (hback G)).trans (hrun G)).of_eq
      (by simp [drop_of_getElem? hx, loopCost]; omega), hpost⟩

/-- The whole block, from its `for` line: the handle variable names the array `L`, no iteration
    stops the run.  `J 0` is asked of the state in which the `for` line has looked its block up. -/
theorem ForBlock.run (hB : ForBlock is a b v hv) {scope X : Str} {L : List Item}
    (J : Nat → Vars → ScriptSt → Prop) (F0 : Nat) (cb : Item → Nat)
    (stableV : ∀ i vars s y, J i vars s → J i (vars.set v y) s)
    (stableS : ∀ i vars s st, J i vars s → J i vars { s with forStack := st })
    (body : ∀ i x vars' s' fo, L[i]? = some x → LoopSt scope b hv X L vars' s' →
      s'.forStack = ⟨i + 1, a, b, scope⟩ :: s.forStack → vars'.get v = some x.render → J i vars' s' →
      ∃ fo' vars2 s2, (∀ G, Steps (G + F0) (d + 1) is (cb x) ⟨a + 1, fo, vars', s'⟩ ⟨b, fo', vars2, s2⟩) ∧
        LoopSt scope b hv X L vars2 s2 ∧ s2.forStack = s'.forStack ∧ J (i + 1) vars2 s2)
    (hctx : s.ctx = scope) (hpop : popFor a scope false s.forStack = (none, s.forStack))
    (hc : CacheOK s.forMeta (lineKey scope a) b) (hX : (vars.get hv).getD [] = X) (hL : tget s.coll.tbl X = some (.list L))
    (hJ : J 0 vars (forSt s a b)) :
    ∃ vars' s', (∀ G, Steps (G + F0) (d + 1) is (loopCost cb L + 1) ⟨a, fo, vars, s⟩ ⟨b + 1, none, vars', s'⟩) ∧
      LoopSt scope b hv X L vars' s' ∧ s'.forStack = s.forStack ∧ J L.length vars' s' := by
  have henter := fun G => hB.enter_pop (F := G + F0) (d := d) (fo := fo) (vars := vars) hctx hpop hc
  have hS0 : LoopSt scope b hv X L vars (forSt s a b) := ⟨hctx, forSt_endT hctx a b, hX, hL⟩
  simp only [forNext, hX, hS0.next] at henter
  cases L with
  | nil =>
    exact ⟨vars, { forSt s a b with forStack := s.forStack }, fun G => henter G,
      ⟨hctx, hS0.endT, hX, hL⟩, rfl, stableS _ _ _ _ hJ⟩
  | cons x r =>
    simp only [List.getElem?_cons_zero, Option.map_some] at henter
    obtain ⟨vars', s', hrun, hpost⟩ := hB.loop_steps (d := d) (fs := s.forStack) J F0 cb stableV stableS
      body r.length 0 x (vars.set v x.render)
      { forSt s a b with forStack := ⟨0 + 1, a, b, (forSt s a b).ctx⟩ :: s.forStack } none (by simp) rfl
      ⟨hctx, hS0.endT, by rw [get_set, if_neg hB.ne]; exact hX, hL⟩ (by rw [show (forSt s a b).ctx = scope from hctx])
      (by rw [get_set, if_pos rfl]) (stableS _ _ _ _ (stableV _ _ _ _ hJ))
    exact ⟨vars', s', fun G => (henter G).trans (hrun G), hpost⟩

end

end Duck.ScriptRun
