/-
  The tree run is followed by the goto-machine — layout of the block statements (`flatten_*`, the
  line after a statement), the else-lines of an if chain (`elseOffsets.go`), list and boolean
  facts, the inclusion simple ⊆ simple2.  `SimCore` is the outcome of a simulated piece for programs
  without functions: the case `F` empty of `SimCoreF` (Lemmas/SimFnDefs.lean), kept for its
  statement; the simulation itself is stated with `SimCoreF` only.
-/
import DuckModel.Lemmas.SimFlow

namespace Duck
open Duck.Spec Duck.Generated

/-! ### the stack-independent part of the simulation outcome -/

/-- the fields of the machine state that are not call stacks -/
def coreOf (s : Sdk) :=
  (s.ifMeta, s.whileMeta, s.forMeta, s.endTable, s.fns, s.handles, s.nextHandle, s.lineCtx, s.emitted)

/-- after running a piece of program written on lines `[lo, hi)` that assigns only variables in `A` -/
structure SimCore (is : List Instruction) (lo hi : Nat) (A : Str → Bool) (s : Sdk) (t t' : TState)
    (s' : Sdk) : Prop where
  cache : CacheOK is s'
  rel : Rel s' t'
  frame : Frame lo hi s s'
  mono : ∀ k l, t.sdk.handles.get k = some l → t'.sdk.handles.get k = some l
  varsF : ∀ x, A x = false → t'.vars.get x = t.vars.get x

theorem CacheOK.core {is : List Instruction} {s s' : Sdk} (h : CacheOK is s)
    (he : coreOf s' = coreOf s) : CacheOK is s' := by
  simp only [coreOf, Prod.mk.injEq] at he
  obtain ⟨h1, h2, h3, _, _, _, _, h8, _⟩ := he
  exact h.of_eq h1 h2 h3 h8

/-- a flow line that evaluated its condition (which may have appended to `emitted`), possibly
    filled caches and possibly registered an end command inside `[lo, hi)` -/
theorem SimCore.condStep {is : List Instruction} {lo hi : Nat} {A : Str → Bool} {s s' : Sdk} {t : TState}
    {em : List (List Str)} (hc : CacheOK is s') (hr : Rel s t)
    (h1 : s'.handles = s.handles) (h2 : s'.nextHandle = s.nextHandle) (h3 : s'.emitted = em)
    (h4 : s'.fns = s.fns) (h5 : s'.lineCtx = s.lineCtx)
    (h6 : ∀ l, (l < lo ∨ hi ≤ l) → s'.endTable.get (lineKey s l) = s.endTable.get (lineKey s l)) :
    SimCore is lo hi A s t (withEm t em) s' :=
  ⟨hc, ⟨h1.trans hr.handles, h2.trans hr.next, h3, h4.trans hr.sfns, hr.tsfns, hr.tfns, hr.hok⟩,
    ⟨h6, h4, h5⟩, fun _ _ h => h, fun _ _ => rfl⟩

theorem endT_put_ne (s : Sdk) (stop l : Nat) (name : Str) (h : l ≠ stop) :
    (s.endTable.put (lineKey s stop) name).get (lineKey s l) = s.endTable.get (lineKey s l) := by
  rw [KV.get_put_ne]
  intro e
  exact h (lineKey_inj e).symm

/-- an opener: the caches were (correctly) filled and the end table got the entry of line `stop` -/
theorem SimCore.opener {is : List Instruction} {lo hi : Nat} {A : Str → Bool} {s s' : Sdk} {t : TState}
    {em : List (List Str)}
    (stop : Nat) (name : Str) (hc : CacheOK is s') (hr : Rel s t)
    (h1 : s'.handles = s.handles) (h2 : s'.nextHandle = s.nextHandle) (h3 : s'.emitted = em)
    (h4 : s'.fns = s.fns) (h5 : s'.lineCtx = s.lineCtx)
    (h6 : s'.endTable = s.endTable.put (lineKey s stop) name) (hlo : lo ≤ stop) (hhi : stop < hi) :
    SimCore is lo hi A s t (withEm t em) s' :=
  SimCore.condStep hc hr h1 h2 h3 h4 h5
    (fun l hl => by rw [h6]; exact endT_put_ne s stop l name (by omega))

theorem Rel.withEm {s s' : Sdk} {t : TState} (em : List (List Str)) (h : Rel s t)
    (h1 : s'.handles = s.handles) (h2 : s'.nextHandle = s.nextHandle) (h3 : s'.emitted = em)
    (h4 : s'.fns = s.fns) : Rel s' (withEm t em) :=
  ⟨h1.trans h.handles, h2.trans h.next, h3, h4.trans h.sfns, h.tsfns, h.tfns, h.hok⟩

/-! ### layout -/

/-- the else part of an if chain as script lines -/
def elseFlat (kwElse : Option Str) (elseBody : Block) : List ScriptInstr :=
  match kwElse with
  | some k => mkInstr none k [] :: elseBody.flatten
  | none => []

/-- everything of an if chain from an else-line on -/
def tailFlat (es : Elifs) (kwElse : Option Str) (elseBody : Block) (kwEnd : Str) : List ScriptInstr :=
  es.flatten ++ (elseFlat kwElse elseBody ++ [mkInstr none kwEnd []])

theorem flatten_if (kwIf : Str) (cond : List Str) (body : Block) (elifs : Elifs) (kwElse : Option Str)
    (elseBody : Block) (kwEnd : Str) :
    (Stmt.ifChain kwIf cond body elifs kwElse elseBody kwEnd).flatten =
      mkInstr none kwIf cond :: (body.flatten ++ tailFlat elifs kwElse elseBody kwEnd) := by
  cases kwElse <;> simp [Stmt.flatten, tailFlat, elseFlat, List.append_assoc]

theorem tailFlat_nil_none (elseBody : Block) (kwEnd : Str) :
    tailFlat .nil none elseBody kwEnd = [mkInstr none kwEnd []] := by
  simp [tailFlat, elseFlat, Elifs.flatten]

theorem tailFlat_nil_some (k : Str) (elseBody : Block) (kwEnd : Str) :
    tailFlat .nil (some k) elseBody kwEnd =
      mkInstr none k [] :: (elseBody.flatten ++ [mkInstr none kwEnd []]) := by
  simp [tailFlat, elseFlat, Elifs.flatten]

theorem tailFlat_cons (kw : Str) (cond : List Str) (body : Block) (rest : Elifs) (kwElse : Option Str)
    (elseBody : Block) (kwEnd : Str) :
    tailFlat (.cons kw cond body rest) kwElse elseBody kwEnd =
      mkInstr none kw cond :: (body.flatten ++ tailFlat rest kwElse elseBody kwEnd) := by
  simp [tailFlat, Elifs.flatten, List.append_assoc]

theorem flatten_while (kw : Str) (cond : List Str) (body : Block) (kwEnd : Str) :
    (Stmt.whileLoop kw cond body kwEnd).flatten =
      mkInstr none kw cond :: (body.flatten ++ [mkInstr none kwEnd []]) := by
  simp only [Stmt.flatten]

theorem flatten_for (kw x handle : Str) (body : Block) (kwEnd : Str) :
    (Stmt.forIn kw x handle body kwEnd).flatten =
      mkInstr none kw [x, "in".toList, handle] :: (body.flatten ++ [mkInstr none kwEnd []]) := by
  simp only [Stmt.flatten]

/-- the line after a block statement that starts on line `lo` -/
theorem hi_while (lo : Nat) (kw : Str) (cond : List Str) (body : Block) (kwEnd : Str) :
    lo + (Stmt.whileLoop kw cond body kwEnd).flatten.length = lo + 1 + body.flatten.length + 1 := by
  simp only [flatten_while, List.length_cons, List.length_append, List.length_nil]
  omega

theorem hi_for (lo : Nat) (kw x handle : Str) (body : Block) (kwEnd : Str) :
    lo + (Stmt.forIn kw x handle body kwEnd).flatten.length = lo + 1 + body.flatten.length + 1 := by
  simp only [flatten_for, List.length_cons, List.length_append, List.length_nil]
  omega

/-- the absolute else-lines of the rest of a chain that starts on line `pos` -/
theorem go_nil_none (pos : Nat) : elseOffsets.go pos .nil none = [] := rfl
theorem go_nil_some (pos : Nat) (k : Str) : elseOffsets.go pos .nil (some k) = [pos] := rfl
theorem go_cons (pos : Nat) (kw : Str) (cond : List Str) (b : Block) (rest : Elifs) (kwElse : Option Str) :
    elseOffsets.go pos (.cons kw cond b rest) kwElse =
      pos :: elseOffsets.go (pos + 1 + b.flatten.length) rest kwElse := rfl

theorem go_head (pos : Nat) (es : Elifs) (kwElse : Option Str) (a : Nat) (tl : List Nat)
    (h : elseOffsets.go pos es kwElse = a :: tl) : a = pos := by
  cases es with
  | nil =>
    cases kwElse with
    | none => simp [go_nil_none] at h
    | some k => simp [go_nil_some] at h; exact h.1.symm
  | cons _ _ _ _ => simp [go_cons] at h; exact h.1.symm

theorem go_nil_inv (pos : Nat) (es : Elifs) (kwElse : Option Str)
    (h : elseOffsets.go pos es kwElse = []) : es = .nil ∧ kwElse = none := by
  cases es with
  | nil =>
    cases kwElse with
    | none => exact ⟨rfl, rfl⟩
    | some k => simp [go_nil_some] at h
  | cons _ _ _ _ => simp [go_cons] at h

theorem go_map (lo : Nat) : ∀ (es : Elifs) (off : Nat) (kwElse : Option Str),
    (elseOffsets.go off es kwElse).map (lo + ·) = elseOffsets.go (lo + off) es kwElse
  | .nil, off, kwElse => by cases kwElse <;> simp [elseOffsets.go]
  | .cons kw cond b rest, off, kwElse => by
    simp only [go_cons, List.map_cons, go_map lo rest]
    congr 2
    omega

theorem go_range (elseBody : Block) : ∀ (es : Elifs) (pos : Nat) (kwElse : Option Str),
    ∀ e ∈ elseOffsets.go pos es kwElse,
      pos ≤ e ∧ e < pos + es.flatten.length + (elseFlat kwElse elseBody).length
  | .nil, pos, kwElse => by
    cases kwElse with
    | none => simp [elseOffsets.go]
    | some k => simp [elseOffsets.go, elseFlat]; omega
  | .cons kw cond b rest, pos, kwElse => by
    intro e he
    rw [go_cons] at he
    simp only [Elifs.flatten, List.length_cons, List.length_append]
    rcases List.mem_cons.mp he with rfl | he
    · omega
    · have := go_range elseBody rest _ kwElse e he
      omega

theorem length_tailFlat (es : Elifs) (kwElse : Option Str) (elseBody : Block) (kwEnd : Str) :
    (tailFlat es kwElse elseBody kwEnd).length =
      es.flatten.length + (elseFlat kwElse elseBody).length + 1 := by
  simp [tailFlat]; omega

theorem hi_if (lo : Nat) (kwIf : Str) (cond : List Str) (body : Block) (elifs : Elifs) (kwElse : Option Str)
    (elseBody : Block) (kwEnd : Str) :
    lo + (Stmt.ifChain kwIf cond body elifs kwElse elseBody kwEnd).flatten.length =
      lo + 1 + body.flatten.length + elifs.flatten.length + (elseFlat kwElse elseBody).length + 1 := by
  simp only [flatten_if, List.length_cons, List.length_append, length_tailFlat]
  omega

/-! ### lists and booleans -/

theorem or3_left {a b c : Bool} (h : (a || b || c) = false) : a = false := by
  cases a <;> first | rfl | cases h

theorem or3_right {a b c : Bool} (h : (a || b || c) = false) : (b || c) = false := by
  cases a <;> first | exact h | cases h


theorem drop_cons_facts {α : Type} (l : List α) (j : Nat) (a : α) (tl : List α)
    (h : l.drop j = a :: tl) : j < l.length ∧ l[j]? = some a ∧ l.drop (j + 1) = tl := by
  have hj : j < l.length := by
    apply Nat.lt_of_not_le
    intro hle
    rw [List.drop_eq_nil_of_le hle] at h
    cases h
  refine ⟨hj, ?_, ?_⟩
  · have := List.drop_eq_getElem_cons hj
    rw [this] at h
    injection h with h1 h2
    rw [List.getElem?_eq_getElem hj, h1]
  · have := List.drop_eq_getElem_cons hj
    rw [this] at h
    injection h with h1 h2

theorem drop_nil_facts {α : Type} (l : List α) (j : Nat) (h : l.drop j = []) : ¬ j < l.length := by
  intro hj
  have := List.drop_eq_getElem_cons hj
  rw [this] at h
  cases h

theorem get_bind_idx (o : Option (List Str)) (k : Nat) :
    o.bind (fun l => l[k]?) = (o.getD [])[k]? := by
  cases o <;> simp

theorem drop_some_of_ne {o : Option (List Str)} {L : List Str} {k : Nat} {a : Str} {tl : List Str}
    (hL : o.getD [] = L) (hd : L.drop k = a :: tl) : o = some L := by
  cases o with
  | none => simp at hL; subst hL; simp at hd
  | some l => simp at hL; rw [hL]

/-! ### the simple fragment is part of the simple2 fragment -/

theorem condSimple2_of_simple {cond : List Str} (h : condSimple cond = true) : condSimple2 cond = true := by
  simp [condSimple2, h]

mutual
  theorem Stmt.simple2_of_simple : ∀ s : Stmt, s.simple = true → s.simple2 = true
    | .line _, h => h
    | .ifChain _ _ body elifs _ elseBody _, h => by
      simp only [Stmt.simple, Bool.and_eq_true] at h
      simp only [Stmt.simple2, Bool.and_eq_true]
      exact ⟨⟨⟨condSimple2_of_simple h.1.1.1, Block.simple2_of_simple body h.1.1.2⟩,
        Elifs.simple2_of_simple elifs h.1.2⟩, Block.simple2_of_simple elseBody h.2⟩
    | .whileLoop _ _ body _, h => by
      simp only [Stmt.simple, Bool.and_eq_true] at h
      simp only [Stmt.simple2, Bool.and_eq_true]
      exact ⟨condSimple2_of_simple h.1, Block.simple2_of_simple body h.2⟩
    | .forIn _ _ _ body _, h => by
      simp only [Stmt.simple, Bool.and_eq_true] at h
      simp only [Stmt.simple2, Bool.and_eq_true]
      exact ⟨⟨h.1.1, Block.simple2_of_simple body h.1.2⟩, h.2⟩
    | .fnDef _ _ _ _ _, h => by simp [Stmt.simple] at h
    | .ret _ _, h => by simp [Stmt.simple] at h
  theorem Block.simple2_of_simple : ∀ b : Block, b.simple = true → b.simple2 = true
    | .nil, _ => rfl
    | .cons s rest, h => by
      simp only [Block.simple, Bool.and_eq_true] at h
      simp only [Block.simple2, Bool.and_eq_true]
      exact ⟨Stmt.simple2_of_simple s h.1, Block.simple2_of_simple rest h.2⟩
  theorem Elifs.simple2_of_simple : ∀ e : Elifs, e.simple = true → e.simple2 = true
    | .nil, _ => rfl
    | .cons _ _ body rest, h => by
      simp only [Elifs.simple, Bool.and_eq_true] at h
      simp only [Elifs.simple2, Bool.and_eq_true]
      exact ⟨⟨condSimple2_of_simple h.1.1, Block.simple2_of_simple body h.1.2⟩,
        Elifs.simple2_of_simple rest h.2⟩
end

/-- a value condition asks nothing of its bound words -/
theorem condArgsSafe_of_simple {cond : List Str} (vars : Vars) (h : condSimple cond = true) :
    condArgsSafe (bind vars (some cond)) = true := by
  obtain ⟨w, rest, hb, hn⟩ := condSimple_bind vars h
  rw [hb]
  have hnone : resolveCmd {} w = none := Option.isNone_iff_eq_none.mp hn
  simp [condArgsSafe, isPureCondCmd, isNotCmd, hnone]

end Duck
