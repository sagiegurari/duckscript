/-
  How a command name resolves inside a script body: `bodySem` asks `findScript`, then
  `resolveNative`, then `resolveFlow` (the order of `Commands::get` over the SDK's registrations).
  `resolve` is that cascade as one function; the names that occur in the modelled bodies are
  resolved in one table (`callees`), and every step lemma takes a single `resolve` hypothesis.
-/
import DuckModel.Sdk.ScriptRun

namespace Duck.ScriptRun
open Duck Duck.Coll Duck.Generated

deriving instance DecidableEq for Generated.ScriptCmd

inductive Resolved
  | script (sc : Generated.ScriptCmd)
  | native (n : Native)
  | flow (c : FlowCmd)
deriving DecidableEq

def resolve (name : Str) : Option Resolved :=
  match findScript name with
  | some sc => some (.script sc)
  | none =>
    match resolveNative name with
    | some n => some (.native n)
    | none => (resolveFlow name).map .flow

/-- what each answer of `resolve` says about the three lookups of `bodySem` -/
theorem resolve_spec (name : Str) :
    match resolve name with
    | some (.script sc) => findScript name = some sc
    | some (.native n) => findScript name = none ∧ resolveNative name = some n
    | some (.flow c) => findScript name = none ∧ resolveNative name = none ∧ resolveFlow name = some c
    | none => isCommand name = false := by
  unfold resolve isCommand
  cases findScript name with
  | some sc => rfl
  | none =>
    cases resolveNative name with
    | some n => exact ⟨rfl, rfl⟩
    | none =>
      cases resolveFlow name with
      | some c => exact ⟨rfl, rfl, rfl⟩
      | none => rfl

theorem findScript_of_resolve {name : Str} {sc : Generated.ScriptCmd} (h : resolve name = some (.script sc)) :
    findScript name = some sc := by
  have := resolve_spec name
  rwa [h] at this

theorem native_of_resolve {name : Str} {n : Native} (h : resolve name = some (.native n)) :
    findScript name = none ∧ resolveNative name = some n := by
  have := resolve_spec name
  rwa [h] at this

theorem resolve_native {name : Str} {n : Native} (hs : findScript name = none) (hn : resolveNative name = some n) :
    resolve name = some (.native n) := by
  simp [resolve, hs, hn]

theorem flow_of_resolve {name : Str} {c : FlowCmd} (h : resolve name = some (.flow c)) :
    findScript name = none ∧ resolveNative name = none ∧ resolveFlow name = some c := by
  have := resolve_spec name
  rwa [h] at this

theorem isCommand_of_resolve {name : Str} {r : Resolved} (h : resolve name = some r) : isCommand name = true := by
  have := resolve_spec name
  rw [h] at this
  unfold isCommand
  cases r with
  | script sc => rw [this]; rfl
  | native n => rw [this.1, this.2]; rfl
  | flow c => rw [this.1, this.2.1, this.2.2]; rfl

/-- the command names of the modelled bodies, the full names the `end` table holds, and the two
    words a condition command answers with (no command names) -/
def callees : List (Str × Option Resolved) :=
  [("if".toList, some (.flow .ifC)),
   ("for".toList, some (.flow .forIn)),
   ("end".toList, some (.flow .endC)),
   ("not".toList, some (.flow .notC)),
   ("set".toList, some (.native .set)),
   ("equals".toList, some (.native .equals)),
   ("is_defined".toList, some (.native .isDefined)),
   ("trigger_error".toList, some (.native .triggerError)),
   ("set_by_name".toList, some (.native .setByName)),
   ("calc".toList, some (.native .calc)),
   ("strlen".toList, some (.native .length)),
   ("substring".toList, some (.native .substring)),
   ("is_empty".toList, some (.native .isEmpty)),
   ("array_length".toList, some (.native (.coll .arrayLength))),
   ("map_size".toList, some (.native (.coll .mapSize))),
   ("set_size".toList, some (.native (.coll .setSize))),
   ("map_get".toList, some (.native (.coll .mapGet))),
   ("is_array".toList, some (.native (.coll .isArray))),
   ("array".toList, some (.native (.coll .array))),
   ("array_push".toList, some (.native (.coll .arrayPush))),
   ("set_new".toList, some (.native (.coll .setNew))),
   ("set_put".toList, some (.native (.coll .setPut))),
   ("map_keys".toList, some (.native (.coll .mapKeys))),
   ("release".toList, some (.native (.coll .release))),
   ("array_is_empty".toList, some (.script cmd_collections_array_is_empty)),
   ("map_is_empty".toList, some (.script cmd_collections_map_is_empty)),
   ("set_is_empty".toList, some (.script cmd_collections_set_is_empty)),
   ("map_contains_key".toList, some (.script cmd_collections_map_contains_key)),
   ("map_contains_value".toList, some (.script cmd_collections_map_contains_value)),
   ("array_concat".toList, some (.script cmd_collections_array_concat)),
   ("array_contains".toList, some (.script cmd_collections_array_contains)),
   ("array_join".toList, some (.script cmd_collections_array_join)),
   ("set_from_array".toList, some (.script cmd_collections_set_from_array)),
   ("concat".toList, some (.script cmd_string_concat)),
   ("unset".toList, some (.script cmd_var_unset)),
   (fullNameEndIf, some (.flow .endIf)), (fullNameEndForIn, some (.flow .endFor)),
   (sTrue, none), (sFalse, none)]

theorem resolve_callees : ∀ p ∈ callees, resolve p.1 = p.2 := by decide +kernel

/-- the `i`-th row of the table -/
theorem resolve_row (i : Nat) {name : Str} {r : Option Resolved} (h : callees[i]? = some (name, r)) :
    resolve name = r :=
  resolve_callees _ (List.mem_of_getElem? h)

theorem rs_if : resolve "if".toList = some (.flow .ifC) := resolve_row 0 rfl
theorem rs_for : resolve "for".toList = some (.flow .forIn) := resolve_row 1 rfl
theorem rs_end : resolve "end".toList = some (.flow .endC) := resolve_row 2 rfl
theorem rs_not : resolve "not".toList = some (.flow .notC) := resolve_row 3 rfl
theorem rs_set : resolve "set".toList = some (.native .set) := resolve_row 4 rfl
theorem rs_equals : resolve "equals".toList = some (.native .equals) := resolve_row 5 rfl
theorem rs_is_defined : resolve "is_defined".toList = some (.native .isDefined) := resolve_row 6 rfl
theorem rs_trigger : resolve "trigger_error".toList = some (.native .triggerError) := resolve_row 7 rfl
theorem rs_set_by_name : resolve "set_by_name".toList = some (.native .setByName) := resolve_row 8 rfl
theorem rs_calc : resolve "calc".toList = some (.native .calc) := resolve_row 9 rfl
theorem rs_strlen : resolve "strlen".toList = some (.native .length) := resolve_row 10 rfl
theorem rs_substring : resolve "substring".toList = some (.native .substring) := resolve_row 11 rfl
theorem rs_is_empty : resolve "is_empty".toList = some (.native .isEmpty) := resolve_row 12 rfl
theorem rs_array_length : resolve "array_length".toList = some (.native (.coll .arrayLength)) := resolve_row 13 rfl
theorem rs_map_size : resolve "map_size".toList = some (.native (.coll .mapSize)) := resolve_row 14 rfl
theorem rs_set_size : resolve "set_size".toList = some (.native (.coll .setSize)) := resolve_row 15 rfl
theorem rs_map_get : resolve "map_get".toList = some (.native (.coll .mapGet)) := resolve_row 16 rfl
theorem rs_is_array : resolve "is_array".toList = some (.native (.coll .isArray)) := resolve_row 17 rfl
theorem rs_array : resolve "array".toList = some (.native (.coll .array)) := resolve_row 18 rfl
theorem rs_array_push : resolve "array_push".toList = some (.native (.coll .arrayPush)) := resolve_row 19 rfl
theorem rs_set_new : resolve "set_new".toList = some (.native (.coll .setNew)) := resolve_row 20 rfl
theorem rs_set_put : resolve "set_put".toList = some (.native (.coll .setPut)) := resolve_row 21 rfl
theorem rs_map_keys : resolve "map_keys".toList = some (.native (.coll .mapKeys)) := resolve_row 22 rfl
theorem rs_release : resolve "release".toList = some (.native (.coll .release)) := resolve_row 23 rfl
theorem rs_array_is_empty : resolve "array_is_empty".toList = some (.script cmd_collections_array_is_empty) := resolve_row 24 rfl
theorem rs_map_is_empty : resolve "map_is_empty".toList = some (.script cmd_collections_map_is_empty) := resolve_row 25 rfl
theorem rs_set_is_empty : resolve "set_is_empty".toList = some (.script cmd_collections_set_is_empty) := resolve_row 26 rfl
theorem rs_map_contains_key : resolve "map_contains_key".toList = some (.script cmd_collections_map_contains_key) := resolve_row 27 rfl
theorem rs_map_contains_value : resolve "map_contains_value".toList = some (.script cmd_collections_map_contains_value) := resolve_row 28 rfl
theorem rs_array_concat : resolve "array_concat".toList = some (.script cmd_collections_array_concat) := resolve_row 29 rfl
theorem rs_array_contains : resolve "array_contains".toList = some (.script cmd_collections_array_contains) := resolve_row 30 rfl
theorem rs_array_join : resolve "array_join".toList = some (.script cmd_collections_array_join) := resolve_row 31 rfl
theorem rs_set_from_array : resolve "set_from_array".toList = some (.script cmd_collections_set_from_array) := resolve_row 32 rfl
theorem rs_concat : resolve "concat".toList = some (.script cmd_string_concat) := resolve_row 33 rfl
theorem rs_unset : resolve "unset".toList = some (.script cmd_var_unset) := resolve_row 34 rfl
theorem rs_fullNameEndIf : resolve fullNameEndIf = some (.flow .endIf) := resolve_row 35 rfl
theorem rs_fullNameEndForIn : resolve fullNameEndForIn = some (.flow .endFor) := resolve_row 36 rfl

theorem isCommand_boolStr (b : Bool) : isCommand (boolStr b) = false := by
  have h := resolve_spec (boolStr b)
  cases b
  · rwa [show resolve (boolStr false) = none from resolve_row 38 rfl] at h
  · rwa [show resolve (boolStr true) = none from resolve_row 37 rfl] at h

end Duck.ScriptRun
