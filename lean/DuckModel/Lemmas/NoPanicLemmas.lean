/-
  Helper lemmas for Props/C07.lean (no panic / no hang of the modelled layer):
  * the condition evaluator never runs out of its nesting fuel,
  * the block scanner `findCommands` never runs out of its nesting fuel,
  * a file that includes itself exhausts EVERY include-depth fuel,
  * a list that contains its own handle exhausts EVERY `json_encode --collection` fuel.
-/
import DuckModel.Sdk.Flow
import DuckModel.Sdk.Encode
import DuckModel.Lemmas.ConditionLemmas
import DuckModel.Lemmas.IncludeLemmas

namespace Duck
open Duck.Generated

/-! ### condition evaluator: the fuel `args.length + 1` is never exhausted -/

theorem foldAtom_ne_fuel (st : CSt) (b : Bool) : foldAtom st b ≠ .err .fuel := by
  unfold foldAtom
  split <;> simp

theorem topStep_ne_fuel (st : CSt) (a : Str) : topStep st a ≠ .err .fuel := by
  unfold topStep
  split
  · split
    · dsimp only
      split <;> simp
    · simp
  · split
    · split <;> simp
    · exact foldAtom_ne_fuel _ _

theorem cStep_ne_fuel (ev : List Str → Except CondErr Bool) (st : CSt) (a : Str)
    (h : st.counter = 1 → ev st.block ≠ .error .fuel) : cStep ev st a ≠ .err .fuel := by
  by_cases ho : a = tokOpen
  · rw [ho, cStep_open]
    simp
  · by_cases hc : a = tokClose
    · rw [hc, cStep_close]
      split
      · simp
      · split
        · rename_i h1
          split
          · rename_i e he
            intro hc
            injection hc with hc
            subst hc
            exact h h1 he
          · exact foldAtom_ne_fuel _ _
        · simp
    · rw [cStep_other ev st ho hc]
      split
      · simp
      · exact topStep_ne_fuel _ _

/-- the loop keeps the bound of `cStep_inv`: outside groups at most `m` tokens are left, inside a
    group the collected block plus what is left stays below `m` — so every block handed to `ev` is
    shorter than `m` -/
theorem cLoop_ne_fuel (ev : List Str → Except CondErr Bool) (m : Nat)
    (h : ∀ b : List Str, b.length < m → ev b ≠ .error .fuel) :
    ∀ (rest : List Str) (st : CSt), (st.counter = 0 → rest.length ≤ m) →
      (st.counter ≠ 0 → st.block.length + rest.length < m) →
      cLoop ev st rest ≠ .error .fuel := by
  intro rest
  induction rest with
  | nil =>
    intro st _ _
    simp only [cLoop]
    split
    · simp
    · split <;> simp
  | cons a rest ih =>
    intro st h0 h1
    have hstep : cStep ev st a ≠ .err .fuel := by
      apply cStep_ne_fuel
      intro hc
      apply h
      have := h1 (by omega)
      simp only [List.length_cons] at this
      omega
    rw [cLoop_cons]
    cases hs : cStep ev st a with
    | cont st' =>
      obtain ⟨i0, i1⟩ := cStep_inv ev m st st' a rest h0 h1 hs
      exact ih st' i0 i1
    | ret b => simp
    | err e =>
      intro hc
      injection hc with hc
      subst hc
      exact hstep hs

theorem evalSliceF_ne_fuel : ∀ (n : Nat) (args : List Str), args.length < n →
    evalSliceF n args ≠ .error .fuel := by
  intro n
  induction n with
  | zero => intro args h; omega
  | succ k ih =>
    intro args hlen
    rw [evalSliceF_succ]
    apply cLoop_ne_fuel _ k (fun b hb => ih b hb)
    · intro _; omega
    · intro hc; exact absurd rfl hc

/-! ### `find_commands`: the fuel `is.length + 1` is never exhausted -/

theorem fcLoop_ne_fuel (t : FlowTables) (is : List Instruction) (rec : Nat → Except FcErr Positions)
    (n line skipTo delta : Nat) (middle : List Nat) :
    (∀ l, line ≤ l → l < line + n → rec (l + 1) ≠ .error .fuel) →
      fcLoop t is rec n line skipTo delta middle ≠ .error .fuel := by
  fun_induction fcLoop t is rec n line skipTo delta middle <;> intro h
  -- the only error passed on is the one of the search one level down, at this line
  case case9 e he =>
    intro hc
    injection hc with hc
    subst hc
    exact h _ (Nat.le_refl _) (by omega) he
  -- no lines left (`missingEnd`), the end command found (`ok`), nesting not allowed
  case case1 | case7 | case10 => simp
  -- every other branch goes on with the next line
  all_goals
    rename_i ih
    exact ih fun l h1 h2 => h l (by omega) (by omega)

theorem findCommandsF_ne_fuel (t : FlowTables) (is : List Instruction) :
    ∀ (fuel start : Nat), is.length - start < fuel →
      findCommandsF t is fuel start ≠ .error .fuel := by
  intro fuel
  induction fuel with
  | zero => intro start h; omega
  | succ fuel ih =>
    intro start h
    unfold findCommandsF
    split
    · simp
    · apply fcLoop_ne_fuel
      intro l h1 h2
      apply ih
      omega

/-! ### a file that includes itself -/

def selfPath : Str := "/a.ds".toList
def selfLine : Str := "!include_files /a.ds".toList

/-- an abstract file system with ONE file, whose only line includes the file itself; paths
    resolve to themselves (the absolute-path case of the path rule) -/
def selfFs : Fs := { read := fun p => if p = selfPath then some selfLine else none, resolve := fun _ a => a }

theorem selfFs_lines : lines selfLine = [selfLine] := by decide +kernel

theorem selfFs_parseLine :
    parseLine selfLine = .ok (.preProcess (some includeName) (some [selfPath])) := by
  have e : renderDirective [] [selfPath] = selfLine := by decide +kernel
  rw [← e]
  exact parseLine_renderDirective [] selfPath []

/-- the single line includes `selfPath` again: a failure of the include is the failure of the parse -/
theorem parseLinesWith_selfLine (inc : Str → Except ParseFail (List Instruction)) (src : Option Str)
    (n : Nat) (e : ParseFail) (h : inc selfPath = .error e) :
    parseLinesWith inc selfFs src n [selfLine] = .error e := by
  have hres : selfFs.resolve src selfPath = selfPath := rfl
  simp only [parseLinesWith, selfFs_parseLine, runPre_include, Option.getD_some, includeFiles, hres, h]

theorem selfFs_depth : ∀ n, parseFileF selfFs n selfPath = .error depthExceeded := by
  intro n
  induction n with
  | zero => rfl
  | succ n ih =>
    have hread : selfFs.read selfPath = some selfLine := by simp [selfFs]
    unfold parseFileF
    simp only [hread, selfFs_lines]
    exact parseLinesWith_selfLine _ _ _ _ ih

/-! ### a list that contains its own handle -/

def cycKey : Str := "handle:a".toList

/-- `a = array ; array_push ${a} ${a}` -/
def cycEntries : Enc.Entries := [(cycKey, .list [cycKey])]

theorem cyc_lookup : Enc.lookup cycKey cycEntries = some (.list [cycKey]) := by decide

theorem cyc_fuel_str : ∀ n, Enc.encodeVal n cycEntries (.str cycKey) = .error .fuel := by
  intro n
  induction n using Nat.strongRecOn with
  | _ n ih =>
    match n with
    | 0 => rfl
    | 1 => simp [Enc.encodeVal, cyc_lookup]
    | k + 2 =>
      have := ih k (by omega)
      simp [Enc.encodeVal, cyc_lookup, Enc.encItems, this]

end Duck
