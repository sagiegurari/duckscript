/-
  Helper lemmas for Props/C15Translated.lean: the methods of `impl Commands` as TRANSLATED from the
  current source (Generated/RegistryFns.lean, over the abstract finite maps of FinMap.lean) against
  the hand-written model (Registry.lean, association lists).

  The representation relation is `MapRep m l`: the abstract map `m` and the association list `l`
  answer every lookup alike.  Only the laws of `LawfulFinMap` are used about `m`.
-/
import DuckModel.FinMap
import DuckModel.Registry
import DuckModel.Lemmas.RegistryLemmas
import DuckModel.Generated.RegistryFns

namespace Duck

/-- the abstract map `m` represents the association list `l`: same lookups -/
def MapRep {M V : Type} [FinMap M V] (m : M) (l : KV V) : Prop :=
  ∀ k, FinMap.get m k = l.get k

/-- the pair of abstract maps represents the model registry -/
structure RegRep {MC MA : Type} [FinMap MC CmdSpec] [FinMap MA Str]
    (mc : MC) (ma : MA) (r : Reg) : Prop where
  commands : MapRep mc r.commands
  aliases : MapRep ma r.aliases

/-- an association list that is a finite map: every key once (what `put` / `erase` maintain) -/
def KV.NodupKeys {α : Type} (l : KV α) : Prop := (l.map (·.1)).Nodup

namespace MapRep
variable {M V : Type} [FinMap M V] [LawfulFinMap M V]

theorem empty : MapRep (FinMap.empty : M) ([] : KV V) := by
  intro k; rw [LawfulFinMap.get_empty]; rfl

theorem insert {m : M} {l : KV V} (h : MapRep m l) (k : Str) (v : V) :
    MapRep (FinMap.insert m k v) (l.put k v) := by
  intro k'; rw [LawfulFinMap.get_insert, KV.get_put, h k']

theorem erase {m : M} {l : KV V} (h : MapRep m l) (k : Str) :
    MapRep (FinMap.erase m k) (l.erase k) := by
  intro k'; rw [LawfulFinMap.get_erase, KV.get_erase, h k']

/-- erasing an absent key changes no lookup (nothing more is known about the map itself) -/
theorem erase_absent {m : M} {l : KV V} (h : MapRep m l) (k : Str) (hk : l.get k = none) :
    MapRep (FinMap.erase m k) l := by
  intro k'; rw [LawfulFinMap.get_erase]
  by_cases e : k' = k
  · subst e; simp [hk]
  · simp [e, h k']

omit [LawfulFinMap M V] in
theorem contains {m : M} {l : KV V} (h : MapRep m l) (k : Str) :
    FinMap.contains m k = l.containsKey k := by
  unfold FinMap.contains KV.containsKey; rw [h k]

/-- the alias insertion loop of `Commands::set` -/
theorem foldl_insert {m : M} {l : KV V} (h : MapRep m l) (as : List Str) (n : V) :
    MapRep (as.foldl (fun m a => FinMap.insert m a n) m) (as.foldl (fun l a => l.put a n) l) := by
  induction as generalizing m l with
  | nil => exact h
  | cons a as ih => exact ih (h.insert a n)

/-- the alias removal loop of `Commands::remove` -/
theorem foldl_erase_if [DecidableEq V] {m : M} {l : KV V} (h : MapRep m l) (as : List Str) (n : V) :
    MapRep (as.foldl (fun m a => if FinMap.get m a = some n then FinMap.erase m a else m) m)
      (as.foldl (fun l a => if l.get a = some n then l.erase a else l) l) := by
  induction as generalizing m l with
  | nil => exact h
  | cons a as ih =>
    simp only [List.foldl_cons]
    rw [h a]
    by_cases e : l.get a = some n
    · simp only [e, if_true]; exact ih (h.erase a)
    · simp only [e, if_false]; exact ih h

/-- the keys of the abstract map are the keys of the list, in some order -/
theorem keys_perm {m : M} {l : KV V} (h : MapRep m l) (hl : l.NodupKeys) :
    (FinMap.keys m).Perm (l.map (·.1)) := by
  rw [List.perm_ext_iff_of_nodup (LawfulFinMap.nodup_keys m) hl]
  intro k
  rw [LawfulFinMap.mem_keys, h k, KV.get_isSome_iff_mem]

end MapRep

/-! ### loops -/

/-- the refusal loop of `Commands::set`: leaves at the first element the test accepts -/
theorem forEach_ret_if {α ρ : Type} (p : α → Bool) (r : ρ) (xs : List α) :
    forEach (σ := Unit) (ρ := ρ) (fun _ x => if p x then .ret r else .next ()) xs () =
      if xs.any p then .ret r else .next () := by
  induction xs with
  | nil => rfl
  | cons x xs ih =>
    unfold forEach
    by_cases h : p x = true
    · simp [h]
    · simp [h, ih]

/-- the collecting loop of `Commands::get_all_command_names` -/
theorem foldl_push {α : Type} (xs init : List α) :
    List.foldl (fun acc x => acc ++ [x]) init xs = init ++ xs := by
  induction xs generalizing init with
  | nil => simp
  | cons x xs ih => simp [ih]

/-! ### the model's lists stay finite maps -/

namespace KV
variable {α : Type}

theorem nodupKeys_nil : NodupKeys ([] : KV α) := List.nodup_nil

theorem nodupKeys_erase {l : KV α} (h : l.NodupKeys) (k : Str) : (l.erase k).NodupKeys := by
  unfold NodupKeys erase at *
  exact List.Nodup.sublist (List.Sublist.map _ List.filter_sublist) h

theorem nodupKeys_put {l : KV α} (h : l.NodupKeys) (k : Str) (v : α) : (l.put k v).NodupKeys := by
  unfold NodupKeys put
  rw [List.map_cons, List.nodup_cons]
  refine ⟨?_, nodupKeys_erase h k⟩
  intro hm
  have := (get_isSome_iff_mem (l.erase k) k).mpr hm
  rw [get_erase] at this
  simp at this

end KV

theorem Reg.nodupKeys_set (r : Reg) (c : CmdSpec) (h : r.commands.NodupKeys) :
    (r.set c).1.commands.NodupKeys := by
  rcases Reg.set_cases r c with ⟨_, e⟩ | ⟨_, e⟩
  · rw [e]; exact h
  · rw [e]; exact KV.nodupKeys_put h _ _

theorem Reg.nodupKeys_remove (r : Reg) (n : Str) (h : r.commands.NodupKeys) :
    (r.remove n).1.commands.NodupKeys := by
  cases hk : r.commands.get (r.resolve n) with
  | none => rw [Reg.remove_none r n hk]; exact h
  | some c => rw [Reg.remove_some r n c hk]; exact KV.nodupKeys_erase h _

/-! ### the laws are consistent: the model's association lists are a lawful finite map -/

namespace KV
variable {α : Type}

/-- every key once (the last occurrence is kept) -/
def dedup : List Str → List Str
  | [] => []
  | k :: ks => if k ∈ ks then dedup ks else k :: dedup ks

theorem mem_dedup (k : Str) (l : List Str) : k ∈ dedup l ↔ k ∈ l := by
  induction l with
  | nil => simp [dedup]
  | cons x xs ih =>
    unfold dedup
    by_cases h : x ∈ xs
    · simp only [h, if_true, ih, List.mem_cons]
      constructor
      · exact Or.inr
      · rintro (e | e)
        · rw [e]; exact h
        · exact e
    · simp only [h, if_false, List.mem_cons, ih]

theorem nodup_dedup (l : List Str) : (dedup l).Nodup := by
  induction l with
  | nil => exact List.nodup_nil
  | cons x xs ih =>
    unfold dedup
    by_cases h : x ∈ xs
    · simp only [h, if_true]; exact ih
    · rw [if_neg h, List.nodup_cons, mem_dedup]; exact ⟨h, ih⟩

end KV

instance kvFinMap (α : Type) : FinMap (KV α) α where
  empty := []
  get := KV.get
  insert := KV.put
  erase := KV.erase
  filter p m := m.filter (fun kv => ((KV.get m kv.1).map (p kv.1)).getD false)
  keys m := KV.dedup (m.map (·.1))

instance kvLawful (α : Type) : LawfulFinMap (KV α) α where
  get_empty _ := rfl
  get_insert m k v k' := KV.get_put m k v k'
  get_erase m k k' := KV.get_erase m k k'
  get_filter p m k := by
    show KV.get (m.filter (fun kv => ((KV.get m kv.1).map (p kv.1)).getD false)) k = _
    rw [KV.get_filter_key (fun a => ((KV.get m a).map (p a)).getD false) m k]
    show _ = Option.filter (p k) (KV.get m k)
    cases KV.get m k with
    | none => simp
    | some v => by_cases h : p k v = true <;> simp [Option.filter, h]
  mem_keys m k := by
    show k ∈ KV.dedup (m.map (·.1)) ↔ _
    rw [KV.mem_dedup]; exact (KV.get_isSome_iff_mem m k).symm
  nodup_keys m := KV.nodup_dedup _

/-- every model registry is represented by its own lists -/
theorem RegRep.self (r : Reg) : RegRep r.commands r.aliases r := ⟨fun _ => rfl, fun _ => rfl⟩

end Duck
