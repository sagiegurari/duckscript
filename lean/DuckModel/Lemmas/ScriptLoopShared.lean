/-
  What the developments of the single script commands with a `for … in` loop
  (Lemmas/ScriptLoop*.lean, one command each) have in common.

  Conventions of those files.
  * "Line `n`" is the 0-based index into the instruction list, i.e. source line `n + 1` of the
    command's script.ds (`mkI` and `emptyI` carry the source line).  The keys of the block caches
    (`"scope::<cmd>::<n>"`, `lineKey scope n`), `ifEntry n stop`, `ForBlock is a b`, the fields
    `c<n>` of the cache invariants and the "lines a-b" of docstrings all count this way.
  * Each file opens with one closed fact `<cmd>_table` (`<cmd>_closed` in the three small
    scripts), a single kernel evaluation: the script text parses to the instruction list written
    down, where its blocks end, what holds of its variable names (Lemmas/ScriptVarNames.lean) and
    how its cache keys are spelt.  The lemmas right below it name its parts; nothing else reads it.
    That the argument templates of the lines are in the class the expansion lemmas cover
    (`ArgsOK`, the side condition of `bind_eq`) is a second such fact, `<cmd>_args`, one conjunct
    per line in line order (a part of `<cmd>_closed` in the small scripts): the cost of checking a
    template is one pass over each name in it, so each is checked once.
  * `tremove` and `tinsert` are `local irreducible` there: the handle table is read through
    `tget_tremove` / `tget_tinsert` only, and comparing two states the unifier would otherwise
    unfold both tables.
  * Budgets.  A body that evaluates a command condition (`if not <cmd> …`) runs at `G + 2`
    instructions and depth `d + 2`: the condition line is re-parsed and run as a nested body
    (one level), whose `not` runs the command (one more).  A SCRIPT command in that place runs
    its own body, whose size command needs `2` again: `G + 2 + 2`, `d + 3`.
-/
import DuckModel.Lemmas.ScriptFlowLoops
import DuckModel.Lemmas.ScriptLoopFree
import DuckModel.Lemmas.ScriptVarNames
import DuckModel.Lemmas.ScriptAliasRun

namespace Duck.ScriptRun
open Duck Duck.Alias Duck.Coll Duck.Spec Duck.Generated Duck.Reser

attribute [local irreducible] tremove tinsert

/-! ### lists, handles, cache keys -/

/-- a cell of an array of strings (the wrapper's argument array, a key array) is one of them -/
theorem getElem?_map_str {xs : List Str} {i : Nat} {x : Item} (h : (xs.map Item.str)[i]? = some x) :
    ∃ X, xs[i]? = some X ∧ X ∈ xs ∧ x = .str X := by
  rw [List.getElem?_map] at h
  cases hX : xs[i]? with
  | none => rw [hX] at h; cases h
  | some X => rw [hX] at h; exact ⟨X, rfl, List.mem_of_getElem? hX, by cases h; rfl⟩

theorem handleName_ne {m n : Nat} (h : m ≠ n) : Coll.handleName m ≠ Coll.handleName n :=
  fun e => h (Coll.handleName_inj e)

/-- the cache entry of the `if` on line `n` after the `if` on line `k` consulted the cache -/
theorem ifCacheOK_after {m : KV (Nat × List Nat)} {scope : Str} {k n stop stop' : Nat}
    (h : IfCacheOK m (lineKey scope n) stop') (hs : n = k → stop' = stop) :
    IfCacheOK (ifMetaAfter m (lineKey scope k) stop) (lineKey scope n) stop' := by
  by_cases e : n = k
  · subst e; rw [hs rfl] at h ⊢; exact ifCacheOK_ifMetaAfter _ _ _ h
  · exact ifCacheOK_after_ne e h

/-! ### a name that names no array -/

theorem list_or_not (t : Table) (a : Str) : (∃ l, tget t a = some (.list l)) ∨ ∀ l, tget t a ≠ some (.list l) := by
  cases h : tget t a with
  | none => exact .inr fun _ => nofun
  | some w =>
    cases w with
    | list l => exact .inl ⟨l, rfl⟩
    | _ => exact .inr fun _ => nofun

section
variable {t : Table} {a : Str} (hn : ∀ l, tget t a ≠ some (.list l))
include hn

/-- a `match` on the value it names takes the other branch (used as a term: the `match` of
    another module is another constant, equal to this one by unfolding only) -/
theorem match_list_of_not {α : Sort _} (f : List Item → α) (d : α) : (match tget t a with | some (.list l) => f l | _ => d) = d := by
  split
  · next l hl => exact absurd hl (hn l)
  · rfl

theorem arrLen_of_not_list : arrLen t a = 0 := by
  unfold arrLen
  split
  · next l hl => exact absurd hl (hn l)
  · rfl

/-- a `for` line that reads such a name leaves its loop -/
theorem nextIteration_of_not_list {s : ScriptSt} (hs : s.coll.tbl = t) (i : Nat) : nextIteration s a i = none := by
  unfold nextIteration
  rw [hs]
  split
  · next l hl => exact absurd hl (hn l)
  · rfl

end

section
variable {F d : Nat} {is : List Instruction} {line ln stop : Nat} {fo : Option Str} {vars : Vars} {s : ScriptSt}
  {scope X : Str} {args : Option (List (List Seg))} (hget : is[line]? = some (mkI ln none "if" args))
  (hb : bind vars (args.map fun a => a.map renderTemplate) = ["not".toList, "is_array".toList, X])
  (hX : ArgOK X = true) (hfind : findCommands ifTables is (line + 1) = .ok ⟨[], stop⟩) (hctx : s.ctx = scope)
  (hc : IfCacheOK s.ifMeta (lineKey scope line) stop)
include hget hb hX hfind hctx hc

/-- `if not is_array ${x}` (no else branches), a script's validation of an argument, when the
    argument names an array: past the block -/
theorem Steps.if_not_is_array_list {l : List Item} (hT : tget s.coll.tbl X = some (.list l)) :
    Steps (F + 2) (d + 2) is 1 ⟨line, fo, vars, s⟩ ⟨stop + 1, none, vars, ifStP s line stop false⟩ := by
  have hif := runIf_not_is_array F d is line stop s vars X hX hfind (by rw [flowKey_lineKey hctx]; exact hc)
  rw [hT] at hif
  exact Steps.flow_goto hget rs_if hb hif

/-- … and when it names none: into the block (which raises the error) -/
theorem Steps.if_not_is_array_other (hnl : ∀ l, tget s.coll.tbl X ≠ some (.list l)) :
    Steps (F + 2) (d + 2) is 1 ⟨line, fo, vars, s⟩ ⟨line + 1, none, vars, ifStP s line stop true⟩ := by
  have hif := runIf_not_is_array F d is line stop s vars X hX hfind (by rw [flowKey_lineKey hctx]; exact hc)
  cases hv : tget s.coll.tbl X with
  | none => rw [hv] at hif; exact Steps.flow hget rs_if hb hif
  | some w =>
    cases w with
    | list l => exact absurd hv (hnl l)
    | _ => rw [hv] at hif; exact Steps.flow hget rs_if hb hif

end

/-! ### native callees -/

theorem run_mapGet (a x : Str) (m : List (Str × Item)) (vars : Vars) (s : ScriptSt)
    (hT : tget s.coll.tbl a = some (.map m)) :
    runNative (.coll .mapGet) [a, x] vars s =
      (.continue ((mget m x).map Item.render), vars,
        { s with coll := { tbl := tinsert (tremove s.coll.tbl a) a (.map m), next := s.coll.next } }) := by
  simp only [runNative, runColl, Coll.exec, cmdMapGet]
  rw [mutateMap_map s.coll.tbl a _ m hT]

theorem run_release (h : Str) (vars : Vars) (s : ScriptSt) :
    runNative (.coll .release) [h] vars s =
      (.continue (some (boolStr (tget s.coll.tbl h).isSome)), vars,
        { s with coll := { tbl := tremove s.coll.tbl h, next := s.coll.next } }) := by
  simp only [runNative, runColl, Coll.exec, cmdRelease]

theorem run_mapKeys (a : Str) (m : List (Str × Item)) (vars : Vars) (s : ScriptSt)
    (hT : tget s.coll.tbl a = some (.map m)) :
    runNative (.coll .mapKeys) [a] vars s =
      (.continue (some (Coll.handleName s.coll.next)), vars,
        { s with coll := { tbl := tinsert s.coll.tbl (Coll.handleName s.coll.next)
                                    (.list ((sortStr (m.map Prod.fst)).map .str)),
                           next := s.coll.next + 1 } }) := by
  simp only [runNative, runColl, Coll.exec, cmdMapKeys, hT, putHandle]

theorem run_array_nil (vars : Vars) (s : ScriptSt) :
    runNative (.coll .array) [] vars s =
      (.continue (some (Coll.handleName s.coll.next)), vars,
        { s with coll := { tbl := tinsert s.coll.tbl (Coll.handleName s.coll.next) (.list []), next := s.coll.next + 1 } }) := by
  simp [runNative, runColl, Coll.exec, cmdArray, putHandle]

theorem run_setNew (vars : Vars) (s : ScriptSt) :
    runNative (.coll .setNew) [] vars s =
      (.continue (some (Coll.handleName s.coll.next)), vars,
        { s with coll := { tbl := tinsert s.coll.tbl (Coll.handleName s.coll.next) (.set []), next := s.coll.next + 1 } }) := by
  simp [runNative, runColl, Coll.exec, cmdSetNew, putHandle, sinsertAll]

/-- `array_push h x` on a live array -/
theorem run_arrayPush (h x : Str) (cur : List Item) (vars : Vars) (s : ScriptSt) (hget : tget s.coll.tbl h = some (.list cur)) :
    runNative (.coll .arrayPush) [h, x] vars s =
      (.continue (some sTrue), vars,
        { s with coll := { s.coll with tbl := tinsert (tremove s.coll.tbl h) h (.list (cur ++ [.str x])) } }) := by
  simp [runNative, runColl, Coll.exec, cmdArrayPush, mutateList, hget, okTrue]

/-- `set_put h x` on a live set -/
theorem run_setPut (h x : Str) (cur : List Str) (vars : Vars) (s : ScriptSt) (hget : tget s.coll.tbl h = some (.set cur)) :
    runNative (.coll .setPut) [h, x] vars s =
      (.continue (some sTrue), vars,
        { s with coll := { s.coll with tbl := tinsert (tremove s.coll.tbl h) h (.set (sinsert cur x)) } }) := by
  simp [runNative, runColl, Coll.exec, cmdSetPut, mutateSet, hget, sinsertAll, okTrue]

/-- a nested `*_is_empty X` (the two scripts `sizeScript_runF` covers); `hb`: the argument's
    lookup in the table that holds the temporary argument array is the caller's -/
theorem isEmptyScript_run {name : Str} {sizeName : String} {sc : Generated.ScriptCmd} {c : CollCmd} {len : Value → Option Nat}
    (h : SizeScript name sizeName sc c len) (d G : Nat) (X : Str) (vars : Vars) (s : ScriptSt)
    (hb : (tget (pubSt sc.scopeName [X] s).coll.tbl X).bind len = (tget s.coll.tbl X).bind len) :
    runScriptCmdF d (G + 2 + 2) name [X] vars s =
      (match (tget s.coll.tbl X).bind len with
        | some n => .continue (some (boolStr (n = 0)))
        | none => .error (collErrMsg c (pubSt sc.scopeName [X] s).coll.tbl [X]),
       clear sc.scopeName vars, mieSt s X) := by
  show runScriptCmdF d (G + 4) _ _ _ _ = _
  rw [sizeScript_runF h d G [X] vars s]
  simp only
  rw [hb]
  rfl

/-! ### the wrapper -/

section
variable (scope : Str) (a b : Str) (rest : List Str) (vars : Vars) (st : ScriptSt)

/-- a variable that is none of those the wrapper publishes -/
theorem get_pubVars_other (args : List Str) (k : Str) (h1 : k ≠ argsKey scope) (h2 : ∀ j, k ≠ argKey scope j) :
    Vars.get (pubVars scope args vars st) k = vars.get k := by
  unfold pubVars
  rw [get_set, if_neg h1, get_publishArgs_other scope _ 0 vars k h2]

theorem tget_pubSt_ne (args : List Str) {k : Str} (h : k ≠ Coll.handleName st.coll.next) :
    tget (pubSt scope args st).coll.tbl k = tget st.coll.tbl k := by
  simp only [pubSt, tget_tinsert]; rw [if_neg h]

/-- the next allocator name is free in the state a body starts from -/
theorem tget_pubSt_next (args : List Str) (hfree1 : tget st.coll.tbl (Coll.handleName (st.coll.next + 1)) = none) :
    tget (pubSt scope args st).coll.tbl (Coll.handleName (pubSt scope args st).coll.next) = none :=
  (tget_pubSt_ne scope st args (handleName_ne (Nat.succ_ne_self st.coll.next))).trans hfree1

/-- the wrapper removes the temporary argument array again: a table that reads like the one the
    body started from reads, without it, like the caller's -/
theorem lookupEq_unpublish (args : List Str) {T : Table} (hfree : tget st.coll.tbl (Coll.handleName st.coll.next) = none)
    (h : ∀ k, k ≠ Coll.handleName st.coll.next → tget T k = tget (pubSt scope args st).coll.tbl k) :
    LookupEq (tremove T (Coll.handleName st.coll.next)) st.coll.tbl := by
  intro k
  rw [tget_tremove]
  by_cases e : k = Coll.handleName st.coll.next
  · rw [if_pos e, e, hfree]
  · rw [if_neg e, h k e, tget_pubSt_ne scope st args e]

end

/-- One call of a script command with enough arguments (at least one) whose body, for every
    budget `G + F0` of nested runs, ends within `B` instructions: every budget `k + B` gives the
    body's result, the caller's variables minus the command's prefix, the body's table minus the
    temporary argument array. -/
theorem runScriptCmdF_of_ends {name : Str} {sc : Generated.ScriptCmd} {is : List Instruction}
    (hf : findScript name = some sc) (hp : parseText sc.script = .ok is)
    {depth F0 n B : Nat} {args : List Str} {vars vars' : Vars} {st s' : ScriptSt} {br : BodyResult}
    (hamount : ¬ args.length < sc.argumentsAmount) (hne : args ≠ []) (hF : F0 ≤ B) (hn : n ≤ B)
    (hrun : ∀ G, Ends (G + F0) depth is n ⟨0, none, pubVars sc.scopeName args vars st, pubSt sc.scopeName args st⟩
      (br, vars', s'))
    (hlen : (clear sc.scopeName vars').length ≤ vars.length) (k : Nat) :
    runScriptCmdF depth (k + B) name args vars st =
      (resultOf br, clear sc.scopeName vars',
        { s' with coll := { tbl := tremove s'.coll.tbl (Coll.handleName st.coll.next), next := s'.coll.next },
                  ctx := st.ctx }) := by
  rw [runScriptCmdF_entry depth (k + B) name sc is hf hp]
  obtain ⟨G, hG⟩ : ∃ G, k + B = G + F0 := ⟨k + B - F0, by omega⟩
  have hb := ((hrun G).mono hn).body k
  rw [← hG] at hb
  exact aliasRun_handleOps_le _ _ _ args vars st hamount hne _ _ _ hb hlen

/-- … for a body that touched no variable outside the command's prefix -/
theorem runScriptCmdF_of_ends_clr {name : Str} {sc : Generated.ScriptCmd} {is : List Instruction}
    (hf : findScript name = some sc) (hp : parseText sc.script = .ok is)
    {depth F0 n B : Nat} {args : List Str} {vars vars' : Vars} {st s' : ScriptSt} {br : BodyResult}
    (hamount : ¬ args.length < sc.argumentsAmount) (hne : args ≠ []) (hF : F0 ≤ B) (hn : n ≤ B)
    (hrun : ∀ G, Ends (G + F0) depth is n ⟨0, none, pubVars sc.scopeName args vars st, pubSt sc.scopeName args st⟩
      (br, vars', s'))
    (hclr : clear sc.scopeName vars' = clear sc.scopeName (pubVars sc.scopeName args vars st)) (k : Nat) :
    runScriptCmdF depth (k + B) name args vars st =
      (resultOf br, clear sc.scopeName vars,
        { s' with coll := { tbl := tremove s'.coll.tbl (Coll.handleName st.coll.next), next := s'.coll.next },
                  ctx := st.ctx }) := by
  rw [clear_pubVars] at hclr
  rw [runScriptCmdF_of_ends hf hp hamount hne hF hn hrun (by rw [hclr]; exact clear_length_le _ _), hclr]

/-! ### a `for … in` block that an iteration may leave by ending the run -/

section
variable {F d : Nat} {is : List Instruction} {a b : Nat} {v hv : Str} {fo : Option Str} {vars : Vars} {s : ScriptSt}

/-- The whole block from its `for` line, the handle variable naming the array `L`: `ForBlock.loop`
    entered as `ForBlock.run` enters `ForBlock.loop_steps`.  `J 0` is asked of the state in which
    the `for` line has looked its block up. -/
theorem ForBlock.run_ends (hB : ForBlock is a b v hv) {scope X : Str} {L : List Item}
    {Φ : BodyResult × Vars × ScriptSt → Prop} (J : Nat → Vars → ScriptSt → Prop) (F0 cb te T : Nat) (hT : cb + 2 + te ≤ T)
    (stableV : ∀ i vars s y, J i vars s → J i (vars.set v y) s)
    (stableS : ∀ i vars s st, J i vars s → J i vars { s with forStack := st })
    (body : ∀ i x vars' s' fo, L[i]? = some x → LoopSt scope b hv X L vars' s' →
      s'.forStack = ⟨i + 1, a, b, scope⟩ :: s.forStack → vars'.get v = some x.render → J i vars' s' →
      (∃ r, (∀ G, Ends (G + F0) (d + 1) is T ⟨a + 1, fo, vars', s'⟩ r) ∧ Φ r) ∨
      ∃ fo' vars2 s2, (∀ G, Steps (G + F0) (d + 1) is cb ⟨a + 1, fo, vars', s'⟩ ⟨b, fo', vars2, s2⟩) ∧
        LoopSt scope b hv X L vars2 s2 ∧ s2.forStack = s'.forStack ∧ J (i + 1) vars2 s2)
    (exit : ∀ vars' s', LoopSt scope b hv X L vars' s' → s'.forStack = s.forStack → J L.length vars' s' →
      ∃ r, (∀ G, Ends (G + F0) (d + 1) is te ⟨b + 1, none, vars', s'⟩ r) ∧ Φ r)
    (hctx : s.ctx = scope) (hpop : popFor a scope false s.forStack = (none, s.forStack))
    (hc : CacheOK s.forMeta (lineKey scope a) b) (hX : (vars.get hv).getD [] = X) (hL : tget s.coll.tbl X = some (.list L))
    (hJ : J 0 vars (forSt s a b)) :
    ∃ r, (∀ G, Ends (G + F0) (d + 1) is ((cb + 2) * L.length + (T - (cb + 2)) + 1) ⟨a, fo, vars, s⟩ r) ∧ Φ r := by
  have henter := fun G => hB.enter_pop (F := G + F0) (d := d) (fo := fo) (vars := vars) hctx hpop hc
  have hS0 : LoopSt scope b hv X L vars (forSt s a b) := ⟨hctx, forSt_endT hctx a b, hX, hL⟩
  simp only [forNext, hX, hS0.next] at henter
  cases L with
  | nil =>
    obtain ⟨r, hr, hΦ⟩ := exit vars { forSt s a b with forStack := s.forStack } ⟨hctx, hS0.endT, hX, hL⟩ rfl
      (stableS _ _ _ _ hJ)
    exact ⟨r, fun G => ((henter G).ends (hr G)).mono (by simp only [List.length_nil]; omega), hΦ⟩
  | cons x r =>
    simp only [List.getElem?_cons_zero, Option.map_some] at henter
    obtain ⟨r', hr, hΦ⟩ := hB.loop (d := d) (fs := s.forStack) J F0 cb te T hT stableV stableS body exit r.length 0 x
      (vars.set v x.render) { forSt s a b with forStack := ⟨0 + 1, a, b, (forSt s a b).ctx⟩ :: s.forStack } none
      (by simp) rfl ⟨hctx, hS0.endT, by rw [get_set, if_neg hB.ne]; exact hX, hL⟩
      (by rw [show (forSt s a b).ctx = scope from hctx]) (by rw [get_set, if_pos rfl]) (stableS _ _ _ _ (stableV _ _ _ _ hJ))
    exact ⟨r', fun G => ((henter G).ends (hr G)).mono (by have := Nat.mul_add_one (cb + 2) r.length; simp only [List.length_cons]; omega), hΦ⟩

end

end Duck.ScriptRun
