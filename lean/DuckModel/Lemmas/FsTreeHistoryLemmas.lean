/-
  C18 over HISTORIES — definitions used in the statements of Props/C18History.lean and the
  lemmas behind them:

  * `apart a q`            : `q` is neither `a`, an ancestor of `a`, nor inside `a`;
  * `Op.args`, `Op.paths`  : the path arguments of a command (for `mv` plus the computed target);
  * `Apart op q`, `Unrelated op t q` : `q` is apart from every path argument of `op`
                             (tree-free / with `mvTarget`);
  * `Node.WF`              : the well-formedness invariant of a tree;
  * `P.OK`, `Op.ArgsOK`    : every component of a command path is a normal file name;
  * `treeAfter t ops`      : the tree after a history.

  Lemmas: the SHAPE of what each mutating command does to the tree (unchanged, or one of
  putAt / mkdirs / removeAt), hence every command is a sequence of such edits at its own paths
  (`Edits`); frame and preservation of `WF` for the three edits and, by induction over `Edits`,
  for every command.
-/
import DuckModel.Sdk.FsTree
import DuckModel.Lemmas.FsTreeLemmas

namespace Duck.FsTree
open Duck

/-! ### definitions used in the statements -/

/-- `q` is not related to the path `a`: it is not a prefix of `a` (`a` itself or an ancestor of
    `a`) and `a` is not a prefix of it (`q` is not inside `a`) -/
def apart (a q : List Str) : Bool := !decide (q <+: a) && !decide (a <+: q)

/-- the path arguments of a command -/
def Op.args : Op → List (List Str)
  | .writeText p _ => [p.comps]
  | .appendText p _ => [p.comps]
  | .readText p => [p.comps]
  | .writeBytes p _ => [p.comps]
  | .readBytes p => [p.comps]
  | .touch p => [p.comps]
  | .mkdir p => [p.comps]
  | .cp s d => [s.comps, d.comps]
  | .mv s d => [s.comps, d.comps]
  | .rm _ p => [p.comps]
  | .rmdir p => [p.comps]
  | .pathExists p => [p.comps]
  | .isFile p => [p.comps]
  | .isDir p => [p.comps]
  | .fileSize p => [p.comps]
  | .ls p => [p.comps]

/-- the paths a command can touch in the tree `t`: its path arguments and, for `mv`, the target
    the code's file-vs-directory rule computes (for `cp` the target is the destination itself) -/
def Op.paths (t : Node) : Op → List (List Str)
  | .mv s d => [s.comps, d.comps, mvTarget t s d]
  | op => op.args

/-- `q` is apart from every path argument of `op` (no tree needed) -/
def Apart (op : Op) (q : List Str) : Bool := op.args.all (apart · q)

/-- `q` is unrelated to the command `op` run in the tree `t`: apart from every path argument and
    from the computed target of `mv` -/
def Unrelated (op : Op) (t : Node) (q : List Str) : Bool := (op.paths t).all (apart · q)

/-- the commands that only ask: readfile, readbinfile, is_path_exists, is_file, is_dir,
    get_file_size, the listing -/
def Op.isQuery : Op → Bool
  | .readText _ => true
  | .readBytes _ => true
  | .pathExists _ => true
  | .isFile _ => true
  | .isDir _ => true
  | .fileSize _ => true
  | .ls _ => true
  | _ => false

/-- a normal file name: not empty, no separator, not `.` or `..` (Bool form of `PlainName`) -/
def nameOk (c : Str) : Bool := !c.isEmpty && !c.contains '/' && c != ['.'] && c != ['.', '.']

mutual
  /-- well-formed tree: in every directory, every entry name is a normal file name and no two
      entries have the same name -/
  def Node.wf : Node → Bool
    | .file _ => true
    | .dir es => Entries.wf es
  def Entries.wf : Entries → Bool
    | .nil => true
    | .cons n x r => nameOk n && (r.get n).isNone && Node.wf x && Entries.wf r
end

def Node.WF (t : Node) : Prop := t.wf = true
def Entries.WF (es : Entries) : Prop := es.wf = true

instance (t : Node) : Decidable t.WF := inferInstanceAs (Decidable (_ = true))
instance (es : Entries) : Decidable es.WF := inferInstanceAs (Decidable (_ = true))

/-- every component of the path is a normal file name -/
def P.OK (p : P) : Prop := ∀ c ∈ p.comps, nameOk c = true

instance (p : P) : Decidable p.OK := inferInstanceAs (Decidable (∀ c ∈ p.comps, nameOk c = true))

/-- every path argument of the command consists of normal file names -/
def Op.ArgsOK (op : Op) : Prop := ∀ a ∈ op.args, ∀ c ∈ a, nameOk c = true

instance (op : Op) : Decidable op.ArgsOK :=
  inferInstanceAs (Decidable (∀ a ∈ op.args, ∀ c ∈ a, nameOk c = true))

/-- the tree after a history -/
def treeAfter (t : Node) (ops : List Op) : Node := ops.foldl (fun t op => (step t op).1) t

/-! ### apart -/

theorem apart_iff {a q : List Str} : apart a q = true ↔ ¬ q <+: a ∧ ¬ a <+: q := by
  simp [apart]

theorem nameOk_iff (c : Str) : nameOk c = true ↔ PlainName c := by
  simp [nameOk, PlainName, and_assoc]

/-- a path apart from `a` is apart from everything below `a` -/
theorem apart_append {a q : List Str} (h : apart a q = true) (x : List Str) :
    apart (a ++ x) q = true := by
  rw [apart_iff] at h ⊢
  obtain ⟨h1, h2⟩ := h
  refine ⟨?_, ?_⟩
  · intro hq
    rcases List.prefix_or_prefix_of_prefix hq (List.prefix_append a x) with h | h
    · exact h1 h
    · exact h2 h
  · intro hq
    exact h2 ((List.prefix_append a x).trans hq)

theorem apart_mvTarget {t : Node} {s d : P} {q : List Str} (h : apart d.comps q = true) :
    apart (mvTarget t s d) q = true := by
  unfold mvTarget
  split
  · exact h
  · exact apart_append h _

/-! ### the tree after a history -/

@[simp] theorem treeAfter_nil (t : Node) : treeAfter t [] = t := rfl

@[simp] theorem treeAfter_cons (t : Node) (op : Op) (ops : List Op) :
    treeAfter t (op :: ops) = treeAfter (step t op).1 ops := rfl

theorem treeAfter_append (t : Node) (a b : List Op) :
    treeAfter t (a ++ b) = treeAfter (treeAfter t a) b := by
  simp [treeAfter, List.foldl_append]

theorem run_append (t : Node) (a b : List Op) :
    run t (a ++ b) = run t a ++ run (treeAfter t a) b := by
  induction a generalizing t with
  | nil => rfl
  | cons op rest ih => simp [run, ih]

/-- every tree of the trace is the tree after a prefix of the history -/
theorem mem_run {t : Node} {ops : List Op} {x : Res × Node} (h : x ∈ run t ops) :
    ∃ pre op post, ops = pre ++ op :: post ∧
      x = ((step (treeAfter t pre) op).2, treeAfter t (pre ++ [op])) := by
  induction ops generalizing t with
  | nil => simp [run] at h
  | cons op rest ih =>
    simp only [run, List.mem_cons] at h
    rcases h with h | h
    · exact ⟨[], op, rest, rfl, by simp [h]⟩
    · obtain ⟨pre, op', post, he, hx⟩ := ih h
      exact ⟨op :: pre, op', post, by simp [he], by simpa using hx⟩

/-! ### the shape of each mutating command -/

theorem writeGen_shape (t : Node) (p : P) (data : Bytes) (app : Bool) :
    (writeGen t p data app).1 = t ∨
    ∃ content, putAt t p.comps (.file content) = some (writeGen t p data app).1 ∧
      ∀ es, lookup t p.comps ≠ some (.dir es) := by
  rcases writeGen_cases t p data app with ⟨r, h, _⟩ | ⟨t', h, _, hnd, hp⟩ <;> rw [h]
  · exact .inl rfl
  · exact .inr ⟨_, hp, hnd⟩

theorem touch_shape (t : Node) (p : P) :
    (touch t p).1 = t ∨
    (putAt t p.comps (.file []) = some (touch t p).1 ∧ lookup t p.comps = none) := by
  rcases touch_cases t p with ⟨r, h, _⟩ | ⟨b, _, h⟩ | ⟨t', hl, hp, h⟩ <;> rw [h]
  · exact .inl rfl
  · exact .inl rfl
  · exact .inr ⟨hp, hl⟩

theorem mkdir_shape (t : Node) (p : P) :
    (mkdir t p).1 = t ∨ mkdirs t p.comps = some (mkdir t p).1 := by
  rcases mkdir_cases t p with h | ⟨t', hm, h⟩ <;> rw [h]
  · exact .inl rfl
  · exact .inr hm

theorem cp_shape (t : Node) (src dst : P) :
    (cp t src dst).1 = t ∨
    ∃ b, putAt t dst.comps (.file b) = some (cp t src dst).1 ∧
      ∀ es, lookup t dst.comps ≠ some (.dir es) := by
  rcases cp_cases t src dst with ⟨r, h, _⟩ | ⟨b, _, ⟨_, h⟩ | ⟨t', _, hnd, hp, h⟩⟩ <;> rw [h]
  · exact .inl rfl
  · exact .inl rfl
  · exact .inr ⟨b, hp, hnd⟩

theorem mv_shape (t : Node) (src dst : P) :
    (mv t src dst).1 = t ∨
    (∃ b t1, putAt t dst.comps (.file b) = some t1 ∧ (mv t src dst).1 = removeAt t1 src.comps) ∨
    (∃ b t1 t2, mkdirs t dst.comps = some t1 ∧
      putAt t1 (mvTarget t src dst) (.file b) = some t2 ∧
      (mv t src dst).1 = removeAt t2 src.comps) := by
  rcases mv_cases t src dst with
    ⟨r, h, _⟩ | ⟨b, _, ⟨t1, _, hp, h⟩ | ⟨t1, t2, _, hmk, _, hp, h⟩⟩ <;> rw [h]
  · exact .inl rfl
  · exact .inr (.inl ⟨b, t1, hp, rfl⟩)
  · exact .inr (.inr ⟨b, t1, t2, hmk, hp, rfl⟩)

theorem rm_shape (t : Node) (r : Bool) (p : P) :
    (rm t r p).1 = t ∨ (rm t r p).1 = removeAt t p.comps := by
  rcases rm_cases t r p with h | ⟨_, h⟩ | ⟨_, h⟩ <;> rw [h]
  · exact .inl rfl
  · exact .inl rfl
  · exact .inr rfl

theorem rmdir_shape (t : Node) (p : P) :
    (rmdir t p).1 = t ∨ (rmdir t p).1 = removeAt t p.comps := by
  rcases rmdir_cases t p with h | h | h <;> rw [h]
  · exact .inl rfl
  · exact .inl rfl
  · exact .inr rfl

/-! ### a command that does not report success returns the tree it was given -/

theorem step_same_or_ok (t : Node) (op : Op) : (step t op).1 = t ∨ (step t op).2 = .ok .unit := by
  have wr : ∀ p data app, (writeGen t p data app).1 = t ∨ (writeGen t p data app).2 = .ok .unit := by
    intro p data app
    rcases writeGen_cases t p data app with ⟨r, h, _⟩ | ⟨t', h, _⟩ <;> rw [h]
    · exact .inl rfl
    · exact .inr rfl
  cases op <;> try exact .inl rfl
  case writeText p s => exact wr p _ false
  case appendText p s => exact wr p _ true
  case writeBytes p b => exact wr p b false
  all_goals simp only [step]
  case touch p =>
    rcases touch_cases t p with ⟨r, h, _⟩ | ⟨b, _, h⟩ | ⟨t', _, _, h⟩ <;> rw [h]
    · exact .inl rfl
    · exact .inl rfl
    · exact .inr rfl
  case mkdir p =>
    rcases mkdir_cases t p with h | ⟨t', _, h⟩ <;> rw [h]
    · exact .inl rfl
    · exact .inr rfl
  case cp s d =>
    rcases cp_cases t s d with ⟨r, h, _⟩ | ⟨b, _, ⟨_, h⟩ | ⟨t', _, _, _, h⟩⟩ <;> rw [h]
    · exact .inl rfl
    · exact .inl rfl
    · exact .inr rfl
  case mv s d =>
    rcases mv_cases t s d with ⟨r, h, _⟩ | ⟨b, _, ⟨t1, _, _, h⟩ | ⟨t1, t2, _, _, _, _, h⟩⟩ <;> rw [h]
    · exact .inl rfl
    · exact .inr rfl
    · exact .inr rfl
  case rm r p =>
    rcases rm_cases t r p with h | ⟨_, h⟩ | ⟨_, h⟩ <;> rw [h]
    · exact .inl rfl
    · exact .inl rfl
    · exact .inr rfl
  case rmdir p =>
    rcases rmdir_cases t p with h | h | h <;> rw [h]
    · exact .inl rfl
    · exact .inl rfl
    · exact .inr rfl

/-! ### frame of mkdirs -/

/-- an existing directory, or a new one, at every prefix of the path -/
theorem lookup_mkdirs_prefix {t t' : Node} {p : List Str} (h : mkdirs t p = some t')
    (q : List Str) (hq : q <+: p) : ∃ es, lookup t' q = some (.dir es) := by
  by_cases hqp : q = p
  · subst hqp
    rcases mkdirs_some h with ⟨rfl, hd⟩ | ⟨_, hp⟩
    · exact hd
    · exact ⟨.nil, by simpa [empty] using lookup_putAt_self hp []⟩
  · rcases mkdirs_some h with ⟨rfl, es, hd⟩ | ⟨_, hp⟩
    · obtain ⟨r, hr, rfl⟩ := prefix_rest hq hqp
      exact lookup_prefix_dir hd hr
    · exact lookup_putAt_prefix hp q hq hqp

theorem lookup_mkdirs_incomp {t t' : Node} {p : List Str}
    (h : mkdirs t p = some t') (q : List Str) (h1 : ¬ q <+: p) (h2 : ¬ p <+: q) :
    lookup t' q = lookup t q := by
  rcases mkdirs_some h with ⟨rfl, _⟩ | ⟨_, hp⟩
  · rfl
  · exact lookup_putAt_incomp hp q h1 h2

theorem lookup_mkdirs_below {t t' : Node} {p : List Str} (h : mkdirs t p = some t')
    (r : List Str) (hr : r ≠ []) : lookup t' (p ++ r) = lookup t (p ++ r) := by
  rcases mkdirs_some h with ⟨rfl, _⟩ | ⟨hl, hp⟩
  · rfl
  · rw [lookup_putAt_self hp, lookup_append, hl]
    cases r with
    | nil => exact absurd rfl hr
    | cons x xs => rfl

/-- what is there before `create_dir_all` is there afterwards -/
theorem lookup_mkdirs_some {t t1 : Node} {d : List Str} (h : mkdirs t d = some t1)
    {q : List Str} {n : Node} (hq : lookup t q = some n) : ∃ n', lookup t1 q = some n' := by
  by_cases h2 : d <+: q
  · obtain ⟨r, rfl⟩ := h2
    by_cases hr : r = []
    · subst hr
      obtain ⟨es, he⟩ := lookup_mkdirs_prefix h d (List.prefix_refl d)
      exact ⟨_, by simpa using he⟩
    · exact ⟨n, by rw [lookup_mkdirs_below h r hr, hq]⟩
  · by_cases h1 : q <+: d
    · obtain ⟨es, he⟩ := lookup_mkdirs_prefix h q h1
      exact ⟨_, he⟩
    · exact ⟨n, by rw [lookup_mkdirs_incomp h q h1 h2, hq]⟩

/-- `create_dir_all p` changes the observation only at `p` and its ancestors -/
theorem stat_mkdirs_frame {t t' : Node} {p : List Str} (h : mkdirs t p = some t')
    (q : List Str) (hq : ¬ q <+: p) : stat t' q = stat t q := by
  by_cases hpq : p <+: q
  · obtain ⟨r, rfl⟩ := hpq
    have hr : r ≠ [] := by
      intro e; subst e; simp at hq
    simp [stat, lookup_mkdirs_below h r hr]
  · simp [stat, lookup_mkdirs_incomp h q hq hpq]

/-! ### every command is a sequence of primitive edits at its own paths -/

/-- `t'` arises from `t` by writing files, creating directories and deleting, at paths of `ps` -/
inductive Edits (ps : List (List Str)) : Node → Node → Prop
  | refl (t : Node) : Edits ps t t
  | put {t t1 t2 : Node} {p : List Str} {b : Bytes} :
      Edits ps t t1 → p ∈ ps → putAt t1 p (.file b) = some t2 → Edits ps t t2
  | mkdirs {t t1 t2 : Node} {p : List Str} :
      Edits ps t t1 → p ∈ ps → mkdirs t1 p = some t2 → Edits ps t t2
  | remove {t t1 : Node} {p : List Str} : Edits ps t t1 → p ∈ ps → Edits ps t (removeAt t1 p)

theorem edits_writeGen (t : Node) (p : P) (data : Bytes) (app : Bool) :
    Edits [p.comps] t (writeGen t p data app).1 := by
  rcases writeGen_shape t p data app with h | ⟨c, hp, _⟩
  · rw [h]; exact .refl t
  · exact .put (.refl t) (by simp) hp

theorem edits_step (t : Node) (op : Op) : Edits (op.paths t) t (step t op).1 := by
  cases op <;> simp only [step, Op.paths, Op.args]
  case writeText p s => exact edits_writeGen t p _ false
  case appendText p s => exact edits_writeGen t p _ true
  case writeBytes p b => exact edits_writeGen t p b false
  case touch p =>
    rcases touch_shape t p with h | ⟨hp, _⟩
    · rw [h]; exact .refl t
    · exact .put (.refl t) (by simp) hp
  case mkdir p =>
    rcases mkdir_shape t p with h | h
    · rw [h]; exact .refl t
    · exact .mkdirs (.refl t) (by simp) h
  case cp s d =>
    rcases cp_shape t s d with h | ⟨b, hp, _⟩
    · rw [h]; exact .refl t
    · exact .put (.refl t) (by simp) hp
  case mv s d =>
    rcases mv_shape t s d with h | ⟨b, t1, hp, h⟩ | ⟨b, t1, t2, hmk, hp, h⟩ <;> rw [h]
    · exact .refl t
    · exact .remove (.put (.refl t) (by simp) hp) (by simp)
    · exact .remove (.put (.mkdirs (.refl t) (by simp) hmk) (by simp) hp) (by simp)
  case rm r p =>
    rcases rm_shape t r p with h | h <;> rw [h]
    · exact .refl t
    · exact .remove (.refl t) (by simp)
  case rmdir p =>
    rcases rmdir_shape t p with h | h <;> rw [h]
    · exact .refl t
    · exact .remove (.refl t) (by simp)
  all_goals exact .refl t

/-! ### frame of one step and of a history -/

theorem stat_edits_apart {ps : List (List Str)} {t t' : Node} (h : Edits ps t t') (q : List Str)
    (hq : ∀ p ∈ ps, apart p q = true) : stat t' q = stat t q := by
  have hq' := fun p hp => apart_iff.mp (hq p hp)
  induction h with
  | refl => rfl
  | put _ hm hp ih => rw [← ih, stat, stat, lookup_putAt_incomp hp q (hq' _ hm).1 (hq' _ hm).2]
  | mkdirs _ hm hp ih => rw [← ih, stat, stat, lookup_mkdirs_incomp hp q (hq' _ hm).1 (hq' _ hm).2]
  | remove _ hm ih => rw [← ih, stat_removeAt_other _ _ q (hq' _ hm).2]

/-- being apart from the destination of `mv` already means being apart from the computed target:
    the tree argument of `Unrelated` adds nothing -/
theorem Unrelated_eq_Apart (op : Op) (t : Node) (q : List Str) : Unrelated op t q = Apart op q := by
  cases op <;> try rfl
  case mv s d =>
    simp only [Unrelated, Apart, Op.paths, Op.args, List.all_cons, List.all_nil, Bool.and_true]
    cases hd : apart d.comps q with
    | false => simp
    | true => simp [apart_mvTarget hd]

theorem stat_step_apart (t : Node) (op : Op) (q : List Str) (h : Apart op q = true) :
    stat (step t op).1 q = stat t q := by
  rw [← Unrelated_eq_Apart op t, Unrelated, List.all_eq_true] at h
  exact stat_edits_apart (edits_step t op) q h

theorem step_query (t : Node) (op : Op) (h : op.isQuery = true) : (step t op).1 = t := by
  cases op <;> first | rfl | simp [Op.isQuery] at h

/-- a history of commands each of which only asks or is apart from `q` -/
theorem stat_treeAfter_apart (t : Node) (ops : List Op) (q : List Str)
    (h : ∀ op ∈ ops, op.isQuery = true ∨ Apart op q = true) :
    stat (treeAfter t ops) q = stat t q := by
  induction ops generalizing t with
  | nil => rfl
  | cons op rest ih =>
    rw [treeAfter_cons, ih _ (fun o ho => h o (by simp [ho]))]
    rcases h op (by simp) with hq | ha
    · rw [step_query t op hq]
    · exact stat_step_apart t op q ha

/-! ### well-formedness -/

@[simp] theorem Node.WF_file (b : Bytes) : (Node.file b).WF := by
  simp [Node.WF, Node.wf]

@[simp] theorem Node.WF_dir (es : Entries) : (Node.dir es).WF ↔ es.WF := by
  simp [Node.WF, Entries.WF, Node.wf]

@[simp] theorem Entries.WF_nil : Entries.nil.WF := by
  simp [Entries.WF, Entries.wf]

theorem Entries.WF_cons (n : Str) (x : Node) (r : Entries) :
    (Entries.cons n x r).WF ↔ nameOk n = true ∧ r.get n = none ∧ x.WF ∧ r.WF := by
  simp [Entries.WF, Node.WF, Entries.wf, and_assoc]

theorem WF_empty : empty.WF := by simp [empty]

/-- what a well-formed directory holds under a name is well-formed, and the name is a normal one -/
theorem Entries.WF_get : ∀ {es : Entries} {c : Str} {ch : Node}, es.WF → es.get c = some ch →
    nameOk c = true ∧ ch.WF
  | .nil, c, ch, _, h => by simp [Entries.get] at h
  | .cons n x r, c, ch, hw, h => by
    rw [Entries.WF_cons] at hw
    by_cases hn : n = c
    · subst hn
      simp [Entries.get] at h
      subst h
      exact ⟨hw.1, hw.2.2.1⟩
    · simp [Entries.get, hn] at h
      exact Entries.WF_get hw.2.2.2 h

theorem Entries.WF_put : ∀ {es : Entries} {c : Str} {v : Node}, es.WF → nameOk c = true → v.WF →
    (es.put c v).WF
  | .nil, c, v, _, hc, hv => by simp [Entries.put, Entries.WF_cons, hc, hv, Entries.get]
  | .cons n x r, c, v, hw, hc, hv => by
    rw [Entries.WF_cons] at hw
    by_cases hn : n = c
    · simp [Entries.put, hn, Entries.WF_cons, hc, hv]
      exact ⟨hn ▸ hw.2.1, hw.2.2.2⟩
    · simp only [Entries.put, hn, if_false, Entries.WF_cons]
      exact ⟨hw.1, by rw [Entries.get_put_ne r v hn]; exact hw.2.1, hw.2.2.1,
        Entries.WF_put hw.2.2.2 hc hv⟩

theorem Entries.WF_erase : ∀ {es : Entries} (c : Str), es.WF → (es.erase c).WF
  | .nil, c, _ => by simp [Entries.erase]
  | .cons n x r, c, hw => by
    rw [Entries.WF_cons] at hw
    by_cases hn : n = c
    · simp only [Entries.erase, hn, if_true]
      exact Entries.WF_erase c hw.2.2.2
    · simp only [Entries.erase, hn, if_false, Entries.WF_cons]
      exact ⟨hw.1, by rw [Entries.get_erase, if_neg hn]; exact hw.2.1, hw.2.2.1,
        Entries.WF_erase c hw.2.2.2⟩

theorem WF_putAt {t t' : Node} {p : List Str} {new : Node} (h : putAt t p new = some t')
    (ht : t.WF) (hp : ∀ c ∈ p, nameOk c = true) (hn : new.WF) : t'.WF := by
  induction p generalizing t t' with
  | nil => simp [putAt] at h; subst h; exact hn
  | cons c cs ih =>
    obtain ⟨es, ch', rfl, hq, rfl⟩ := putAt_cons_some h
    rw [Node.WF_dir] at ht ⊢
    have hch : ((es.get c).getD empty).WF := by
      cases hg : es.get c with
      | none => exact WF_empty
      | some ch => exact (Entries.WF_get ht hg).2
    exact Entries.WF_put ht (hp c (by simp)) (ih hq hch fun x hx => hp x (by simp [hx]))

theorem WF_mkdirs {t t' : Node} {p : List Str} (h : mkdirs t p = some t')
    (ht : t.WF) (hp : ∀ c ∈ p, nameOk c = true) : t'.WF := by
  rcases mkdirs_some h with ⟨rfl, _⟩ | ⟨_, hq⟩
  · exact ht
  · exact WF_putAt hq ht hp WF_empty

/-- deleting keeps a tree well-formed — whatever the path is made of -/
theorem WF_removeAt (t : Node) (p : List Str) (ht : t.WF) : (removeAt t p).WF := by
  induction p generalizing t with
  | nil => cases t <;> exact ht
  | cons c cs ih =>
    cases t with
    | file b => exact ht
    | dir es =>
      rw [Node.WF_dir] at ht
      cases cs with
      | nil => rw [removeAt_dir_single, Node.WF_dir]; exact Entries.WF_erase c ht
      | cons x xs =>
        rw [removeAt_dir_cons2]
        cases hg : es.get c with
        | none => simpa using ht
        | some ch =>
          obtain ⟨hc, hch⟩ := Entries.WF_get ht hg
          simp only [Node.WF_dir]
          exact Entries.WF_put ht hc (ih ch hch)

theorem nameOk_mvTarget {t : Node} {s d : P} (hs : ∀ c ∈ s.comps, nameOk c = true)
    (hd : ∀ c ∈ d.comps, nameOk c = true) : ∀ c ∈ mvTarget t s d, nameOk c = true := by
  intro c hc
  unfold mvTarget at hc
  split at hc
  · exact hd c hc
  · rw [List.mem_append] at hc
    rcases hc with hc | hc
    · exact hd c hc
    · cases hl : s.comps.getLast? with
      | none => simp [hl] at hc
      | some x =>
        simp [hl] at hc
        subst hc
        exact hs _ (List.mem_of_getLast? hl)

theorem WF_edits {ps : List (List Str)} {t t' : Node} (h : Edits ps t t') (ht : t.WF)
    (hps : ∀ p ∈ ps, ∀ c ∈ p, nameOk c = true) : t'.WF := by
  induction h with
  | refl => exact ht
  | put _ hm hp ih => exact WF_putAt hp ih (hps _ hm) (by simp)
  | mkdirs _ hm hp ih => exact WF_mkdirs hp ih (hps _ hm)
  | remove _ _ ih => exact WF_removeAt _ _ ih

/-- one step keeps a well-formed tree well-formed when the command's paths are made of normal
    names -/
theorem WF_step {t : Node} (op : Op) (ht : t.WF) (hop : op.ArgsOK) : (step t op).1.WF := by
  refine WF_edits (edits_step t op) ht ?_
  cases op <;> try exact hop
  case mv s d =>
    simp only [Op.ArgsOK, Op.args, Op.paths, List.mem_cons, List.mem_nil_iff, or_false,
      forall_eq_or_imp, forall_eq] at hop ⊢
    exact ⟨hop.1, hop.2, nameOk_mvTarget hop.1 hop.2⟩

theorem WF_treeAfter {t : Node} (ops : List Op) (ht : t.WF) (hops : ∀ op ∈ ops, op.ArgsOK) :
    (treeAfter t ops).WF := by
  induction ops generalizing t with
  | nil => exact ht
  | cons op rest ih =>
    rw [treeAfter_cons]
    exact ih (WF_step op ht (hops op (by simp))) (fun o ho => hops o (by simp [ho]))

/-! ### what `WF` says in plain terms -/

theorem Entries.get_none_iff : ∀ (es : Entries) (c : Str),
    es.get c = none ↔ c ∉ es.toList.map (·.1)
  | .nil, c => by simp [Entries.get, Entries.toList]
  | .cons n x r, c => by
    by_cases hn : n = c
    · simp [Entries.get, Entries.toList, hn]
    · have := Entries.get_none_iff r c
      simp [Entries.get, Entries.toList, hn, this, Ne.symm hn]

/-- the names of a well-formed directory are pairwise different normal file names -/
theorem Entries.WF_names : ∀ {es : Entries}, es.WF →
    (es.toList.map (·.1)).Nodup ∧ ∀ n ∈ es.toList.map (·.1), PlainName n
  | .nil, _ => by simp [Entries.toList]
  | .cons n x r, hw => by
    rw [Entries.WF_cons] at hw
    obtain ⟨ih1, ih2⟩ := Entries.WF_names hw.2.2.2
    have hnot := (Entries.get_none_iff r n).mp hw.2.1
    refine ⟨?_, ?_⟩
    · simp only [Entries.toList, List.map_cons, List.nodup_cons]
      exact ⟨hnot, ih1⟩
    · intro m hm
      simp only [Entries.toList, List.map_cons, List.mem_cons] at hm
      rcases hm with hm | hm
      · rw [hm]; exact (nameOk_iff n).mp hw.1
      · exact ih2 m hm

/-- … and conversely -/
theorem Entries.WF_of_names : ∀ {es : Entries},
    (es.toList.map (·.1)).Nodup → (∀ n ∈ es.toList.map (·.1), PlainName n) →
    (∀ n x, (n, x) ∈ es.toList → x.WF) → es.WF
  | .nil, _, _, _ => by simp
  | .cons n x r, h1, h2, h3 => by
    simp only [Entries.toList, List.map_cons, List.nodup_cons] at h1
    rw [Entries.WF_cons]
    refine ⟨(nameOk_iff n).mpr (h2 n (by simp [Entries.toList])),
      (Entries.get_none_iff r n).mpr h1.1, h3 n x (by simp [Entries.toList]), ?_⟩
    exact Entries.WF_of_names h1.2 (fun m hm => h2 m (by simp [Entries.toList, hm]))
      (fun m y hy => h3 m y (by simp [Entries.toList, hy]))

/-- everything found below a well-formed tree is well-formed -/
theorem WF_lookup {t : Node} {q : List Str} {n : Node} (ht : t.WF) (h : lookup t q = some n) :
    n.WF := by
  induction q generalizing t with
  | nil => simp at h; subst h; exact ht
  | cons c cs ih =>
    obtain ⟨es, ch, rfl, hg, h⟩ := lookup_cons_some h
    exact ih (Entries.WF_get ((Node.WF_dir es).mp ht) hg).2 h

/-! ### parsed paths -/

theorem mem_splitSlash_noslash (s : Str) : ∀ seg ∈ splitSlash s, '/' ∉ seg := by
  induction s with
  | nil => simp [splitSlash]
  | cons c r ih =>
    obtain ⟨seg, segs, h⟩ := splitSlash_ne_nil r
    rw [h] at ih
    rw [splitSlash_cons c h]
    by_cases hc : c = '/'
    · simp only [hc, if_true]
      intro x hx
      simp only [List.mem_cons] at hx
      rcases hx with hx | hx
      · subst hx; simp
      · exact ih x (by simpa using hx)
    · simp only [hc, if_false]
      intro x hx
      simp only [List.mem_cons] at hx
      rcases hx with hx | hx
      · subst hx
        have := ih seg (by simp)
        simp [this, Ne.symm hc]
      · exact ih x (by simp [hx])

/-- every path the commands' path parser accepts consists of normal file names -/
theorem parsePath_ok {s : Str} {p : P} (h : parsePath s = some p) : p.OK := by
  unfold parsePath at h
  simp only at h
  split at h
  · cases h
  · next hdd =>
    split at h
    · cases h
    · split at h
      · cases h
      · cases h
        intro c hc
        simp only [List.mem_filter] at hc
        obtain ⟨hm, hj⟩ := hc
        have hns := mem_splitSlash_noslash s c hm
        simp only [nameOk, Bool.and_eq_true, Bool.not_eq_true', bne_iff_ne, ne_eq]
        simp only [Bool.not_eq_true', Bool.or_eq_false_iff] at hj
        refine ⟨⟨⟨hj.1, by simpa using hns⟩, by simpa using hj.2⟩, ?_⟩
        intro e
        subst e
        exact hdd (by simpa using hm)
/-! ### reading what `stat` shows -/

theorem lookup_of_stat_file {t : Node} {q : List Str} {b : Bytes}
    (h : stat t q = some (.file b)) : lookup t q = some (.file b) := by
  unfold stat at h
  cases hl : lookup t q with
  | none => simp [hl] at h
  | some n => cases n <;> simp_all [Node.obs]

/-- LAST WRITER WINS, for the shared body of the writing commands: a command `op` that is a
    successful overwrite of `p` with `data`, followed by commands that only ask or stay apart from
    `p`, leaves `data` to be read at `p` -/
theorem resolve_after_last_write (t : Node) (pre post : List Op) (op : Op) (p : P) (data : Bytes)
    (v : Val) (hop : ∀ t, step t op = writeGen t p data false)
    (hw : (step (treeAfter t pre) op).2 = .ok v)
    (hpost : ∀ o ∈ post, o.isQuery = true ∨ Apart o p.comps = true) :
    resolve (treeAfter t (pre ++ op :: post)) p = some (.file data) := by
  have hw' : writeGen (treeAfter t pre) p data false = ((step (treeAfter t pre) op).1, .ok v) := by
    rw [← hw, ← hop]
  obtain ⟨htr, _, hp⟩ := writeGen_ok_new hw'
  have hend : stat (treeAfter t (pre ++ op :: post)) p.comps = some (.file data) := by
    rw [treeAfter_append, treeAfter_cons, stat_treeAfter_apart _ post _ hpost]
    simpa [Node.obs] using stat_putAt_self hp
  exact resolve_file_iff.mpr ⟨lookup_of_stat_file hend, htr⟩

end Duck.FsTree
