/-
  Lemmas about rendered arguments: `escape`, `renderArg`, `renderArgs` against
  `pvLoop` / `parseNextValue` / `parseArgsLoop`.
-/
import DuckModel.Lemmas.PvLemmas

namespace Duck
open Duck.Spec

theorem escape_nil : escape [] = [] := rfl

theorem escape_cons (c : Char) (s : Str) : escape (c :: s) = escChar c ++ escape s := by
  simp [escape]

theorem escape_append (a b : Str) : escape (a ++ b) = escape a ++ escape b := by
  simp [escape, List.flatMap_append]

/-! ### escaped text inside an argument -/

/-- characters of an argument that may be written without quotes: only the space character and
    `#` end an unquoted token (tab, CR, LF, `\` and `"` are written escaped; any other character,
    white space such as U+00A0 included, is written raw and accumulated by the scanner) -/
def UnqChar (c : Char) : Prop := c ≠ ' ' ∧ c ≠ '#'

/-- a character is written raw, or as a backslash and a visible character -/
theorem escChar_shape (c : Char) :
    escChar c = [c] ∨ ∃ d, escChar c = ['\\', d] ∧ isWs d = false := by
  fun_cases escChar c <;> simp <;> decide

theorem pvLoop_escChar (uq : Bool) (c : Char) (acc l : Str) (h : uq = true ∨ UnqChar c) :
    pvLoop (argFlags false) { arg := acc, inArg := true, usingQuotes := uq } (escChar c ++ l) =
      pvLoop (argFlags false) { arg := acc ++ [c], inArg := true, usingQuotes := uq } l := by
  -- an escape pair takes two steps: `\` sets `inControl` (`argFlags false` allows control), the
  -- second character is mapped back and clears it; a raw character is appended, unless it
  -- would end the token: outside quotes that is what `UnqChar` excludes
  fun_cases escChar c <;> rcases h with rfl | ⟨h1, h2⟩ <;> simp [pvLoop, pvStep, argFlags, *]

/-- inside an argument the escaped text of `s` is read back as `s`, whatever follows: always
    inside quotes, and outside them when no character of `s` ends the token -/
theorem pvLoop_escape (uq : Bool) (s acc tail : Str) (h : uq = true ∨ ∀ c ∈ s, UnqChar c) :
    pvLoop (argFlags false) { arg := acc, inArg := true, usingQuotes := uq } (escape s ++ tail) =
      pvLoop (argFlags false) { arg := acc ++ s, inArg := true, usingQuotes := uq } tail := by
  induction s generalizing acc with
  | nil => simp [escape]
  | cons c t ih =>
    rw [escape_cons, List.append_assoc, pvLoop_escChar uq c acc _ (h.imp_right (· c (by simp))),
      ih _ (h.imp_right fun h x hx => h x (by simp [hx]))]
    simp

theorem pvLoop_open_quote (l : Str) :
    pvLoop (argFlags false) {} ('"' :: l) =
      pvLoop (argFlags false) { arg := [], inArg := true, usingQuotes := true } l := by
  rw [pvLoop]; simp [pvStep, argFlags]

theorem parseNextValue_quoted (s tail : Str) :
    parseNextValue (argFlags false) ('"' :: (escape s ++ '"' :: tail)) = .ok (tail, some s) := by
  rw [parseNextValue_eq, pvLoop_open_quote, pvLoop_escape true _ _ _ (Or.inl rfl), pvLoop]
  cases s <;> simp [pvStep, pvFinish]

theorem pvLoop_unquoted_first (c : Char) (l : Str) (h : UnqChar c) (hq : c ≠ '"') :
    pvLoop (argFlags false) {} (escChar c ++ l) =
      pvLoop (argFlags false) { arg := [c], inArg := true } l := by
  -- as above, from the state outside an argument: the first character opens it (`"` would open
  -- quotes instead, hence `hq`)
  fun_cases escChar c <;> simp [pvLoop, pvStep, argFlags, h.1, h.2, *]

/-- `canUnquote` unfolded: non-empty, no space and no `#` anywhere, first and last character not
    white space (the line is trimmed), first character neither `"` nor `=` -/
theorem canUnquote_iff (s : Str) :
    canUnquote s = true ↔
      s ≠ [] ∧ (∀ c ∈ s, UnqChar c) ∧ (∀ c, s.head? = some c → isWs c = false) ∧
        (∀ c, s.getLast? = some c → isWs c = false) ∧
        s.head? ≠ some '"' ∧ s.head? ≠ some '=' := by
  cases hh : s.head? <;> cases hl : s.getLast? <;>
    simp [canUnquote, UnqChar, and_assoc, hh, hl]

theorem parseNextValue_unquoted (s tail : Str) (h : canUnquote s = true) (hb : Bnd false tail) :
    parseNextValue (argFlags false) (escape s ++ tail) = .ok (afterTok tail, some s) := by
  obtain ⟨hne, hall, _, _, hq, _⟩ := (canUnquote_iff s).mp h
  cases s with
  | nil => exact absurd rfl hne
  | cons c t =>
    rw [parseNextValue_eq, escape_cons, List.append_assoc,
      pvLoop_unquoted_first c _ (hall c (by simp)) (by simpa using hq),
      pvLoop_escape false t [c] tail (Or.inr fun x hx => hall x (by simp [hx]))]
    exact pv_finish_at_bnd (argFlags false) ([c] ++ t) tail (by simp) hb

/-- an argument with an inner no-break space (U+00A0, Unicode white space but not the space
    character) may be written without quotes … -/
example : canUnquote ['a', '\u00a0', 'b'] = true := by decide +kernel

/-- … but not one that starts or ends with it (the line is trimmed), nor one with a space -/
example : canUnquote ['a', '\u00a0'] = false ∧ canUnquote ['\u00a0', 'a'] = false ∧
    canUnquote ['a', ' ', 'b'] = false := by decide +kernel

/-! ### one rendered argument -/

/-- an argument is rendered in quotes, or (only when it may be) without -/
theorem renderArg_cases (q : Bool) (s : Str) :
    renderArg q s = '"' :: (escape s ++ ['"']) ∨ canUnquote s = true ∧ renderArg q s = escape s := by
  unfold renderArg
  cases q <;> cases canUnquote s <;> simp

theorem renderArg_head (q : Bool) (a : Str) :
    ∃ c r, renderArg q a = c :: r ∧ c ≠ ' ' ∧ c ≠ '=' ∧ isWs c = false := by
  rcases renderArg_cases q a with h | ⟨hcu, h⟩ <;> rw [h]
  · exact ⟨'"', _, rfl, by decide, by decide, by decide⟩
  · obtain ⟨hne, _, hfirst, _, hq, heq⟩ := (canUnquote_iff a).mp hcu
    cases a with
    | nil => exact absurd rfl hne
    | cons c t =>
      have hws : isWs c = false := hfirst c rfl
      obtain ⟨w1, w2, w3, w4⟩ := isWs_false_ne hws
      rw [escape_cons]
      rcases escChar_shape c with h | ⟨d, h, _⟩ <;> rw [h]
      · exact ⟨c, escape t, rfl, w1, by simpa using heq, hws⟩
      · exact ⟨'\\', d :: escape t, rfl, by decide, by decide, by decide⟩

theorem parseNextValue_renderArg (q : Bool) (s tail : Str) (hb : Bnd false tail) :
    ∃ r, parseNextValue (argFlags false) (renderArg q s ++ tail) = .ok (r, some s) ∧
      (r = tail ∨ r = afterTok tail) := by
  rcases renderArg_cases q s with h | ⟨hcu, h⟩ <;> rw [h]
  · exact ⟨tail, by simpa using parseNextValue_quoted s tail, Or.inl rfl⟩
  · exact ⟨afterTok tail, parseNextValue_unquoted s tail hcu hb, Or.inr rfl⟩

/-! ### `parseArgsLoop` -/

theorem parseArgsLoop_none (cac : Bool) (l r : Str)
    (h1 : parseNextValue (argFlags cac) l = .ok (r, none)) : parseArgsLoop cac l = .ok [] := by
  rw [parseArgsLoop_eq, h1]

theorem parseArgsLoop_step (cac : Bool) (l r a : Str) (as : List Str)
    (h1 : parseNextValue (argFlags cac) l = .ok (r, some a)) (h2 : r.length < l.length)
    (h3 : parseArgsLoop cac r = .ok as) : parseArgsLoop cac l = .ok (a :: as) := by
  rw [parseArgsLoop, h1]
  simp [h2, h3]

theorem parseArgsLoop_error (cac : Bool) (l : Str) (e : PErr)
    (h1 : parseNextValue (argFlags cac) l = .error e) : parseArgsLoop cac l = .error e := by
  rw [parseArgsLoop_eq, h1]

theorem renderArgs_nil (ch : List (Nat × Bool)) (k : Nat) : renderArgs ch k [] = [] := rfl

/-- the rendering of a non-empty argument list, in the shape the scanner lemmas take: the spaces,
    the first argument, the rest (and what follows) -/
theorem renderArgs_cons_append (ch : List (Nat × Bool)) (k : Nat) (a : Str) (as : List Str)
    (t : Str) :
    renderArgs ch k (a :: as) ++ t =
      spaces ((argChoice ch k).1 + 1) ++
        (renderArg (argChoice ch k).2 a ++ (renderArgs ch (k + 1) as ++ t)) := by
  simp [renderArgs]

theorem renderArgs_cons (ch : List (Nat × Bool)) (k : Nat) (a : Str) (as : List Str) :
    renderArgs ch k (a :: as) =
      ' ' :: (spaces (argChoice ch k).1 ++
        (renderArg (argChoice ch k).2 a ++ renderArgs ch (k + 1) as)) := by
  simp [renderArgs, spaces_succ]

theorem renderArgs_append_bnd (ch : List (Nat × Bool)) (k : Nat) (as : List Str) {t : Str}
    (h : Bnd false t) : Bnd false (renderArgs ch k as ++ t) := by
  cases as with
  | nil => exact h
  | cons a as => rw [renderArgs_cons]; exact Bnd.space _

theorem renderArgs_spTail (ch : List (Nat × Bool)) (k : Nat) (as : List Str) {t : Str}
    (h : SpTail t) : SpTail (renderArgs ch k as ++ t) := by
  cases as with
  | nil => exact h
  | cons a as => rw [renderArgs_cons]; exact Or.inr ⟨_, rfl⟩

theorem renderArgs_bnd (ch : List (Nat × Bool)) (k : Nat) (as : List Str) {t : Str}
    (h : EolTail t) : Bnd false (renderArgs ch k as ++ t) :=
  renderArgs_append_bnd ch k as h.bnd

theorem afterTok_renderArgs (ch : List (Nat × Bool)) (k : Nat) (as : List Str) {t : Str}
    (h : EolTail t) :
    ∃ t', EolTail t' ∧ afterTok (renderArgs ch k as ++ t) = renderArgs ch k as ++ t' := by
  cases as with
  | nil => exact ⟨afterTok t, h.afterTok, by simp [renderArgs_nil]⟩
  | cons a as => exact ⟨t, h, by rw [renderArgs_cons]; exact afterTok_space _⟩

theorem parseArgsLoop_eol (cac : Bool) {t : Str} (h : EolTail t) : parseArgsLoop cac t = .ok [] :=
  parseArgsLoop_none cac t [] (parseNextValue_eol _ h)

/-- rendered arguments are read back one by one, then the scan goes on with what follows them
    (`hat`: a `#` right after the last argument ends the line in either reading) -/
theorem parseArgsLoop_renderArgs (ch : List (Nat × Bool)) (args : List Str) {tail : Str}
    (hb : Bnd false tail) (hat : parseArgsLoop false (afterTok tail) = parseArgsLoop false tail) :
    ∀ k, parseArgsLoop false (renderArgs ch k args ++ tail) =
      match parseArgsLoop false tail with
      | .error e => .error e
      | .ok as => .ok (args ++ as) := by
  induction args with
  | nil => intro k; rw [renderArgs_nil, List.nil_append]; cases parseArgsLoop false tail <;> rfl
  | cons a as ih =>
    intro k
    obtain ⟨r, hr, hcase⟩ := parseNextValue_renderArg (argChoice ch k).2 a
      (renderArgs ch (k + 1) as ++ tail) (renderArgs_append_bnd ch (k + 1) as hb)
    have hrec : parseArgsLoop false r = parseArgsLoop false (renderArgs ch (k + 1) as ++ tail) := by
      rcases hcase with rfl | rfl
      · rfl
      · cases as with
        | nil => exact hat
        | cons b bs => rw [renderArgs_cons, List.cons_append, afterTok_space]
    rw [renderArgs_cons_append, parseArgsLoop_eq, parseNextValue_spaces, hr]
    simp only []
    rw [hrec, ih (k + 1)]
    cases parseArgsLoop false tail <;> rfl

/-- rendered arguments followed by an end-of-line-like tail are read back exactly -/
theorem parseArgsLoop_render (ch : List (Nat × Bool)) (args : List Str) (k : Nat) (t : Str)
    (ht : EolTail t) : parseArgsLoop false (renderArgs ch k args ++ t) = .ok args := by
  rw [parseArgsLoop_renderArgs ch args ht.bnd
    (by rw [parseArgsLoop_eol _ ht, parseArgsLoop_eol _ ht.afterTok]), parseArgsLoop_eol _ ht]
  simp

end Duck
