/-
  Lemmas about the file-tree model (C18): association-list entries; lookup after
  putAt / mkdirs / removeAt; `stat`; the path-string functions (`splitSlash`, `basename`,
  `dirname`, `squeeze`); `resolve`; and every command case by case (`cp_cases` …).
-/
import DuckModel.Sdk.FsTree

namespace Duck.FsTree
open Duck

/-! ### entries -/

theorem Entries.get_put : ∀ (es : Entries) (c d : Str) (v : Node),
    (es.put c v).get d = if d = c then some v else es.get d
  | .nil, c, d, v => by
    by_cases h : d = c
    · simp [Entries.put, Entries.get, h]
    · simp [Entries.put, Entries.get, h, Ne.symm h]
  | .cons n x r, c, d, v => by
    by_cases hn : n = c
    · subst hn
      by_cases h : d = n
      · simp [Entries.put, Entries.get, h]
      · simp [Entries.put, Entries.get, h, Ne.symm h]
    · by_cases hd : n = d
      · subst hd
        simp [Entries.put, Entries.get, hn]
      · simp [Entries.put, Entries.get, hn, hd, Entries.get_put r c d v]

theorem Entries.get_put_self (es : Entries) (c : Str) (v : Node) : (es.put c v).get c = some v := by
  rw [Entries.get_put, if_pos rfl]

theorem Entries.get_put_ne (es : Entries) {c d : Str} (v : Node) (h : d ≠ c) :
    (es.put c v).get d = es.get d := by
  rw [Entries.get_put, if_neg h]

theorem Entries.get_erase : ∀ (es : Entries) (c d : Str),
    (es.erase c).get d = if d = c then none else es.get d
  | .nil, c, d => by simp [Entries.erase, Entries.get]
  | .cons n x r, c, d => by
    by_cases hn : n = c
    · subst hn
      by_cases h : d = n
      · simp [Entries.erase, h, Entries.get_erase r n n]
      · simp [Entries.erase, Entries.get, h, Ne.symm h, Entries.get_erase r n d]
    · by_cases hd : n = d
      · subst hd
        simp [Entries.erase, Entries.get, hn]
      · simp [Entries.erase, Entries.get, hn, hd, Entries.get_erase r c d]

theorem Entries.put_put : ∀ (es : Entries) (c : Str) (a b : Node), (es.put c a).put c b = es.put c b
  | .nil, c, a, b => by simp [Entries.put]
  | .cons n x r, c, a, b => by
    by_cases h : n = c
    · simp [Entries.put, h]
    · simp [Entries.put, h, Entries.put_put r c a b]

theorem Entries.put_get_id : ∀ (es : Entries) (c : Str) (v : Node), es.get c = some v →
    es.put c v = es
  | .nil, c, v, h => by simp [Entries.get] at h
  | .cons n x r, c, v, h => by
    by_cases hn : n = c
    · simp [Entries.get, hn] at h
      simp [Entries.put, hn, h]
    · simp [Entries.get, hn] at h
      simp [Entries.put, hn, Entries.put_get_id r c v h]

theorem Entries.erase_missing : ∀ (es : Entries) (c : Str), es.get c = none → es.erase c = es
  | .nil, c, h => rfl
  | .cons n x r, c, h => by
    by_cases hn : n = c
    · simp [Entries.get, hn] at h
    · simp [Entries.get, hn] at h
      simp [Entries.erase, hn, Entries.erase_missing r c h]

/-! ### lookup -/

@[simp] theorem lookup_nil (t : Node) : lookup t [] = some t := by
  cases t <;> rfl

@[simp] theorem lookup_file_cons (b : Bytes) (c : Str) (cs : List Str) :
    lookup (.file b) (c :: cs) = none := rfl

theorem lookup_dir_cons (es : Entries) (c : Str) (cs : List Str) :
    lookup (.dir es) (c :: cs) = (es.get c).bind fun ch => lookup ch cs := by
  simp only [lookup]
  cases es.get c <;> rfl

theorem lookup_cons_some {t n : Node} {c : Str} {cs : List Str}
    (h : lookup t (c :: cs) = some n) :
    ∃ es ch, t = .dir es ∧ es.get c = some ch ∧ lookup ch cs = some n := by
  cases t with
  | file b => simp at h
  | dir es =>
    rw [lookup_dir_cons, Option.bind_eq_some_iff] at h
    obtain ⟨ch, hg, hl⟩ := h
    exact ⟨es, ch, rfl, hg, hl⟩

/-- below the first component, a missing child looks like an empty directory -/
theorem lookup_child (o : Option Node) {qs : List Str} (h : qs ≠ []) :
    lookup (o.getD empty) qs = o.bind fun ch => lookup ch qs := by
  cases o with
  | some ch => rfl
  | none =>
    cases qs with
    | nil => exact absurd rfl h
    | cons x xs => rfl

theorem lookup_append (t : Node) (p r : List Str) :
    lookup t (p ++ r) = (lookup t p).bind fun n => lookup n r := by
  induction p generalizing t with
  | nil => simp
  | cons c cs ih =>
    cases t with
    | file b => simp
    | dir es =>
      simp only [List.cons_append, lookup_dir_cons]
      cases es.get c with
      | none => rfl
      | some ch => simpa using ih ch

theorem lookup_prefix_dir {t : Node} {p r : List Str} {n : Node}
    (h : lookup t (p ++ r) = some n) (hr : r ≠ []) : ∃ es, lookup t p = some (.dir es) := by
  rw [lookup_append] at h
  cases hp : lookup t p with
  | none => simp [hp] at h
  | some m =>
    cases m with
    | dir es => exact ⟨es, rfl⟩
    | file b =>
      cases r with
      | nil => exact absurd rfl hr
      | cons x xs => simp [hp] at h

/-- a proper prefix of `p` is followed by a non-empty rest -/
theorem prefix_rest {q p : List Str} (h1 : q <+: p) (h2 : q ≠ p) : ∃ r, r ≠ [] ∧ q ++ r = p := by
  obtain ⟨r, hr⟩ := h1
  refine ⟨r, ?_, hr⟩
  intro e
  subst e
  exact h2 (by simpa using hr)

/-! ### putAt -/

theorem putAt_empty (r : List Str) (new : Node) : putAt empty r new = some (wrap r new) := by
  cases r with
  | nil => rfl
  | cons x xs => rfl

/-- one level of `putAt`; a missing child is created as an empty directory first -/
theorem putAt_dir_cons (es : Entries) (c : Str) (cs : List Str) (new : Node) :
    putAt (.dir es) (c :: cs) new =
      (putAt ((es.get c).getD empty) cs new).map fun ch' => .dir (es.put c ch') := by
  simp only [putAt]
  cases es.get c with
  | none => simp [putAt_empty]
  | some ch => simp only [Option.getD_some]; cases putAt ch cs new <;> rfl

theorem putAt_cons_some {t t' : Node} {c : Str} {cs : List Str} {new : Node}
    (h : putAt t (c :: cs) new = some t') :
    ∃ es ch', t = .dir es ∧ putAt ((es.get c).getD empty) cs new = some ch' ∧
      t' = .dir (es.put c ch') := by
  cases t with
  | file b => simp [putAt] at h
  | dir es =>
    rw [putAt_dir_cons, Option.map_eq_some_iff] at h
    obtain ⟨ch', hp, rfl⟩ := h
    exact ⟨es, ch', rfl, hp, rfl⟩

theorem lookup_putAt_self {t t' : Node} {p : List Str} {new : Node}
    (h : putAt t p new = some t') (r : List Str) : lookup t' (p ++ r) = lookup new r := by
  induction p generalizing t t' with
  | nil => simp [putAt] at h; subst h; rfl
  | cons c cs ih =>
    obtain ⟨es, ch', rfl, hp, rfl⟩ := putAt_cons_some h
    simp [lookup_dir_cons, Entries.get_put_self, ih hp]

theorem lookup_putAt_at {t t' : Node} {p : List Str} {new : Node}
    (h : putAt t p new = some t') : lookup t' p = some new := by
  simpa using lookup_putAt_self h []

theorem lookup_putAt_incomp {t t' : Node} {p : List Str} {new : Node}
    (h : putAt t p new = some t') (q : List Str) (h1 : ¬ q <+: p) (h2 : ¬ p <+: q) :
    lookup t' q = lookup t q := by
  induction p generalizing t t' q with
  | nil => exact absurd (List.nil_prefix) h2
  | cons c cs ih =>
    cases q with
    | nil => exact absurd (List.nil_prefix) h1
    | cons d qs =>
      obtain ⟨es, ch', rfl, hp, rfl⟩ := putAt_cons_some h
      rw [lookup_dir_cons, lookup_dir_cons, Entries.get_put]
      by_cases hcd : d = c
      · subst hcd
        simp only [List.cons_prefix_cons, true_and] at h1 h2
        have hqs : qs ≠ [] := fun e => h1 (e ▸ List.nil_prefix)
        rw [if_pos rfl, Option.bind_some, ih hp qs h1 h2, lookup_child _ hqs]
      · rw [if_neg hcd]

theorem lookup_putAt_prefix {t t' : Node} {p : List Str} {new : Node}
    (h : putAt t p new = some t') (q : List Str) (h1 : q <+: p) (h2 : q ≠ p) :
    ∃ es, lookup t' q = some (.dir es) := by
  induction p generalizing t t' q with
  | nil => exact absurd (List.prefix_nil.mp h1) h2
  | cons c cs ih =>
    obtain ⟨es, ch', rfl, hp, rfl⟩ := putAt_cons_some h
    cases q with
    | nil => exact ⟨_, rfl⟩
    | cons d qs =>
      rw [List.cons_prefix_cons] at h1
      obtain ⟨hd, hq⟩ := h1
      subst hd
      obtain ⟨es', he⟩ := ih hp qs hq (fun e => h2 (by rw [e]))
      exact ⟨es', by simp [lookup_dir_cons, Entries.get_put_self, he]⟩

theorem putAt_file_prefix_none {t : Node} {s : List Str} {b : Bytes}
    (h : lookup t s = some (.file b)) (r : List Str) (hr : r ≠ []) (new : Node) :
    putAt t (s ++ r) new = none := by
  induction s generalizing t with
  | nil =>
    simp at h
    subst h
    cases r with
    | nil => exact absurd rfl hr
    | cons x xs => rfl
  | cons c cs ih =>
    obtain ⟨es, ch, rfl, hg, h⟩ := lookup_cons_some h
    simp [putAt_dir_cons, hg, ih h]

theorem putAt_id {t : Node} {p : List Str} {n : Node} (h : lookup t p = some n) :
    putAt t p n = some t := by
  induction p generalizing t with
  | nil => simp at h; subst h; rfl
  | cons c cs ih =>
    obtain ⟨es, ch, rfl, hg, h⟩ := lookup_cons_some h
    simp [putAt_dir_cons, hg, ih h, Entries.put_get_id es c ch hg]

/-! ### mkdirs -/

/-- `create_dir_all p` leaves the tree alone when `p` is a directory, fails when it is a file, and
    otherwise puts an empty directory there -/
theorem mkdirs_eq (t : Node) (p : List Str) :
    mkdirs t p =
      match lookup t p with
      | some (.dir _) => some t
      | some (.file _) => none
      | none => putAt t p empty := by
  induction p generalizing t with
  | nil => cases t <;> rfl
  | cons c cs ih =>
    cases t with
    | file b => rfl
    | dir es =>
      simp only [mkdirs, lookup_dir_cons]
      cases hg : es.get c with
      | none => simp [putAt_dir_cons, hg, putAt_empty]
      | some ch =>
        simp only [Option.bind_some, ih ch]
        cases hl : lookup ch cs with
        | none => simp only [putAt_dir_cons, hg, Option.getD_some]; cases putAt ch cs empty <;> rfl
        | some n => cases n <;> simp [Entries.put_get_id es c ch hg]

theorem mkdirs_some {t t' : Node} {p : List Str} (h : mkdirs t p = some t') :
    (t' = t ∧ ∃ es, lookup t p = some (.dir es)) ∨
    (lookup t p = none ∧ putAt t p empty = some t') := by
  rw [mkdirs_eq] at h
  split at h
  · next es hl => exact .inl ⟨(Option.some.inj h).symm, es, hl⟩
  · cases h
  · next hl => exact .inr ⟨hl, h⟩

theorem mkdirs_empty (cs : List Str) : mkdirs empty cs = some (wrap cs empty) := by
  cases cs <;> rfl

theorem mkdirs_dir_cons (es : Entries) (c : Str) (cs : List Str) :
    mkdirs (.dir es) (c :: cs) =
      (mkdirs ((es.get c).getD empty) cs).map fun ch' => .dir (es.put c ch') := by
  simp only [mkdirs]
  cases es.get c with
  | none => simp [mkdirs_empty]
  | some ch => simp only [Option.getD_some]; cases mkdirs ch cs <;> rfl

/-- creating the directory first does not change what a later `putAt` below it produces -/
theorem putAt_mkdirs {t t1 : Node} {d : List Str} (h : mkdirs t d = some t1) (r : List Str)
    (new : Node) : putAt t1 (d ++ r) new = putAt t (d ++ r) new := by
  induction d generalizing t t1 with
  | nil => cases t <;> simp [mkdirs] at h; subst h; rfl
  | cons c cs ih =>
    cases t with
    | file b => simp [mkdirs] at h
    | dir es =>
      rw [mkdirs_dir_cons, Option.map_eq_some_iff] at h
      obtain ⟨ch', hm, rfl⟩ := h
      rw [List.cons_append, putAt_dir_cons, putAt_dir_cons, Entries.get_put_self, Option.getD_some,
        ih hm]
      cases putAt ((es.get c).getD empty) (cs ++ r) new <;> simp [Entries.put_put]

/-! ### removeAt -/

theorem removeAt_dir_single (es : Entries) (c : Str) :
    removeAt (.dir es) [c] = .dir (es.erase c) := by
  simp [removeAt]

theorem removeAt_dir_cons2 (es : Entries) (c x : Str) (xs : List Str) :
    removeAt (.dir es) (c :: x :: xs) =
      match es.get c with
      | none => .dir es
      | some ch => .dir (es.put c (removeAt ch (x :: xs))) := by
  simp only [removeAt, List.isEmpty_cons]
  cases es.get c <;> rfl

theorem lookup_removeAt_below (t : Node) (p : List Str) (hp : p ≠ []) (r : List Str) :
    lookup (removeAt t p) (p ++ r) = none := by
  induction p generalizing t with
  | nil => exact absurd rfl hp
  | cons c cs ih =>
    cases t with
    | file b => simp [removeAt]
    | dir es =>
      cases cs with
      | nil => simp [removeAt_dir_single, lookup_dir_cons, Entries.get_erase]
      | cons x xs =>
        rw [removeAt_dir_cons2]
        cases hg : es.get c with
        | none => simp [lookup_dir_cons, hg]
        | some ch =>
          have := ih ch (by simp)
          simp only [List.cons_append] at this
          simp [lookup_dir_cons, Entries.get_put_self, this]

theorem obs_removeAt_root (t : Node) (p : List Str) : (removeAt t p).obs = t.obs := by
  cases p with
  | nil => cases t <;> rfl
  | cons c cs =>
    cases t with
    | file b => rfl
    | dir es =>
      cases cs with
      | nil => rfl
      | cons x xs => rw [removeAt_dir_cons2]; cases es.get c <;> rfl

/-- deleting `p` changes the observation at no path outside `p`'s subtree -/
theorem stat_removeAt_other (t : Node) (p q : List Str) (h : ¬ p <+: q) :
    stat (removeAt t p) q = stat t q := by
  induction p generalizing t q with
  | nil => exact absurd (List.nil_prefix) h
  | cons c cs ih =>
    cases q with
    | nil => simp [stat, obs_removeAt_root]
    | cons d qs =>
      cases t with
      | file b => rfl
      | dir es =>
        cases cs with
        | nil =>
          have hd : d ≠ c := by
            intro e; subst e
            exact h (by simp)
          simp [stat, removeAt_dir_single, lookup_dir_cons, Entries.get_erase, hd]
        | cons x xs =>
          rw [removeAt_dir_cons2]
          cases hg : es.get c with
          | none => rfl
          | some ch =>
            by_cases hd : d = c
            · subst hd
              have h' : ¬ (x :: xs) <+: qs := fun e => h (by simp [List.cons_prefix_cons, e])
              have := ih ch qs h'
              simp only [stat] at this
              simp [stat, lookup_dir_cons, Entries.get_put_self, hg, this]
            · simp [stat, lookup_dir_cons, Entries.get_put_ne _ _ hd]

theorem removeAt_missing {t : Node} {p : List Str} (h : lookup t p = none) : removeAt t p = t := by
  induction p generalizing t with
  | nil => simp at h
  | cons c cs ih =>
    cases t with
    | file b => rfl
    | dir es =>
      rw [lookup_dir_cons] at h
      cases cs with
      | nil =>
        cases hg : es.get c with
        | none => simp [removeAt_dir_single, Entries.erase_missing es c hg]
        | some ch => simp [hg] at h
      | cons x xs =>
        rw [removeAt_dir_cons2]
        cases hg : es.get c with
        | none => rfl
        | some ch =>
          simp [hg] at h
          simp [ih h, Entries.put_get_id es c ch hg]

/-! ### stat -/

theorem stat_of_lookup {t : Node} {q : List Str} {n : Node} (h : lookup t q = some n) :
    stat t q = some n.obs := by
  simp [stat, h]

/-! ### stat after putAt -/

theorem stat_putAt_self {t t' : Node} {p : List Str} {new : Node}
    (h : putAt t p new = some t') : stat t' p = some new.obs := by
  exact stat_of_lookup (lookup_putAt_at h)

theorem stat_putAt_prefix {t t' : Node} {p : List Str} {new : Node}
    (h : putAt t p new = some t') (q : List Str) (h1 : q <+: p) (h2 : q ≠ p) :
    stat t' q = some .dir := by
  obtain ⟨es, he⟩ := lookup_putAt_prefix h q h1 h2
  exact stat_of_lookup he

/-- writing a FILE at `p`, where no directory was, changes the observation only at `p` and at
    its (possibly new) ancestors -/
theorem stat_putAt_file_frame {t t' : Node} {p : List Str} {b : Bytes}
    (h : putAt t p (.file b) = some t') (hold : ∀ es, lookup t p ≠ some (.dir es))
    (q : List Str) (hq : ¬ q <+: p) : stat t' q = stat t q := by
  by_cases hpq : p <+: q
  · obtain ⟨r, rfl⟩ := hpq
    have hr : r ≠ [] := by
      intro e; subst e; simp at hq
    have h1 : lookup t' (p ++ r) = none := by
      rw [lookup_putAt_self h r]
      cases r with
      | nil => exact absurd rfl hr
      | cons x xs => rfl
    have h2 : lookup t (p ++ r) = none := by
      cases hl : lookup t (p ++ r) with
      | none => rfl
      | some n =>
        obtain ⟨es, he⟩ := lookup_prefix_dir hl hr
        exact absurd he (hold es)
    simp [stat, h1, h2]
  · simp [stat, lookup_putAt_incomp h q hq hpq]

/-! ### path strings -/

theorem splitSlash_ne_nil (s : Str) : ∃ seg segs, splitSlash s = seg :: segs := by
  induction s with
  | nil => exact ⟨[], [], rfl⟩
  | cons c r ih =>
    obtain ⟨seg, segs, h⟩ := ih
    by_cases hc : c = '/'
    · exact ⟨[], seg :: segs, by simp [splitSlash, h, hc]⟩
    · exact ⟨c :: seg, segs, by simp [splitSlash, h, hc]⟩

theorem splitSlash_cons {r : Str} {seg : Str} {segs : List Str} (c : Char)
    (h : splitSlash r = seg :: segs) :
    splitSlash (c :: r) = if c = '/' then [] :: seg :: segs else (c :: seg) :: segs := by
  simp [splitSlash, h]

theorem splitSlash_noslash (b : Str) (h : '/' ∉ b) : splitSlash b = [b] := by
  induction b with
  | nil => rfl
  | cons c r ih =>
    have hc : c ≠ '/' := fun e => h (by simp [e])
    have hr : '/' ∉ r := fun e => h (by simp [e])
    rw [splitSlash_cons c (ih hr)]
    simp [hc]

theorem splitSlash_append (d rest : Str) :
    splitSlash (d ++ '/' :: rest) = splitSlash d ++ splitSlash rest := by
  induction d with
  | nil =>
    obtain ⟨seg, segs, h⟩ := splitSlash_ne_nil rest
    simp [splitSlash_cons '/' h, h, splitSlash]
  | cons c d' ih =>
    obtain ⟨seg, segs, h⟩ := splitSlash_ne_nil d'
    have h2 : splitSlash (d' ++ '/' :: rest) = seg :: (segs ++ splitSlash rest) := by
      rw [ih, h]; rfl
    rw [List.cons_append, splitSlash_cons c h2, splitSlash_cons c h]
    by_cases hc : c = '/' <;> simp [hc]

theorem joinSlash_splitSlash (s : Str) : joinSlash (splitSlash s) = s := by
  induction s with
  | nil => rfl
  | cons c r ih =>
    obtain ⟨seg, segs, h⟩ := splitSlash_ne_nil r
    rw [h] at ih
    rw [splitSlash_cons c h]
    by_cases hc : c = '/'
    · simp [hc, joinSlash, ih]
    · cases segs with
      | nil => simp [hc, joinSlash] at ih ⊢; exact ih
      | cons y ys => simp [hc, joinSlash] at ih ⊢; exact ih

theorem plain_not_junk {b : Str} (h : PlainName b) : isJunk b = false := by
  obtain ⟨h1, _, h3, _⟩ := h
  cases b with
  | nil => exact absurd rfl h1
  | cons c r => simp [isJunk]; intro hc hr; exact h3 (by rw [hc, hr])

theorem basename_join (d b : Str) (h : PlainName b) : basename (d ++ '/' :: b) = some b := by
  obtain ⟨first, rest, hd⟩ := splitSlash_ne_nil d
  have hj := plain_not_junk h
  unfold basename bodySegs
  rw [splitSlash_append, splitSlash_noslash b h.2.1, hd]
  simp only [List.cons_append, List.filter_append, List.filter_cons, List.filter_nil, hj,
    Bool.not_false, ite_true]
  rw [← List.append_assoc, List.getLast?_concat]
  have h3 := h.2.2.1
  have h4 := h.2.2.2
  simp [h3, h4]

theorem dirname_join (d b : Str) (h : PlainName b) (hd : d ≠ []) (hc : CleanEnd d) :
    dirname (d ++ '/' :: b) = some d := by
  obtain ⟨first, rest, hs⟩ := splitSlash_ne_nil d
  have hj := plain_not_junk h
  have hrev : ∃ y r, (splitSlash d).reverse = y :: r ∧ (splitSlash d).getLast? = some y := by
    cases hr : (splitSlash d).reverse with
    | nil => simp [hs] at hr
    | cons y r =>
      refine ⟨y, r, rfl, ?_⟩
      rw [List.getLast?_eq_head?_reverse, hr]; rfl
  obtain ⟨y, r, hr, hl⟩ := hrev
  have hy := hc y hl
  have hdrop : dropJunk (y :: r) = y :: r := by
    cases r with
    | nil => rfl
    | cons z zs => simp [dropJunk, hy]
  unfold dirname
  rw [splitSlash_append, splitSlash_noslash b h.2.1, List.reverse_append, hr]
  simp only [List.reverse_cons, List.reverse_nil, List.nil_append, List.cons_append, dropJunk, hj]
  simp only [Bool.false_eq_true, ite_false, hdrop]
  have : (y :: r).reverse = splitSlash d := by rw [← hr, List.reverse_reverse]
  rw [this, joinSlash_splitSlash]
  cases d with
  | nil => exact absurd rfl hd
  | cons c cs => simp

theorem squeeze_head (d : Char) (r : Str) : ∃ tl, squeeze (d :: r) = d :: tl := by
  induction r generalizing d with
  | nil => exact ⟨[], rfl⟩
  | cons e r' ih =>
    by_cases h : d = '/' ∧ e = '/'
    · obtain ⟨tl, ht⟩ := ih e
      exact ⟨tl, by simp [squeeze, h.1, h.2] at ht ⊢; exact ht⟩
    · exact ⟨squeeze (e :: r'), by
        simp only [squeeze]
        simp only [Bool.and_eq_true, decide_eq_true_eq]
        rw [if_neg h]⟩

theorem hasDouble_squeeze (s : Str) : hasDouble (squeeze s) = false := by
  fun_induction squeeze s with
  | case1 => rfl
  | case2 c => rfl
  | case3 c d r hcd ih => exact ih
  | case4 c d r hcd ih =>
    obtain ⟨tl, ht⟩ := squeeze_head d r
    rw [ht] at ih ⊢
    simp only [hasDouble, ih, Bool.or_false]
    simpa using hcd

theorem squeeze_id (s : Str) (h : hasDouble s = false) : squeeze s = s := by
  fun_induction squeeze s with
  | case1 => rfl
  | case2 c => rfl
  | case3 c d r hcd ih => simp [hasDouble] at h; simp_all
  | case4 c d r hcd ih =>
    simp [hasDouble] at h
    rw [ih h.2]

/-! ### the commands -/

theorem resolve_file_iff {t : Node} {p : P} {b : Bytes} :
    resolve t p = some (.file b) ↔ lookup t p.comps = some (.file b) ∧ p.trail = false := by
  unfold resolve
  cases lookup t p.comps with
  | none => simp
  | some n => cases n <;> simp [and_comm]

theorem resolve_dir_iff {t : Node} {p : P} {es : Entries} :
    resolve t p = some (.dir es) ↔ lookup t p.comps = some (.dir es) := by
  unfold resolve
  cases lookup t p.comps with
  | none => simp
  | some n => cases n <;> simp

theorem resolve_dir {t : Node} {p : P} {es : Entries} (h : resolve t p = some (.dir es)) :
    lookup t p.comps = some (.dir es) :=
  resolve_dir_iff.mp h

theorem writeGen_read {t t' : Node} {p : P} {content : Bytes} (htr : p.trail = false)
    (hp : putAt t p.comps (.file content) = some t') :
    resolve t' p = some (.file content) := by
  exact resolve_file_iff.mpr ⟨lookup_putAt_at hp, htr⟩


theorem mvTargetIsFile_not_dir {t : Node} {dst : P} (h : mvTargetIsFile t dst = true) :
    ∀ es, lookup t dst.comps ≠ some (.dir es) := by
  intro es he
  unfold mvTargetIsFile at h
  simp [resolve_dir_iff.mpr he, Node.isFile] at h

/-- with `src` a file and `target` neither below nor above it, the file survives a `putAt` -/
theorem src_survives {t t2 : Node} {src : P} {target : List Str} {b : Bytes}
    (hl : lookup t src.comps = some (.file b)) (htr : src.trail = false)
    (hp : putAt t target (.file b) = some t2) (hne : src.comps ≠ target)
    (hnd : ∀ es, lookup t target ≠ some (.dir es)) :
    resolve t2 src = some (.file b) := by
  have h1 : ¬ src.comps <+: target := by
    intro hpre
    obtain ⟨r, hr, e⟩ := prefix_rest hpre hne
    have := putAt_file_prefix_none hl r hr (.file b)
    rw [e, hp] at this
    cases this
  have h2 : ¬ target <+: src.comps := by
    intro hpre
    obtain ⟨r, hr, e⟩ := prefix_rest hpre (Ne.symm hne)
    rw [← e] at hl
    obtain ⟨es, he⟩ := lookup_prefix_dir hl hr
    exact hnd es he
  have := lookup_putAt_incomp hp src.comps h1 h2
  exact resolve_file_iff.mpr ⟨this.trans hl, htr⟩


/-! ### every command, case by case: the tree it was given without success, or what it did -/

/-- what a successful write leaves in the file: the old bytes with the data appended when
    appending to an existing file, else the data -/
def written (t : Node) (p : P) (data : Bytes) (app : Bool) : Bytes :=
  match lookup t p.comps with
  | some (.file old) => if app then old ++ data else data
  | _ => data

theorem writeGen_cases (t : Node) (p : P) (data : Bytes) (app : Bool) :
    (∃ r, writeGen t p data app = (t, r) ∧ ∀ v, r ≠ .ok v) ∨
    ∃ t', writeGen t p data app = (t', .ok .unit) ∧ p.trail = false ∧
      (∀ es, lookup t p.comps ≠ some (.dir es)) ∧
      putAt t p.comps (.file (written t p data app)) = some t' := by
  unfold writeGen written
  split
  · exact .inl ⟨_, rfl, by simp⟩
  · next htr =>
    split
    · exact .inl ⟨_, rfl, by simp⟩
    · next old hl =>
      split
      · next t' hp => exact .inr ⟨t', rfl, by simpa using htr, by simp [hl], by simpa [hl] using hp⟩
      · exact .inl ⟨_, rfl, by simp⟩
    · next hl =>
      split
      · next t' hp => exact .inr ⟨t', rfl, by simpa using htr, by simp [hl], by simpa [hl] using hp⟩
      · exact .inl ⟨_, rfl, by simp⟩

/-- a successful write put a file with the expected content at the path, where no directory was -/
theorem writeGen_ok {t t' : Node} {p : P} {data : Bytes} {app : Bool} {v : Val}
    (h : writeGen t p data app = (t', .ok v)) :
    p.trail = false ∧ (∀ es, lookup t p.comps ≠ some (.dir es)) ∧
      putAt t p.comps (.file (written t p data app)) = some t' := by
  rcases writeGen_cases t p data app with ⟨r, e, hr⟩ | ⟨t'', e, htr, hold, hp⟩ <;> rw [e] at h
  · exact absurd (Prod.mk.inj h).2 (hr v)
  · cases h
    exact ⟨htr, hold, hp⟩

/-- … and when nothing is appended the content is the data -/
theorem writeGen_ok_new {t t' : Node} {p : P} {data : Bytes} {v : Val}
    (h : writeGen t p data false = (t', .ok v)) :
    p.trail = false ∧ (∀ es, lookup t p.comps ≠ some (.dir es)) ∧
      putAt t p.comps (.file data) = some t' := by
  have e : written t p data false = data := by unfold written; split <;> rfl
  exact e ▸ writeGen_ok h

theorem touch_cases (t : Node) (p : P) :
    (∃ r, touch t p = (t, r) ∧ ∀ v, r ≠ .ok v) ∨
    (∃ b, resolve t p = some (.file b) ∧ touch t p = (t, .ok .unit)) ∨
    ∃ t', lookup t p.comps = none ∧ putAt t p.comps (.file []) = some t' ∧
      touch t p = (t', .ok .unit) := by
  unfold touch
  split
  · next b hb => exact .inr (.inl ⟨b, hb, rfl⟩)
  · exact .inl ⟨_, rfl, by simp⟩
  · split
    · exact .inl ⟨_, rfl, by simp⟩
    · split
      · exact .inl ⟨_, rfl, by simp⟩
      · next hl =>
        split
        · next t' hp => exact .inr (.inr ⟨t', hl, hp, rfl⟩)
        · exact .inl ⟨_, rfl, by simp⟩

theorem mkdir_cases (t : Node) (p : P) :
    mkdir t p = (t, .err) ∨ ∃ t', mkdirs t p.comps = some t' ∧ mkdir t p = (t', .ok .unit) := by
  unfold mkdir
  split
  · next t' h => exact .inr ⟨t', h, rfl⟩
  · exact .inl rfl

theorem cp_cases (t : Node) (src dst : P) :
    (∃ r, cp t src dst = (t, r) ∧ ∀ v, r ≠ .ok v) ∨
    ∃ b, resolve t src = some (.file b) ∧
      ((src.comps = dst.comps ∧ cp t src dst = (t, .ok .unit)) ∨
       ∃ t', src.comps ≠ dst.comps ∧ (∀ es, lookup t dst.comps ≠ some (.dir es)) ∧
         putAt t dst.comps (.file b) = some t' ∧ cp t src dst = (t', .ok .unit)) := by
  unfold cp
  split
  · exact .inl ⟨_, rfl, by simp⟩
  · exact .inl ⟨_, rfl, by simp⟩
  · next b hb =>
    split
    · exact .inl ⟨_, rfl, by simp⟩
    · split
      · next heq => exact .inr ⟨b, hb, .inl ⟨heq, rfl⟩⟩
      · next hne =>
        split
        · exact .inl ⟨_, rfl, by simp⟩
        · next hnd =>
          split
          · next t' hp => exact .inr ⟨b, hb, .inr ⟨t', hne, fun es e => hnd es e, hp, rfl⟩⟩
          · exact .inl ⟨_, rfl, by simp⟩

theorem mv_cases (t : Node) (src dst : P) :
    (∃ r, mv t src dst = (t, r) ∧ ∀ v, r ≠ .ok v) ∨
    ∃ b, resolve t src = some (.file b) ∧
      ((∃ t1, mvTargetIsFile t dst = true ∧ putAt t dst.comps (.file b) = some t1 ∧
          mv t src dst = (removeAt t1 src.comps, .ok .unit)) ∨
       ∃ t1 t2, mvTargetIsFile t dst = false ∧ mkdirs t dst.comps = some t1 ∧
          lookup t1 (mvTarget t src dst) = none ∧
          putAt t1 (mvTarget t src dst) (.file b) = some t2 ∧
          mv t src dst = (removeAt t2 src.comps, .ok .unit)) := by
  unfold mv
  split
  · exact .inl ⟨_, rfl, by simp⟩
  · exact .inl ⟨_, rfl, by simp⟩
  · next b hb =>
    split
    · next hf =>
      split
      · next t1 hp => exact .inr ⟨b, hb, .inl ⟨t1, hf, hp, rfl⟩⟩
      · exact .inl ⟨_, rfl, by simp⟩
    · next hf =>
      split
      · exact .inl ⟨_, rfl, by simp⟩
      · next t1 hmk =>
        split
        · exact .inl ⟨_, rfl, by simp⟩
        · next hnone =>
          split
          · next t2 hp => exact .inr ⟨b, hb, .inr ⟨t1, t2, by simpa using hf, hmk, hnone, hp, rfl⟩⟩
          · exact .inl ⟨_, rfl, by simp⟩

theorem rm_cases (t : Node) (r : Bool) (p : P) :
    rm t r p = (t, .err) ∨ (resolve t p = none ∧ rm t r p = (t, .ok .unit)) ∨
    (resolve t p ≠ none ∧ rm t r p = (removeAt t p.comps, .ok .unit)) := by
  unfold rm
  split
  · next hn => exact .inr (.inl ⟨hn, rfl⟩)
  · next b hb => exact .inr (.inr ⟨by simp [hb], rfl⟩)
  · next es hd =>
    split
    · exact .inr (.inr ⟨by simp [hd], rfl⟩)
    · exact .inl rfl

theorem rmdir_cases (t : Node) (p : P) :
    rmdir t p = (t, .err) ∨ rmdir t p = (t, .ok .unit) ∨
    rmdir t p = (removeAt t p.comps, .ok .unit) := by
  unfold rmdir
  split
  · exact .inr (.inl rfl)
  · exact .inl rfl
  · split
    · exact .inr (.inr rfl)
    · exact .inl rfl

end Duck.FsTree
