/-
  The flow-control commands of Sdk/ScriptRun.lean on one instruction of a body: the keys and the
  block-position caches of `for` / `if`, what `for … in`, `if` and the generic `end` do to the
  flow-control state, instruction lists written down (`mkI`, `emptyI`, `bind_eq`), and what the
  theorems about scripts with loops say of the state a run leaves (`LoopFrame`, `AgreesAlloc`).
-/
import DuckModel.Lemmas.ScriptRunLemmas
import DuckModel.Lemmas.RegistryLemmas

namespace Duck.ScriptRun
open Duck Duck.Alias Duck.Coll Duck.Spec Duck.Generated

/-! ### the keys of the block caches and of the `end` table -/

/-- "<scope>::<line>": the key of a flow-control line of the script `scope` -/
def lineKey (scope : Str) (n : Nat) : Str := scope ++ "::".toList ++ natToStr n

theorem flowKey_lineKey {s : ScriptSt} {scope : Str} (h : s.ctx = scope) (n : Nat) : flowKey s n = lineKey scope n := by
  unfold flowKey lineKey; rw [h]

theorem lineKey_under (scope : Str) (n : Nat) : underPrefix scope (lineKey scope n) = true := by
  unfold lineKey
  rw [List.append_assoc, underPrefix_append]
  simp [sep, List.isPrefixOf]

theorem lineKey_inj {scope : Str} {m n : Nat} (h : lineKey scope m = lineKey scope n) : m = n :=
  natToStr_inj (List.append_cancel_left h)

theorem ne_of_underPrefix {scope key k : Str} (hk : underPrefix scope key = true) (h : underPrefix scope k = false) :
    k ≠ key := by
  intro e; rw [e, hk] at h; cases h

theorem get_put_frame {α : Type} (scope : Str) (m : KV α) (key : Str) (v : α) (hk : underPrefix scope key = true)
    (k : Str) (h : underPrefix scope k = false) : (m.put key v).get k = m.get k := by
  rw [KV.get_put, if_neg (ne_of_underPrefix hk h)]

theorem get_put_lineKey_ne {α : Type} {scope : Str} (m : KV α) {k n : Nat} (x : α) (h : n ≠ k) :
    (m.put (lineKey scope k) x).get (lineKey scope n) = m.get (lineKey scope n) := by
  rw [KV.get_put, if_neg (fun e => h (lineKey_inj e))]

theorem get_put_lineKey_self {α : Type} {scope : Str} (m : KV α) (n : Nat) (x : α) :
    (m.put (lineKey scope n) x).get (lineKey scope n) = some x :=
  (KV.get_put _ _ _ _).trans (if_pos rfl)

/-! ### the block-position caches of `for` and `if` -/

/-- the cache after the `for` on a line whose block ends at `stop` has consulted it -/
def forMetaAfter (m : KV Nat) (key : Str) (stop : Nat) : KV Nat :=
  match m.get key with
  | some _ => m
  | none => m.put key stop

/-- the cached block end of this `for` line, if any, is the right one (the only writer of the
    cache is the `for` command itself, under the key "<line context>::<line>") -/
def CacheOK (m : KV Nat) (key : Str) (stop : Nat) : Prop := m.get key = none ∨ m.get key = some stop

def ifMetaAfter (m : KV (Nat × List Nat)) (key : Str) (stop : Nat) : KV (Nat × List Nat) :=
  match m.get key with
  | some _ => m
  | none => m.put key (stop, [])

def IfCacheOK (m : KV (Nat × List Nat)) (key : Str) (stop : Nat) : Prop :=
  m.get key = none ∨ m.get key = some (stop, [])


/-- a block-position cache after the command on the line `key` consulted it: what was cached
    stays, otherwise `v` is cached -/
def cacheAfter {α : Type} (m : KV α) (key : Str) (v : α) : KV α :=
  match m.get key with
  | some _ => m
  | none => m.put key v

theorem forMetaAfter_eq (m : KV Nat) (key : Str) (stop : Nat) : forMetaAfter m key stop = cacheAfter m key stop := by
  unfold forMetaAfter cacheAfter
  cases m.get key <;> rfl

theorem ifMetaAfter_eq (m : KV (Nat × List Nat)) (key : Str) (stop : Nat) :
    ifMetaAfter m key stop = cacheAfter m key (stop, []) := by
  unfold ifMetaAfter cacheAfter
  cases m.get key <;> rfl

theorem get_cacheAfter_ne {α : Type} (m : KV α) (key : Str) (v : α) (k : Str) (h : k ≠ key) :
    (cacheAfter m key v).get k = m.get k := by
  unfold cacheAfter
  cases m.get key with
  | some _ => rfl
  | none => rw [KV.get_put, if_neg h]

theorem get_cacheAfter_self {α : Type} (m : KV α) (key : Str) (v : α) (h : m.get key = none ∨ m.get key = some v) :
    (cacheAfter m key v).get key = some v := by
  unfold cacheAfter
  rcases h with h | h <;> rw [h]
  · rw [KV.get_put, if_pos rfl]
  · exact h

theorem get_forMetaAfter_frame (scope : Str) (m : KV Nat) (key : Str) (stop : Nat) (hk : underPrefix scope key = true)
    (k : Str) (h : underPrefix scope k = false) : (forMetaAfter m key stop).get k = m.get k :=
  forMetaAfter_eq m key stop ▸ get_cacheAfter_ne m key stop k (ne_of_underPrefix hk h)

theorem get_ifMetaAfter_frame (scope : Str) (m : KV (Nat × List Nat)) (key : Str) (stop : Nat)
    (hk : underPrefix scope key = true) (k : Str) (h : underPrefix scope k = false) :
    (ifMetaAfter m key stop).get k = m.get k :=
  ifMetaAfter_eq m key stop ▸ get_cacheAfter_ne m key (stop, []) k (ne_of_underPrefix hk h)

theorem cacheOK_forMetaAfter (m : KV Nat) (key : Str) (stop : Nat) (h : CacheOK m key stop) :
    CacheOK (forMetaAfter m key stop) key stop :=
  Or.inr (forMetaAfter_eq m key stop ▸ get_cacheAfter_self m key stop h)

theorem ifCacheOK_ifMetaAfter (m : KV (Nat × List Nat)) (key : Str) (stop : Nat) (h : IfCacheOK m key stop) :
    IfCacheOK (ifMetaAfter m key stop) key stop :=
  Or.inr (ifMetaAfter_eq m key stop ▸ get_cacheAfter_self m key (stop, []) h)

theorem ifCacheOK_after_ne {m : KV (Nat × List Nat)} {scope : Str} {k n stop stop' : Nat} (hne : n ≠ k)
    (h : IfCacheOK m (lineKey scope n) stop') : IfCacheOK (ifMetaAfter m (lineKey scope k) stop) (lineKey scope n) stop' := by
  unfold IfCacheOK
  rw [ifMetaAfter_eq, get_cacheAfter_ne _ _ _ _ (fun e => hne (lineKey_inj e))]; exact h

/-- a `for` line's lookup keeps the cached block ends of the script's lines right -/
theorem cacheOK_forMetaAfter_lineKey {m : KV Nat} {scope : Str} {k n stop stop' : Nat}
    (h : CacheOK m (lineKey scope n) stop') (hk : n = k → stop' = stop) :
    CacheOK (forMetaAfter m (lineKey scope k) stop) (lineKey scope n) stop' := by
  by_cases e : n = k
  · cases hk e; cases e; exact cacheOK_forMetaAfter _ _ _ h
  · unfold CacheOK
    rw [forMetaAfter_eq, get_cacheAfter_ne _ _ _ _ (fun e' => e (lineKey_inj e'))]; exact h

theorem forMetaFor_ok (is : List Instruction) (s : ScriptSt) (line stop : Nat)
    (hfind : findCommands forTables is (line + 1) = .ok ⟨[], stop⟩)
    (hc : CacheOK s.forMeta (flowKey s line) stop) :
    forMetaFor is s line = .ok (stop,
      { s with forMeta := forMetaAfter s.forMeta (flowKey s line) stop,
               endTable := s.endTable.put (flowKey s stop) fullNameEndForIn }) := by
  unfold forMetaFor forMetaAfter
  rcases hc with h | h
  · simp [h, hfind]
  · simp [h]

theorem ifMetaFor_ok (is : List Instruction) (s : ScriptSt) (line stop : Nat)
    (hfind : findCommands ifTables is (line + 1) = .ok ⟨[], stop⟩)
    (hc : IfCacheOK s.ifMeta (flowKey s line) stop) :
    ifMetaFor is s line = .ok ((stop, []),
      { s with ifMeta := ifMetaAfter s.ifMeta (flowKey s line) stop,
               endTable := s.endTable.put (flowKey s stop) fullNameEndIf }) := by
  unfold ifMetaFor ifMetaAfter
  rcases hc with h | h
  · simp [h, hfind]
  · simp [h]

/-- evaluating the block scanner on a concrete instruction list -/
def findsTo (t : FlowTables) (is : List Instruction) (start : Nat) (middle : List Nat) (stop : Nat) : Bool :=
  match findCommands t is start with
  | .ok p => p.middle == middle && p.stop == stop
  | .error _ => false

theorem findsTo_eq {t : FlowTables} {is : List Instruction} {start : Nat} {middle : List Nat} {stop : Nat}
    (h : findsTo t is start middle stop = true) : findCommands t is start = .ok ⟨middle, stop⟩ := by
  unfold findsTo at h
  cases hp : findCommands t is start with
  | error e => rw [hp] at h; cases h
  | ok p =>
    rw [hp] at h
    simp at h
    cases p
    simp_all

/-! ### `for v in handle` and the `end` of its block -/

theorem nextIteration_congr (s s' : ScriptSt) (h : s'.coll = s.coll) (handle : Str) (i : Nat) :
    nextIteration s' handle i = nextIteration s handle i := by
  unfold nextIteration; rw [h]

/-- `for v in handle` when the top of the for-in call stack is this loop's entry: next cell or
    leave the loop (the entry is popped) -/
theorem runFor_resume (nested : Nested) (is : List Instruction) (k : Nat) (v handle : Str) (line : Nat)
    (vars : Vars) (s : ScriptSt) (ci : ForCall) (rest : List ForCall)
    (hst : s.forStack = ci :: rest) (hstart : ci.start = line) (hctx : ci.ctx = s.ctx) :
    runFlowF nested is (k + 1) .forIn [v, "in".toList, handle] line vars s =
      match nextIteration s handle ci.iteration with
      | some value => (.continue none, vars.set v value,
          { s with forStack := { ci with iteration := ci.iteration + 1 } :: rest })
      | none => (.goTo none (.line (ci.stop + 1)), vars, { s with forStack := rest }) := by
  have hn : nextIteration { s with forStack := rest } handle ci.iteration = nextIteration s handle ci.iteration :=
    nextIteration_congr _ _ rfl _ _
  simp only [runFlowF, runFlow, hst, popFor, hstart, hctx, true_or, and_self, if_true, ne_eq,
    not_true_eq_false, if_false, hn]
  cases nextIteration s handle ci.iteration with
  | none => rfl
  | some value => rw [← hctx] -- the entry pushed again carries the state's `ctx`, which is `ci.ctx`

/-- `for v in handle` when the top of the for-in call stack is NOT an entry of this line: the
    block end is looked up (cache / scan), the `end` table is written, iteration 0 -/
theorem runFor_first (nested : Nested) (is : List Instruction) (k : Nat) (v handle : Str) (line stop : Nat)
    (vars : Vars) (s : ScriptSt)
    (hpop : popFor line s.ctx false s.forStack = (none, s.forStack))
    (hfind : findCommands forTables is (line + 1) = .ok ⟨[], stop⟩)
    (hc : CacheOK s.forMeta (flowKey s line) stop) :
    runFlowF nested is (k + 1) .forIn [v, "in".toList, handle] line vars s =
      let s1 : ScriptSt := { s with forMeta := forMetaAfter s.forMeta (flowKey s line) stop,
                                    endTable := s.endTable.put (flowKey s stop) fullNameEndForIn }
      match nextIteration s handle 0 with
      | some value => (.continue none, vars.set v value,
          { s1 with forStack := { iteration := 1, start := line, stop := stop, ctx := s.ctx } :: s.forStack })
      | none => (.goTo none (.line (stop + 1)), vars, s1) := by
  have hm := forMetaFor_ok is { s with forStack := s.forStack } line stop hfind hc
  have hn : ∀ (a : KV Nat) (b : KV Str), nextIteration { s with forMeta := a, endTable := b } handle 0 =
      nextIteration s handle 0 := fun a b => nextIteration_congr _ _ rfl _ _
  simp only [runFlowF, runFlow, hpop, ne_eq, not_true_eq_false, if_false, hm, hn]
  cases nextIteration s handle 0 <;> rfl

/-- the state after the `for` on `line` (block end `stop`) looked its block up -/
def forSt (s : ScriptSt) (line stop : Nat) : ScriptSt :=
  { s with forMeta := forMetaAfter s.forMeta (flowKey s line) stop,
           endTable := s.endTable.put (flowKey s stop) fullNameEndForIn }

theorem forSt_eq {s : ScriptSt} {scope : Str} (h : s.ctx = scope) (a b : Nat) :
    forSt s a b = { s with forMeta := forMetaAfter s.forMeta (lineKey scope a) b,
                           endTable := s.endTable.put (lineKey scope b) fullNameEndForIn } := by
  unfold forSt; rw [flowKey_lineKey h, flowKey_lineKey h]

theorem forSt_endT {s : ScriptSt} {scope : Str} (h : s.ctx = scope) (a b : Nat) :
    (forSt s a b).endTable.get (lineKey scope b) = some fullNameEndForIn := by
  rw [forSt_eq h]; exact get_put_lineKey_self _ _ _

theorem runEnd_for (nested : Nested) (is : List Instruction) (line : Nat)
    (vars : Vars) (s : ScriptSt) (ci : ForCall) (rest : List ForCall)
    (ht : s.endTable.get (flowKey s line) = some fullNameEndForIn)
    (hst : s.forStack = ci :: rest) (hstop : ci.stop = line) (hctx : ci.ctx = s.ctx) :
    runFlowF nested is 2 .endC [] line vars s = (.goTo none (.line ci.start), vars, s) := by
  have hr := (flow_of_resolve rs_fullNameEndForIn).2.2
  simp only [runFlowF, runFlow, ht, hr, hst, popFor, hstop, hctx, or_true, and_self, if_true]
  rw [← hst] -- the entry stays: the stack written back is the state's own

theorem popFor_nil (line : Nat) (ctx : Str) : popFor line ctx false [] = (none, []) := rfl

/-- no stale entry of a loop of the script `scope` on top of the for-in call stack (an entry is
    stale when an earlier run of the same script ended with an error inside its loop) -/
def NoStaleFor (scope : Str) (stack : List ForCall) : Prop :=
  ∀ e, stack.head? = some e → e.ctx ≠ scope

theorem popFor_noStale (line : Nat) (scope : Str) (stack : List ForCall) (h : NoStaleFor scope stack) :
    popFor line scope false stack = (none, stack) := by
  cases stack with
  | nil => rfl
  | cons top rest => simp [popFor, h top rfl]

/-- a for-in entry of another line on top of the stack is left alone by `for` -/
theorem popFor_mismatch (line : Nat) (ctx : Str) (top : ForCall) (rest : List ForCall)
    (h1 : top.start ≠ line) (h2 : top.stop ≠ line) : popFor line ctx false (top :: rest) = (none, top :: rest) := by
  simp [popFor, h1, h2]

/-! ### `if` without else branches and the `end` of its block -/

/-- the state after the `if` on `line` looked its block up -/
def ifSt (s : ScriptSt) (line stop : Nat) : ScriptSt :=
  { s with ifMeta := ifMetaAfter s.ifMeta (flowKey s line) stop,
           endTable := s.endTable.put (flowKey s stop) fullNameEndIf }

/-- the if-call entry a passed `if` without else branches pushes -/
def ifEntry (line stop : Nat) (ctx : Str) : IfCall :=
  { current := stop, passed := true, elseIdx := 0, start := line, stop := stop, elses := [], ctx := ctx }

/-- the state after the `if` on `line` (block end `stop`) looked its block up and, when it passed,
    pushed its entry -/
def ifStP (s : ScriptSt) (line stop : Nat) (passed : Bool) : ScriptSt :=
  { ifSt s line stop with ifStack := if passed then ifEntry line stop s.ctx :: s.ifStack else s.ifStack }

theorem ifSt_eq {s : ScriptSt} {scope : Str} (h : s.ctx = scope) (line stop : Nat) :
    ifSt s line stop = { s with ifMeta := ifMetaAfter s.ifMeta (lineKey scope line) stop,
                                endTable := s.endTable.put (lineKey scope stop) fullNameEndIf } := by
  unfold ifSt; rw [flowKey_lineKey h, flowKey_lineKey h]

theorem ifStP_eq {s : ScriptSt} {scope : Str} (h : s.ctx = scope) (line stop : Nat) (b : Bool) :
    ifStP s line stop b =
      { s with ifMeta := ifMetaAfter s.ifMeta (lineKey scope line) stop,
               endTable := s.endTable.put (lineKey scope stop) fullNameEndIf,
               ifStack := if b then ifEntry line stop scope :: s.ifStack else s.ifStack } := by
  unfold ifStP; rw [ifSt_eq h, h]

theorem ifStP_endT {s : ScriptSt} {scope : Str} (h : s.ctx = scope) (line stop : Nat) (p : Bool) :
    (ifStP s line stop p).endTable.get (lineKey scope stop) = some fullNameEndIf := by
  rw [ifStP_eq h]; exact get_put_lineKey_self _ _ _

theorem runIf_simple (nested : Nested) (is : List Instruction) (k : Nat) (a : Str) (args : List Str) (line stop : Nat)
    (vars : Vars) (s : ScriptSt)
    (hfind : findCommands ifTables is (line + 1) = .ok ⟨[], stop⟩)
    (hc : IfCacheOK s.ifMeta (flowKey s line) stop)
    (passed : Bool) (vars' : Vars) (s' : ScriptSt)
    (hcond : evalCond nested is (a :: args) vars (ifSt s line stop) = (.ok passed, vars', s')) :
    runFlowF nested is (k + 1) .ifC (a :: args) line vars s =
      if passed then
        (.continue none, vars', { s' with ifStack := ifEntry line stop s'.ctx :: s'.ifStack })
      else (.goTo none (.line (stop + 1)), vars', s') := by
  have hm := ifMetaFor_ok is s line stop hfind hc
  simp only [runFlowF, runFlow, List.isEmpty_cons, Bool.false_eq_true, if_false, hm]
  unfold ifSt at hcond
  rw [hcond]
  cases passed <;> rfl

theorem runEnd_if (nested : Nested) (is : List Instruction) (line : Nat) (vars : Vars) (s : ScriptSt)
    (ht : s.endTable.get (flowKey s line) = some fullNameEndIf) :
    runFlowF nested is 2 .endC [] line vars s = (.continue none, vars, s) := by
  have hr := (flow_of_resolve rs_fullNameEndIf).2.2
  simp only [runFlowF, runFlow, ht, hr]

/-! ### a `for` / `end` line as one step of the instruction loop -/

/-- `for v in handle`, resumed entry on top of the stack, a next cell exists -/
theorem eval_for_next (F d : Nat) (is : List Instruction) (line : Nat) (mi : Meta) (si : ScriptInstr)
    (hget : is[line]? = some ⟨mi, .script si⟩) (hc : si.command = some "for".toList) (hout : si.output = none)
    (vars : Vars) (s : ScriptSt) (v handle y : Str) (hb : bind vars si.args = [v, "in".toList, handle])
    (ci : ForCall) (rest : List ForCall) (hst : s.forStack = ci :: rest) (hstart : ci.start = line) (hctx : ci.ctx = s.ctx)
    (hnext : nextIteration s handle ci.iteration = some y) (fuel poll : Nat) (fo : Option Str) :
    evalInstructions (bodySem F (d + 1) is) (fun _ => false) is (fuel + 1) line poll fo vars s =
      evalInstructions (bodySem F (d + 1) is) (fun _ => false) is fuel (line + 1) (poll + 1) none (vars.set v y)
        { s with forStack := { ci with iteration := ci.iteration + 1 } :: rest } := by
  have hfor := runFor_resume (nestedOf (bodySem F d) F) is 1 v handle line vars s ci rest hst hstart hctx
  rw [hnext] at hfor
  rw [eval_flow hget hc rs_for hb, hfor, hout]
  rfl

/-- the generic `end` on the line the top for-in entry ends at: back to the `for` line -/
theorem eval_end_for (F d : Nat) (is : List Instruction) (line : Nat) (mi : Meta) (si : ScriptInstr)
    (hget : is[line]? = some ⟨mi, .script si⟩) (hc : si.command = some "end".toList) (hargs : si.args = none)
    (vars : Vars) (s : ScriptSt) (ci : ForCall) (rest : List ForCall)
    (ht : s.endTable.get (flowKey s line) = some fullNameEndForIn)
    (hst : s.forStack = ci :: rest) (hstop : ci.stop = line) (hctx : ci.ctx = s.ctx)
    (fuel poll : Nat) (fo : Option Str) :
    evalInstructions (bodySem F (d + 1) is) (fun _ => false) is (fuel + 1) line poll fo vars s =
      evalInstructions (bodySem F (d + 1) is) (fun _ => false) is fuel ci.start (poll + 1) none vars s := by
  rw [eval_flow hget hc rs_end (show bind vars si.args = [] by rw [hargs]; rfl),
    runEnd_for _ _ line _ _ ci rest ht hst hstop hctx]
  rfl

/-- the generic `end` on the line an `if` block ends at -/
theorem eval_end_if (F d : Nat) (is : List Instruction) (line : Nat) (mi : Meta) (si : ScriptInstr)
    (hget : is[line]? = some ⟨mi, .script si⟩) (hc : si.command = some "end".toList) (hargs : si.args = none)
    (hout : si.output = none)
    (vars : Vars) (s : ScriptSt) (ht : s.endTable.get (flowKey s line) = some fullNameEndIf)
    (fuel poll : Nat) (fo : Option Str) :
    evalInstructions (bodySem F (d + 1) is) (fun _ => false) is (fuel + 1) line poll fo vars s =
      evalInstructions (bodySem F (d + 1) is) (fun _ => false) is fuel (line + 1) (poll + 1) none vars s := by
  rw [eval_flow hget hc rs_end (show bind vars si.args = [] by rw [hargs]; rfl), runEnd_if _ _ line _ _ ht, hout]
  rfl

/-! ### writing instruction lists down -/

instance (s : Seg) : Decidable s.OK := by cases s <;> unfold Seg.OK <;> infer_instance

/-- a command line: output variable, command word, argument templates -/
def mkI (line : Nat) (out : Option Str) (cmd : String) (args : Option (List (List Seg))) : Instruction :=
  ⟨{ line := some line, source := none },
   .script { output := out, command := some cmd.toList, args := args.map fun a => a.map renderTemplate }⟩

def emptyI (line : Nat) : Instruction := ⟨{ line := some line, source := none }, .empty⟩

/-- every segment of every argument template is in the class the expansion lemmas cover -/
abbrev ArgsOK (args : List (List Seg)) : Prop := ∀ t ∈ args, ∀ s ∈ t, s.OK

/-- the values a line's argument templates are bound to -/
theorem bind_eq {vars : Vars} {args : List (List Seg)} {vals : List Str} (hok : ArgsOK args)
    (h : args.map (tmplValue vars) = vals) : bind vars ((some args).map fun a => a.map renderTemplate) = vals :=
  (bind_templates vars args hok).trans h

theorem tmplValue_var (vars : Vars) (k : Str) : tmplValue vars [.var k] = (vars.get k).getD [] := by
  simp [tmplValue, Seg.value]

theorem tmplValue_lit (vars : Vars) (l : Str) : tmplValue vars [.lit l] = l := by
  simp [tmplValue, Seg.value]

theorem bind_none (vars : Vars) : bind vars none = [] := rfl

/-! ### the frame of a run with loops -/

/-- what a run of a script WITH LOOPS leaves besides its result and the handle table: the
    variables `varsAfter` (the caller's minus those under the command's prefix, unless too few
    arguments were given), `alloc` names drawn from the allocator, the line-context name restored,
    the for-in call stack as before (in particular no entry of the script's own loops stays
    behind: `NoStaleFor` holds again), the if call stack grown by `pushed` (empty for a run that
    answers `Continue`; a run that raises `trigger_error` inside an `if` block leaves that block's
    entry behind), the block-position caches and the `end` table changed at most at keys under
    the command's own prefix ("scope::<cmd>::<line>") -/
structure LoopFrame (scope : Str) (alloc : Nat) (varsAfter : Vars) (pushed : List IfCall) (st : ScriptSt)
    (r : CmdResult × Vars × ScriptSt) : Prop where
  vars : r.2.1 = varsAfter
  next : r.2.2.coll.next = st.coll.next + alloc
  ctx : r.2.2.ctx = st.ctx
  ifStack : r.2.2.ifStack = pushed ++ st.ifStack
  forStack : r.2.2.forStack = st.forStack
  ifMeta : ∀ k, underPrefix scope k = false → r.2.2.ifMeta.get k = st.ifMeta.get k
  forMeta : ∀ k, underPrefix scope k = false → r.2.2.forMeta.get k = st.forMeta.get k
  endTable : ∀ k, underPrefix scope k = false → r.2.2.endTable.get k = st.endTable.get k

/-- a run agrees with the specified function up to the NAME of the one handle both allocate
    (the source-run command draws the name of its temporary argument array first): both answer
    `Error` and the table reads as before, or both answer a handle - the run's handle `h'` was not
    live before, now holds what the specified function's handle `h` holds in the specified
    function's table, and every other lookup is the caller's -/
def AgreesAlloc (st : Coll.St) (spec : Coll.St × Res) (res : CmdResult) (tbl : Table) : Prop :=
  match spec.2 with
  | .err => (∃ m, res = .error m) ∧ LookupEq tbl st.tbl
  | .val o => ∃ h h', o = some h ∧ res = .continue (some h') ∧ tget st.tbl h' = none ∧
      (tget tbl h').isSome = true ∧ tget tbl h' = tget spec.1.tbl h ∧ ∀ k, k ≠ h' → tget tbl k = tget st.tbl k

end Duck.ScriptRun
