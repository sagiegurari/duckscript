/-
  `resolveCmd` as a table: every built-in command has a list of spellings (`Cmd.names`, the
  regenerated name lists), and a word resolves to the command whose list holds it.  The one fact
  about the CONCRETE lists — they are pairwise disjoint, so the order of the cascade does not
  matter — is checked by evaluation and so re-checked whenever the tables are regenerated.
-/
import DuckModel.Sdk.Flow
import DuckModel.Generated.CmdNames
import DuckModel.Spec.TreeWF

namespace Duck
open Duck.Generated Duck.Spec

/-- the spellings of a command -/
def Cmd.names : Cmd → List Str
  | .ifC => namesIfCommand
  | .elseIf => namesElseIfCommand
  | .elseC => namesElseCommand
  | .endIf => namesEndIfCommand
  | .whileC => namesWhileCommand
  | .endWhile => namesEndWhileCommand
  | .forIn => namesForInCommand
  | .endFor => namesEndForInCommand
  | .endC => [endWord]
  | .function => namesFunctionCommand
  | .endFunction => namesEndFunctionCommand
  | .returnC => namesReturnCommand
  | .set => cmdNamesSet
  | .equals => cmdNamesEquals
  | .notC => cmdNamesNot
  | .array => cmdNamesArray
  | .range => cmdNamesRange
  | .emit => ["emit".toList]
  | .inc => ["inc".toList]
  | .lt => ["lt".toList]
  | .call _ => []

/-- the built-in commands, in the order in which `resolveCmd` tries them -/
def Cmd.builtins : List Cmd :=
  [.ifC, .elseIf, .elseC, .endIf, .whileC, .endWhile, .forIn, .endFor, .endC, .function, .endFunction,
   .returnC, .set, .equals, .notC, .array, .range, .emit, .inc, .lt]

/-- the first command of the list that is spelled `n` -/
def firstNamed (n : Str) : List Cmd → Option Cmd
  | [] => none
  | c :: cs => if c.names.contains n then some c else firstNamed n cs

theorem firstNamed_some {n : Str} {c : Cmd} : ∀ {cs : List Cmd}, firstNamed n cs = some c → n ∈ c.names
  | [], h => by cases h
  | d :: cs, h => by
    unfold firstNamed at h
    split at h
    · cases h
      exact List.contains_iff_mem.mp ‹_›
    · exact firstNamed_some h

theorem firstNamed_cons {A : Prop} [Decidable A] {n : Str} {c : Cmd} {cs : List Cmd} {r : Option Cmd}
    (hA : A ↔ n ∈ c.names) (hr : r = firstNamed n cs) :
    (if A then some c else r) = firstNamed n (c :: cs) := by
  rw [firstNamed, hr]
  by_cases h : A
  · rw [if_pos h, if_pos (List.contains_iff_mem.mpr (hA.mp h))]
  · rw [if_neg h, if_neg fun hc => h (hA.mpr (List.contains_iff_mem.mp hc))]

/-- the cascade of `resolveCmd` is the search for the first built-in command with that spelling -/
theorem resolveCmd_builtin (n : Str) : resolveCmd {} n = firstNamed n Cmd.builtins := by
  unfold resolveCmd Cmd.builtins
  -- one rung of the cascade per built-in command; what is left is each rung's test against the
  -- command's spellings, and the last rung (no user function in the empty state) against `[]`
  repeat' refine firstNamed_cons ?_ ?_
  -- the rungs that test a generated name list with `contains`
  any_goals exact List.contains_iff_mem
  -- the last rung
  any_goals rfl
  -- the rungs that compare with one, two or three spellings (`end`, `set` … `lt`)
  all_goals simp [Cmd.names, cmdNamesSet, cmdNamesEquals, cmdNamesNot, cmdNamesArray, cmdNamesRange, sdkName,
    endWord]

/-- everything that is evaluated on the regenerated name lists: the lists of
    spellings are pairwise disjoint; `on_error` is no command; the names the openers register in
    the end table are spellings of the end commands -/
theorem names_evaluated :
    (∀ c ∈ Cmd.builtins, ∀ n ∈ c.names, resolveCmd {} n = some c) ∧
    resolveCmd {} onErrorName = none ∧
    fullNameEndIf ∈ Cmd.endIf.names ∧ fullNameEndWhile ∈ Cmd.endWhile.names ∧
    fullNameEndForIn ∈ Cmd.endFor.names ∧ fullNameEndFunction ∈ Cmd.endFunction.names := by
  decide +kernel

theorem Cmd.mem_builtins {c : Cmd} {n : Str} (h : n ∈ c.names) : c ∈ Cmd.builtins := by
  cases c <;> first | decide | cases h

/-- a word resolves to the command among whose spellings it is -/
theorem resolveCmd_iff {n : Str} {c : Cmd} : resolveCmd {} n = some c ↔ n ∈ c.names :=
  ⟨fun h => firstNamed_some (resolveCmd_builtin n ▸ h), fun h => names_evaluated.1 c (Cmd.mem_builtins h) n h⟩

/-! ### user functions come last -/

theorem ite_or_aux {α} (A : Prop) [Decidable A] (a : α) (r r' : Option α) (x : Option α)
    (h : r = r'.or x) : (if A then some a else r) = (if A then some a else r').or x := by
  split <;> simp [h]

theorem resolveCmd_eq (s : Sdk) (c : Str) :
    resolveCmd s c =
      (resolveCmd {} c).or (if (s.fns.get c).isSome then some (.call c) else none) := by
  unfold resolveCmd
  -- the built-in rungs do not look at the state; the last rung is the only one that does
  repeat' apply ite_or_aux
  simp [KV.get]

theorem resolveCmd_of_empty {c : Str} {x : Cmd} (s : Sdk) (h : resolveCmd {} c = some x) :
    resolveCmd s c = some x := by
  rw [resolveCmd_eq, h]; rfl

theorem resolveCmd_none_of_empty {c : Str} (s : Sdk) (hs : s.fns = [])
    (h : (resolveCmd {} c).isNone = true) : resolveCmd s c = none := by
  rw [resolveCmd_eq, Option.isNone_iff_eq_none.mp h, hs]
  simp [KV.get]

/-- a name that is neither a command nor a function -/
theorem resolveCmd_none_env {s : Sdk} {w : Str} (hb : (resolveCmd {} w).isNone = true)
    (hf : s.fns.get w = none) : resolveCmd s w = none := by
  rw [resolveCmd_eq, Option.isNone_iff_eq_none.mp hb, hf]
  rfl

/-- a function name resolves to its call -/
theorem resolveCmd_call {s : Sdk} {w : Str} {fi : FnInfo} (hb : (resolveCmd {} w).isNone = true)
    (hf : s.fns.get w = some fi) : resolveCmd s w = some (.call w) := by
  rw [resolveCmd_eq, Option.isNone_iff_eq_none.mp hb, hf]
  rfl

/-- a spelling of `c` resolves to `c` in every state -/
theorem resolve_kw (c : Cmd) {k : Str} (h : c.names.contains k = true) (s : Sdk) :
    resolveCmd s k = some c :=
  resolveCmd_of_empty s (resolveCmd_iff.mpr (List.contains_iff_mem.mp h))

/-- a block's end word: its own end command or the generic `end` -/
theorem resolve_end (c : Cmd) {k : Str} (h : (c.names.contains k || k == endWord) = true) (s : Sdk) :
    resolveCmd s k = some c ∨ resolveCmd s k = some .endC := by
  rcases Bool.or_eq_true_iff.mp h with h | h
  · exact .inl (resolve_kw c h s)
  · exact .inr (resolve_kw .endC (by simpa [Cmd.names] using h) s)

/-! ### the names the openers register in the end table -/

theorem resolve_fullEndIf (s : Sdk) : resolveCmd s fullNameEndIf = some .endIf :=
  resolveCmd_of_empty s (resolveCmd_iff.mpr names_evaluated.2.2.1)
theorem resolve_fullEndWhile (s : Sdk) : resolveCmd s fullNameEndWhile = some .endWhile :=
  resolveCmd_of_empty s (resolveCmd_iff.mpr names_evaluated.2.2.2.1)
theorem resolve_fullEndFor (s : Sdk) : resolveCmd s fullNameEndForIn = some .endFor :=
  resolveCmd_of_empty s (resolveCmd_iff.mpr names_evaluated.2.2.2.2.1)
theorem resolve_fullEndFn (s : Sdk) : resolveCmd s fullNameEndFunction = some .endFunction :=
  resolveCmd_of_empty s (resolveCmd_iff.mpr names_evaluated.2.2.2.2.2)

theorem resolve_onError_empty : resolveCmd {} onErrorName = none := names_evaluated.2.1

end Duck
