/-
  Lemmas about the text primitives of DuckModel/Chars.lean (`trim`, `lines`), and `NoTrail`:
  a text that does not end in white space.
-/
import DuckModel.Chars
import DuckModel.Types

namespace Duck

theorem dropWhile_nil_all (l : Str) (h : List.dropWhile isWs l = []) : ∀ c ∈ l, isWs c = true := by
  induction l with
  | nil => simp
  | cons x t ih =>
    rw [List.dropWhile_cons] at h
    by_cases hx : isWs x = true
    · simp [hx] at h
      intro c hc
      rcases List.mem_cons.mp hc with rfl | hc
      · exact hx
      · exact ih h c hc
    · simp [hx] at h

theorem trimStart_append_ws (lead l : Str) (h : ∀ c ∈ lead, isWs c = true) :
    trimStart (lead ++ l) = trimStart l := by
  unfold trimStart
  exact List.dropWhile_append_of_pos h

theorem trimStart_cons_nonws (c : Char) (l : Str) (h : isWs c = false) :
    trimStart (c :: l) = c :: l := by
  simp [trimStart, h]

theorem trimStart_ws (l : Str) (h : ∀ c ∈ l, isWs c = true) : trimStart l = [] := by
  have := trimStart_append_ws l [] h
  simpa [trimStart] using this

theorem trimEnd_nil : trimEnd [] = [] := rfl

theorem trimEnd_ws (l : Str) (h : ∀ c ∈ l, isWs c = true) : trimEnd l = [] := by
  unfold trimEnd
  have : List.dropWhile isWs (l.reverse ++ []) = List.dropWhile isWs [] :=
    List.dropWhile_append_of_pos (by intro a ha; exact h a (by simpa using ha))
  simp at this
  simp [this]

theorem trimEnd_append_ws (a w : Str) (h : ∀ c ∈ w, isWs c = true) :
    trimEnd (a ++ w) = trimEnd a := by
  unfold trimEnd
  rw [List.reverse_append]
  rw [List.dropWhile_append_of_pos (by intro x hx; exact h x (by simpa using hx))]

theorem trimEnd_append_ne_nil (a b : Str) (h : trimEnd b ≠ []) :
    trimEnd (a ++ b) = a ++ trimEnd b := by
  unfold trimEnd at *
  rw [List.reverse_append, List.dropWhile_append]
  have h' : (List.dropWhile isWs b.reverse).isEmpty = false := by
    cases hd : List.dropWhile isWs b.reverse with
    | nil => simp [hd] at h
    | cons x xs => rfl
  simp [h']

theorem trimEnd_singleton_nonws (c : Char) (h : isWs c = false) : trimEnd [c] = [c] := by
  simp [trimEnd, h]

theorem trimEnd_cons_nonws (c : Char) (l : Str) (h : isWs c = false) :
    trimEnd (c :: l) = c :: trimEnd l := by
  unfold trimEnd
  rw [List.reverse_cons, List.dropWhile_append]
  split
  · rename_i he
    have : List.dropWhile isWs l.reverse = [] := by simpa using he
    simp [this, h]
  · simp

theorem trimEnd_cons_ws (c : Char) (l : Str) (h : isWs c = true) :
    trimEnd (c :: l) = if trimEnd l = [] then [] else c :: trimEnd l := by
  unfold trimEnd
  rw [List.reverse_cons, List.dropWhile_append]
  split
  · rename_i he
    have : List.dropWhile isWs l.reverse = [] := by simpa using he
    simp [this, h]
  · rename_i he
    have : List.dropWhile isWs l.reverse ≠ [] := by simpa using he
    simp [this]

theorem trimEnd_append_nonws (a b : Str) (h : ∀ x ∈ a, isWs x = false) :
    trimEnd (a ++ b) = a ++ trimEnd b := by
  induction a with
  | nil => rfl
  | cons c t ih =>
    rw [List.cons_append, trimEnd_cons_nonws c _ (h c (by simp)),
      ih (fun x hx => h x (by simp [hx]))]
    rfl

/-- `a` does not end in white space -/
def NoTrail (a : Str) : Prop := trimEnd a = a

theorem NoTrail.append_singleton (a : Str) (c : Char) (h : isWs c = false) : NoTrail (a ++ [c]) := by
  unfold NoTrail
  rw [trimEnd_append_ne_nil _ _ (by simp [trimEnd_singleton_nonws c h]), trimEnd_singleton_nonws c h]

theorem NoTrail.append (a b : Str) (hb : NoTrail b) (hne : b ≠ []) : NoTrail (a ++ b) := by
  unfold NoTrail at *
  rw [trimEnd_append_ne_nil _ _ (by rw [hb]; exact hne), hb]

theorem NoTrail.of_all_nonws (a : Str) (h : ∀ c ∈ a, isWs c = false) : NoTrail a := by
  simpa [NoTrail, trimEnd_nil] using trimEnd_append_nonws a [] h

theorem NoTrail.nil : NoTrail [] := rfl

theorem NoTrail.append' (a b : Str) (ha : NoTrail a) (hb : NoTrail b) : NoTrail (a ++ b) := by
  cases b with
  | nil => simpa using ha
  | cons c t => exact NoTrail.append a (c :: t) hb (by simp)

theorem trim_ws (l : Str) (h : ∀ c ∈ l, isWs c = true) : trim l = [] := by
  simp [trim, trimStart_ws l h, trimEnd_nil]

/-- trimming `lead ++ c :: r` with `lead` white space and `c` not -/
theorem trim_lead_cons (lead : Str) (c : Char) (r : Str) (hl : ∀ x ∈ lead, isWs x = true)
    (hc : isWs c = false) : trim (lead ++ c :: r) = c :: trimEnd r := by
  unfold trim
  rw [trimStart_append_ws lead _ hl, trimStart_cons_nonws c r hc, trimEnd_cons_nonws c r hc]

theorem trim_ws_append (lead l : Str) (h : ∀ c ∈ lead, isWs c = true) :
    trim (lead ++ l) = trim l := by
  simp only [trim, trimStart_append_ws lead l h]

/-- trimming with a visible character on both sides -/
theorem trim_mid (lead : Str) (c : Char) (mid : Str) (d : Char) (rest : Str)
    (hl : ∀ x ∈ lead, isWs x = true) (hc : isWs c = false) (hd : isWs d = false) :
    trim (lead ++ c :: (mid ++ d :: rest)) = c :: (mid ++ d :: trimEnd rest) := by
  have hh : trimEnd (d :: rest) = d :: trimEnd rest := trimEnd_cons_nonws _ _ hd
  rw [trim_lead_cons lead c _ hl hc, trimEnd_append_ne_nil _ _ (by rw [hh]; simp), hh]

theorem trim_append_ws (l w : Str) (h : ∀ c ∈ w, isWs c = true) : trim (l ++ w) = trim l := by
  unfold trim
  by_cases hl : ∀ c ∈ l, isWs c = true
  · rw [trimStart_ws l hl, trimStart_ws (l ++ w) (by
      intro c hc
      rcases List.mem_append.mp hc with hc | hc
      · exact hl c hc
      · exact h c hc)]
  · -- l has a non-ws character: trimStart (l ++ w) = trimStart l ++ w
    have : trimStart (l ++ w) = trimStart l ++ w := by
      unfold trimStart
      rw [List.dropWhile_append]
      have hne : (List.dropWhile isWs l).isEmpty = false := by
        cases hd : List.dropWhile isWs l with
        | nil =>
          exfalso; apply hl
          intro c hc
          exact dropWhile_nil_all l hd c hc
        | cons x xs => rfl
      simp [hne]
    rw [this, trimEnd_append_ws _ _ h]

theorem linesAux_append_noLF (acc l rest : Str) (h : ∀ c ∈ l, c ≠ '\n') :
    linesAux acc (l ++ rest) = linesAux (acc ++ l) rest := by
  induction l generalizing acc with
  | nil => simp
  | cons c t ih =>
    have hc : c ≠ '\n' := h c (by simp)
    simp only [List.cons_append, linesAux, hc, if_false]
    rw [ih _ (fun x hx => h x (by simp [hx]))]
    simp

theorem lines_append_LF (l rest : Str) (h : ∀ c ∈ l, c ≠ '\n') :
    lines (l ++ '\n' :: rest) = stripCr l :: lines rest := by
  unfold lines
  rw [linesAux_append_noLF [] l _ h]
  simp [linesAux]

theorem lines_noLF (l : Str) (h : ∀ c ∈ l, c ≠ '\n') (hne : l ≠ []) : lines l = [l] := by
  unfold lines
  have := linesAux_append_noLF [] l [] h
  simp at this
  rw [this]
  cases l with
  | nil => exact absurd rfl hne
  | cons c t => simp [linesAux]

theorem stripCr_append_cr (l : Str) : stripCr (l ++ ['\r']) = l := by
  simp [stripCr]

/-- a trailing `\r` does not change the trimmed text -/
theorem trim_stripCr (l : Str) : trim (stripCr l) = trim l := by
  unfold stripCr
  split
  · rename_i r hr
    have : l = r.reverse ++ ['\r'] := by
      have := congrArg List.reverse hr
      simpa using this
    rw [this, trim_append_ws _ _ (by intro c hc; simp at hc; subst hc; decide)]
  · rfl

end Duck
