/-
  `parseLinesWith` / `parseText` line by line (one instruction per line, the first bad line wins),
  the lines of a rendered script, and the round trip of a whole script (`script_roundtrip`, C01).
-/
import DuckModel.Lemmas.RenderLemmas

namespace Duck
open Duck.Spec

/-! ### parseLinesWith -/

/-- a line that parses and is not an include directive nor an unknown directive -/
def LineOK (l : Str) : Prop :=
  ∃ ty, parseLine l = .ok ty ∧ ∀ c a, ty = .preProcess c a → c = some printName

theorem parseLinesWith_nil (inc : Str → Except ParseFail (List Instruction)) (fs : Fs)
    (src : Option Str) (n : Nat) : parseLinesWith inc fs src n [] = .ok [] := by
  simp [parseLinesWith]

theorem parseLinesWith_cons_good (inc : Str → Except ParseFail (List Instruction)) (fs : Fs)
    (src : Option Str) (n : Nat) (l : Str) (ls : List Str) (ty : InstrType)
    (h : parseLine l = .ok ty) (hp : ∀ c a, ty = .preProcess c a → c = some printName) :
    parseLinesWith inc fs src n (l :: ls) =
      match parseLinesWith inc fs src (n + 1) ls with
      | .error e => .error e
      | .ok r => .ok (⟨{ line := some n, source := src }, ty⟩ :: r) := by
  rw [parseLinesWith]
  simp only [h]
  cases ty with
  | preProcess c a =>
    have := hp c a rfl
    subst this
    simp [runPre]
    cases parseLinesWith inc fs src (n + 1) ls <;> rfl
  | empty => rfl
  | script i => rfl

theorem parseLinesWith_cons_error (inc : Str → Except ParseFail (List Instruction)) (fs : Fs)
    (src : Option Str) (n : Nat) (l : Str) (ls : List Str) (k : PErr)
    (h : parseLine l = .error k) :
    parseLinesWith inc fs src n (l :: ls) = .error ⟨k, { line := some n, source := src }⟩ := by
  rw [parseLinesWith]
  simp only [h]

theorem parseLinesWith_cons_unknown (inc : Str → Except ParseFail (List Instruction)) (fs : Fs)
    (src : Option Str) (n : Nat) (l : Str) (ls : List Str) (c : Str) (a : Option (List Str))
    (h : parseLine l = .ok (.preProcess (some c) a)) (h1 : c ≠ printName) (h2 : c ≠ includeName) :
    parseLinesWith inc fs src n (l :: ls) =
      .error ⟨.unknownPreProcessorCommand, { line := some n, source := src }⟩ := by
  rw [parseLinesWith]
  simp only [h]
  simp [runPre, h1, h2]

theorem lineOK_of_ok (inc : Str → Except ParseFail (List Instruction)) (fs : Fs)
    (src : Option Str) (n : Nat) (l : Str) (ls : List Str) (is : List Instruction)
    (hp : parseLinesWith inc fs src n (l :: ls) = .ok is)
    (hno : ∀ a, parseLine l ≠ .ok (.preProcess (some includeName) a)) : LineOK l := by
  rw [parseLinesWith] at hp
  cases hpl : parseLine l with
  | error k => simp [hpl] at hp
  | ok ty =>
    refine ⟨ty, hpl, ?_⟩
    intro c a hty
    subst hty
    simp only [hpl] at hp
    cases c with
    | none => simp [runPre] at hp
    | some c =>
      by_cases h1 : c = printName
      · rw [h1]
      by_cases h2 : c = includeName
      · subst h2; exact absurd hpl (hno a)
      simp [runPre, h1, h2] at hp

theorem parseLinesWith_error_after_good (inc : Str → Except ParseFail (List Instruction)) (fs : Fs)
    (src : Option Str) (pre rest : List Str) (e : ParseFail) (m : Nat) :
    ∀ n, (∀ l ∈ pre, LineOK l) → m = n + pre.length →
      parseLinesWith inc fs src m rest = .error e →
      parseLinesWith inc fs src n (pre ++ rest) = .error e := by
  induction pre with
  | nil =>
    intro n _ hm h
    simp at hm
    subst hm
    simpa using h
  | cons l pre ih =>
    intro n hpre hm h
    obtain ⟨ty, hty, hpp⟩ := hpre l (by simp)
    rw [List.cons_append, parseLinesWith_cons_good inc fs src n l _ ty hty hpp]
    rw [ih (n + 1) (fun l' hl' => hpre l' (by simp [hl'])) (by simp at hm; omega) h]

/-! ### no line feed inside a rendered line -/

def NoLF (l : Str) : Prop := ∀ x ∈ l, x ≠ '\n'

theorem noLF_nil : NoLF [] := by simp [NoLF]

theorem noLF_append (a b : Str) : NoLF (a ++ b) ↔ NoLF a ∧ NoLF b := by
  simp only [NoLF, List.mem_append]
  constructor
  · intro h; exact ⟨fun x hx => h x (Or.inl hx), fun x hx => h x (Or.inr hx)⟩
  · rintro ⟨h1, h2⟩ x (hx | hx)
    · exact h1 x hx
    · exact h2 x hx

theorem noLF_cons (c : Char) (a : Str) : NoLF (c :: a) ↔ c ≠ '\n' ∧ NoLF a := by
  simp [NoLF]

theorem noLF_spaces (k : Nat) : NoLF (spaces k) := by
  intro x hx; rw [mem_spaces hx]; decide

theorem noLF_of_nonws (l : Str) (h : ∀ c ∈ l, isWs c = false) : NoLF l := by
  intro x hx; exact (isWs_false_ne (h x hx)).2.1

theorem noLF_name {n : Str} (h : NameOK n) : NoLF n :=
  noLF_of_nonws n (fun c hc => (h.2.1 c hc).1)

theorem noLF_escChar (c : Char) : NoLF (escChar c) := by
  unfold escChar
  repeat' split
  all_goals simp [NoLF]
  all_goals assumption

theorem noLF_escape (s : Str) : NoLF (escape s) := by
  induction s with
  | nil => exact noLF_nil
  | cons c t ih => rw [escape_cons, noLF_append]; exact ⟨noLF_escChar c, ih⟩

theorem noLF_renderArg (q : Bool) (a : Str) : NoLF (renderArg q a) := by
  unfold renderArg
  split
  · rw [noLF_cons, noLF_append, noLF_cons]
    exact ⟨by decide, noLF_escape a, by decide, noLF_nil⟩
  · exact noLF_escape a

theorem noLF_renderArgs (ch : List (Nat × Bool)) (as : List Str) :
    ∀ k, NoLF (renderArgs ch k as) := by
  induction as with
  | nil => intro k; exact noLF_nil
  | cons a as ih =>
    intro k
    simp only [renderArgs, noLF_append]
    exact ⟨⟨noLF_spaces _, noLF_renderArg _ _⟩, ih (k + 1)⟩

theorem noLF_renderLine (ch : Choices) (i : ScriptInstr) (hi : InstrOK i) (hc : ChoicesOK ch) :
    NoLF (renderLine ch i) := by
  obtain ⟨label, output, command, args⟩ := i
  obtain ⟨hlab, hout, hcmd, _, _⟩ := hi
  simp only at hlab hout hcmd
  have hlead : NoLF ch.lead := fun c h => (hc.lead c h).2
  have htrail : NoLF ch.trail := fun c h => (hc.trail c h).2
  have hcm : NoLF (renderComment ch.comment) := by
    cases hcc : ch.comment with
    | none => exact noLF_nil
    | some p =>
      obtain ⟨k, t⟩ := p
      simp only [renderComment, noLF_append, noLF_cons]
      exact ⟨noLF_spaces k, by decide, hc.comment k t hcc⟩
  have hL : ∀ l, label = some l → NoLF l := by
    intro l h
    obtain ⟨n, rfl, hn⟩ := hlab l h
    rw [noLF_cons]; exact ⟨by decide, noLF_name hn⟩
  have hO : ∀ o, output = some o → NoLF o := fun o h => noLF_name (hout o h).1
  have hC : ∀ c, command = some c → NoLF c := fun c h => noLF_name (hcmd c h).1
  have hA := noLF_renderArgs ch.args (args.getD []) 0
  have hsp := noLF_spaces
  have heq : ('=' : Char) ≠ '\n' := by decide
  cases label <;> cases output <;> cases command <;>
    simp [renderLine, renderBody, renderCore, noLF_append, noLF_cons, *]

/-! ### the lines of a rendered script -/

theorem parseLine_congr (a b : Str) (h : trim a = trim b) : parseLine a = parseLine b := by
  unfold parseLine; rw [h]

theorem lines_line_term (l rest : Str) (crlf : Bool) (h : NoLF l) :
    ∃ p, lines (l ++ (if crlf then ['\r', '\n'] else ['\n']) ++ rest) = p :: lines rest ∧
      trim p = trim l := by
  cases crlf with
  | true =>
    refine ⟨l, ?_, rfl⟩
    have e : l ++ (if true = true then ['\r', '\n'] else ['\n']) ++ rest =
        (l ++ ['\r']) ++ '\n' :: rest := by simp
    rw [e, lines_append_LF _ _ (by
      intro x hx
      rcases List.mem_append.mp hx with hx | hx
      · exact h x hx
      · simp at hx; subst hx; decide), stripCr_append_cr]
  | false =>
    refine ⟨stripCr l, ?_, trim_stripCr l⟩
    have e : l ++ (if false = true then ['\r', '\n'] else ['\n']) ++ rest = l ++ '\n' :: rest := by
      simp
    rw [e, lines_append_LF _ _ h]

theorem expected_not_pre (i : ScriptInstr) :
    ∀ c a, expected i = .preProcess c a → c = some printName := by
  intro c a h
  unfold expected at h
  split at h <;> cases h

theorem script_roundtrip (inc : Str → Except ParseFail (List Instruction)) (fs : Fs)
    (items : List (Choices × ScriptInstr × Bool))
    (h : ∀ x ∈ items, InstrOK x.2.1 ∧ ChoicesOK x.1) :
    ∀ n, parseLinesWith inc fs none n (lines (renderScript items)) = .ok (numbered n items) := by
  induction items with
  | nil => intro n; simp [renderScript, lines, linesAux, numbered, parseLinesWith]
  | cons x rest ih =>
    intro n
    obtain ⟨ch, i, crlf⟩ := x
    obtain ⟨hi, hc⟩ := h (ch, i, crlf) (by simp)
    obtain ⟨p, hp, htp⟩ := lines_line_term (renderLine ch i) (renderScript rest) crlf
      (noLF_renderLine ch i hi hc)
    have hpl : parseLine p = .ok (expected i) := by
      rw [parseLine_congr p _ htp]; exact line_roundtrip ch i hi hc
    simp only [renderScript]
    rw [hp, parseLinesWith_cons_good inc fs none n p _ _ hpl (expected_not_pre i),
      ih (fun y hy => h y (by simp [hy])) (n + 1)]
    simp [numbered]

theorem script_roundtrip_open (inc : Str → Except ParseFail (List Instruction)) (fs : Fs)
    (items : List (Choices × ScriptInstr × Bool))
    (h : ∀ x ∈ items, InstrOK x.2.1 ∧ ChoicesOK x.1)
    (hlast : ∀ x, items.getLast? = some x → renderLine x.1 x.2.1 ≠ []) :
    ∀ n, parseLinesWith inc fs none n (lines (renderScriptOpen items)) = .ok (numbered n items) := by
  induction items with
  | nil => intro n; simp [renderScriptOpen, lines, linesAux, numbered, parseLinesWith]
  | cons x rest ih =>
    intro n
    obtain ⟨ch, i, crlf⟩ := x
    obtain ⟨hi, hc⟩ := h (ch, i, crlf) (by simp)
    have hpl0 := line_roundtrip ch i hi hc
    cases rest with
    | nil =>
      have hne : renderLine ch i ≠ [] := hlast (ch, i, crlf) (by simp)
      simp only [renderScriptOpen]
      rw [lines_noLF _ (noLF_renderLine ch i hi hc) hne,
        parseLinesWith_cons_good inc fs none n _ _ _ hpl0 (expected_not_pre i), parseLinesWith_nil]
      simp [numbered]
    | cons y rest' =>
      obtain ⟨p, hp, htp⟩ := lines_line_term (renderLine ch i) (renderScriptOpen (y :: rest')) crlf
        (noLF_renderLine ch i hi hc)
      have hpl : parseLine p = .ok (expected i) := by
        rw [parseLine_congr p _ htp]; exact hpl0
      simp only [renderScriptOpen]
      rw [hp, parseLinesWith_cons_good inc fs none n p _ _ hpl (expected_not_pre i),
        ih (fun z hz => h z (by simp [hz])) (fun z hz => hlast z (by simpa using hz)) (n + 1)]
      simp [numbered]

end Duck
