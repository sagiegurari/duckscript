/-
  Lemmas about the binary64 model (Sdk/F64.lean): round-half-even integer division (`rne`), the
  53-bit window, monotonicity and exactness of rounding, the clamps of `Lit.toF64`, the comparison
  of read literals (all; binary64 values; decimals of at most 15 digits, where rounding is strictly
  monotone), the canonical form of a result, and that no 53-bit value is nearer than the result.
  Three definitions that the statements of Props/C16F64.lean use are made here: `roundVal` (the
  rounded magnitude as a natural), `bigKey` (the key of infinity) and `F64.Canonical`.
  The reader itself is in Lemmas/F64GrammarLemmas.lean.
  Everything is stated over `Nat` / `Int` cross-multiplication (no rationals).
-/
import DuckModel.Sdk.F64
import DuckModel.Spec.F64Order
import Mathlib.Tactic.Linarith
import Mathlib.Tactic.Ring

namespace Duck.F64

/-! ### `rne`: nearest natural, ties to even -/

/-- `rne N D` is the quotient or its successor, whichever is nearer to `N / D`; the even one on a tie -/
theorem rne_cases (N D : Nat) :
    (rne N D = N / D ∧ 2 * (N % D) ≤ D ∧ (2 * (N % D) = D → N / D % 2 = 0)) ∨
    (rne N D = N / D + 1 ∧ D ≤ 2 * (N % D) ∧ (2 * (N % D) = D → (N / D + 1) % 2 = 0)) := by
  unfold rne
  split
  · left; exact ⟨rfl, by omega, by omega⟩
  · split
    · right; exact ⟨rfl, by omega, by omega⟩
    · split
      · left; exact ⟨rfl, by omega, by omega⟩
      · right; exact ⟨rfl, by omega, by omega⟩

/-- `k = rne N D` lies within half a unit of `N / D`, and is even when exactly half a unit away -/
theorem rne_bounds (N D : Nat) (hD : 0 < D) :
    2 * rne N D * D ≤ 2 * N + D ∧ 2 * N ≤ 2 * rne N D * D + D ∧
    (2 * rne N D * D = 2 * N + D → rne N D % 2 = 0) ∧
    (2 * N = 2 * rne N D * D + D → rne N D % 2 = 0) := by
  have hN := Nat.div_add_mod N D
  have hr := Nat.mod_lt N hD
  have e : ∀ k, 2 * k * D = 2 * (D * k) := fun k => by rw [Nat.mul_assoc, Nat.mul_comm k]
  rcases rne_cases N D with ⟨hk, h1, h2⟩ | ⟨hk, h1, h2⟩ <;> rw [hk, e]
  · omega
  · rw [Nat.mul_add, Nat.mul_one]; omega

theorem rne_exact (D k : Nat) (hD : 0 < D) : rne (D * k) D = k := by
  unfold rne
  simp [Nat.mul_mod_right, hD, Nat.mul_div_cancel_left k hD]

theorem rne_zero (D : Nat) : rne 0 D = 0 := by
  unfold rne; simp

theorem rne_scale (N D c : Nat) (hc : 0 < c) : rne (N * c) (D * c) = rne N D := by
  unfold rne
  rw [Nat.mul_div_mul_right _ _ hc, Nat.mul_mod_mul_right, ← Nat.mul_assoc]
  simp only [Nat.mul_lt_mul_right hc]

theorem rne_mono_num {N N' : Nat} (D : Nat) (hD : 0 < D) (h : N ≤ N') : rne N D ≤ rne N' D := by
  have hN := Nat.div_add_mod N D
  have hN' := Nat.div_add_mod N' D
  have hr' := Nat.mod_lt N' hD
  rcases Nat.lt_or_eq_of_le (Nat.div_le_div_right (c := D) h) with hq | hq
  · rcases rne_cases N D with ⟨hk, _⟩ | ⟨hk, _⟩ <;> rcases rne_cases N' D with ⟨hk', _⟩ | ⟨hk', _⟩ <;> omega
  · rw [hq] at hN
    rcases rne_cases N D with ⟨hk, h1, h2⟩ | ⟨hk, h1, h2⟩ <;>
      rcases rne_cases N' D with ⟨hk', h1', h2'⟩ | ⟨hk', h1', h2'⟩ <;> omega

/-- rounding to nearest-even is monotone on fractions: bring both to the denominator `D1 * D2` -/
theorem rne_mono {N1 D1 N2 D2 : Nat} (h1 : 0 < D1) (h2 : 0 < D2) (h : N1 * D2 ≤ N2 * D1) :
    rne N1 D1 ≤ rne N2 D2 := by
  rw [← rne_scale N1 D1 D2 h2, ← rne_scale N2 D2 D1 h1, Nat.mul_comm D2 D1]
  exact rne_mono_num _ (Nat.mul_pos h1 h2) h
/-! ### the 53-bit window -/

/-- the value `roundScaled` denotes: the rounded mantissa times its power of two -/
def roundVal (N d : Nat) : Nat := rne N (d * 2 ^ scaleExp N d) * 2 ^ scaleExp N d

theorem div_le_div_cross {N1 d1 N2 d2 : Nat} (h1 : 0 < d1) (h2 : 0 < d2) (h : N1 * d2 ≤ N2 * d1) :
    N1 / d1 ≤ N2 / d2 := by
  rw [Nat.le_div_iff_mul_le h2]
  apply Nat.le_of_mul_le_mul_right _ h1
  calc N1 / d1 * d2 * d1 = N1 / d1 * d1 * d2 := Nat.mul_right_comm _ _ _
    _ ≤ N1 * d2 := Nat.mul_le_mul_right _ (Nat.div_mul_le_self N1 d1)
    _ ≤ N2 * d1 := h

theorem log2_mono {a b : Nat} (h : a ≤ b) : a.log2 ≤ b.log2 := by
  by_cases ha : a = 0
  · subst ha; simp
  · have hb : b ≠ 0 := by omega
    rw [Nat.le_log2 hb]
    exact Nat.le_trans (Nat.log2_self_le ha) h

theorem scaleExp_mono {N1 d1 N2 d2 : Nat} (h1 : 0 < d1) (h2 : 0 < d2) (h : N1 * d2 ≤ N2 * d1) :
    scaleExp N1 d1 ≤ scaleExp N2 d2 := by
  unfold scaleExp
  have := log2_mono (div_le_div_cross h1 h2 h)
  omega

/-- below the top of the window: N / (d · 2^E) < 2^53 -/
theorem lt_window (N d : Nat) (hd : 0 < d) : N < d * 2 ^ scaleExp N d * 2 ^ 53 := by
  have h1 : N / d < 2 ^ ((N / d).log2 + 1) := Nat.lt_log2_self
  have h2 : (N / d).log2 + 1 ≤ scaleExp N d + 53 := by unfold scaleExp; omega
  have h3 : N / d < 2 ^ (scaleExp N d + 53) :=
    Nat.lt_of_lt_of_le h1 (Nat.pow_le_pow_right (by decide) h2)
  rw [Nat.div_lt_iff_lt_mul hd] at h3
  rw [Nat.pow_add] at h3
  calc N < 2 ^ scaleExp N d * 2 ^ 53 * d := h3
    _ = d * 2 ^ scaleExp N d * 2 ^ 53 := by ring

/-- at or above the bottom of the window when the window is not at the floor -/
theorem ge_window (N d : Nat) (hd : 0 < d) (hE : 0 < scaleExp N d) :
    d * 2 ^ scaleExp N d * 2 ^ 52 ≤ N := by
  have hk : N / d ≠ 0 := by
    intro h0; unfold scaleExp at hE; rw [h0] at hE; simp at hE
  have hl : (N / d).log2 = scaleExp N d + 52 := by unfold scaleExp at *; omega
  have h1 : 2 ^ (scaleExp N d + 52) ≤ N / d := by rw [← hl]; exact Nat.log2_self_le hk
  rw [Nat.le_div_iff_mul_le hd, Nat.pow_add] at h1
  calc d * 2 ^ scaleExp N d * 2 ^ 52 = 2 ^ scaleExp N d * 2 ^ 52 * d := by ring
    _ ≤ N := h1

theorem mant_le (N d : Nat) (hd : 0 < d) : rne N (d * 2 ^ scaleExp N d) ≤ 2 ^ 53 := by
  have hD : 0 < d * 2 ^ scaleExp N d := Nat.mul_pos hd (Nat.pow_pos (by decide))
  have := rne_mono (N1 := N) (N2 := d * 2 ^ scaleExp N d * 2 ^ 53) hD hD
    (Nat.mul_le_mul_right _ (Nat.le_of_lt (lt_window N d hd)))
  rwa [rne_exact _ _ hD] at this

theorem mant_ge (N d : Nat) (hd : 0 < d) (hE : 0 < scaleExp N d) :
    2 ^ 52 ≤ rne N (d * 2 ^ scaleExp N d) := by
  have hD : 0 < d * 2 ^ scaleExp N d := Nat.mul_pos hd (Nat.pow_pos (by decide))
  have := rne_mono (N1 := d * 2 ^ scaleExp N d * 2 ^ 52) (N2 := N) hD hD
    (Nat.mul_le_mul_right _ (ge_window N d hd hE))
  rwa [rne_exact _ _ hD] at this

/-- rounding to 53 significant bits is monotone on fractions -/
theorem roundVal_mono {N1 d1 N2 d2 : Nat} (h1 : 0 < d1) (h2 : 0 < d2) (h : N1 * d2 ≤ N2 * d1) :
    roundVal N1 d1 ≤ roundVal N2 d2 := by
  have hE := scaleExp_mono h1 h2 h
  unfold roundVal
  rcases Nat.eq_or_lt_of_le hE with heq | hlt
  · rw [heq]
    apply Nat.mul_le_mul_right
    apply rne_mono (Nat.mul_pos h1 (Nat.pow_pos (by decide))) (Nat.mul_pos h2 (Nat.pow_pos (by decide)))
    calc N1 * (d2 * 2 ^ scaleExp N2 d2) = N1 * d2 * 2 ^ scaleExp N2 d2 := by ring
      _ ≤ N2 * d1 * 2 ^ scaleExp N2 d2 := Nat.mul_le_mul_right _ h
      _ = N2 * (d1 * 2 ^ scaleExp N2 d2) := by ring
  · have a := mant_le N1 d1 h1
    have b := mant_ge N2 d2 h2 (by omega)
    have hp : 2 ^ (scaleExp N1 d1 + 1) ≤ 2 ^ scaleExp N2 d2 := Nat.pow_le_pow_right (by decide) hlt
    calc rne N1 (d1 * 2 ^ scaleExp N1 d1) * 2 ^ scaleExp N1 d1
        ≤ 2 ^ 53 * 2 ^ scaleExp N1 d1 := Nat.mul_le_mul_right _ a
      _ = 2 ^ 52 * 2 ^ (scaleExp N1 d1 + 1) := by rw [Nat.pow_succ]; ring
      _ ≤ 2 ^ 52 * 2 ^ scaleExp N2 d2 := Nat.mul_le_mul_left _ hp
      _ ≤ rne N2 (d2 * 2 ^ scaleExp N2 d2) * 2 ^ scaleExp N2 d2 := Nat.mul_le_mul_right _ b

/-- a natural with at most 53 significant bits is returned unchanged -/
theorem roundVal_exact (M F d : Nat) (hM : M < 2 ^ 53) (hd : 0 < d) :
    roundVal (M * 2 ^ F * d) d = M * 2 ^ F := by
  unfold roundVal
  have hk : M * 2 ^ F * d / d = M * 2 ^ F := Nat.mul_div_cancel _ hd
  have hE : scaleExp (M * 2 ^ F * d) d ≤ F := by
    unfold scaleExp
    rw [hk]
    by_cases h0 : M * 2 ^ F = 0
    · rw [h0]; simp
    · have : (M * 2 ^ F).log2 < 53 + F := by
        rw [Nat.log2_lt h0, Nat.pow_add]
        exact Nat.mul_lt_mul_of_lt_of_le hM (Nat.le_refl _) (Nat.pow_pos (by decide))
      omega
  generalize scaleExp (M * 2 ^ F * d) d = E at *
  obtain ⟨G, rfl⟩ := Nat.exists_eq_add_of_le hE
  have : M * 2 ^ (E + G) * d = d * 2 ^ E * (M * 2 ^ G) := by rw [Nat.pow_add]; ring
  rw [this, rne_exact _ _ (Nat.mul_pos hd (Nat.pow_pos (by decide))), Nat.pow_add]
  ring

/-- a value with at most 53 significant bits at or below the fraction is at or below its rounding -/
theorem le_roundVal {M F N d : Nat} (hM : M < 2 ^ 53) (hd : 0 < d) (h : M * 2 ^ F * d ≤ N) :
    M * 2 ^ F ≤ roundVal N d := by
  rw [← roundVal_exact M F d hM hd]
  exact roundVal_mono hd hd (Nat.mul_le_mul_right d h)

theorem roundVal_le {M F N d : Nat} (hM : M < 2 ^ 53) (hd : 0 < d) (h : N ≤ M * 2 ^ F * d) :
    roundVal N d ≤ M * 2 ^ F := by
  rw [← roundVal_exact M F d hM hd]
  exact roundVal_mono hd hd (Nat.mul_le_mul_right d h)

theorem roundVal_zero (d : Nat) : roundVal 0 d = 0 := by
  unfold roundVal; rw [rne_zero]; simp

/-- what `roundScaled` returns: a mantissa below 2^53, at least 2^52 unless the exponent is the
    floor, denoting `roundVal` -/
theorem roundScaled_spec (N d : Nat) (hd : 0 < d) :
    (roundScaled N d).1 < 2 ^ 53 ∧ (0 < (roundScaled N d).2 → 2 ^ 52 ≤ (roundScaled N d).1) ∧
    (roundScaled N d).1 * 2 ^ (roundScaled N d).2 = roundVal N d := by
  have hle := mant_le N d hd
  have hge := mant_ge N d hd
  unfold roundScaled roundVal
  simp only
  generalize rne N (d * 2 ^ scaleExp N d) = M at *
  generalize scaleExp N d = E at *
  split
  · rename_i hM
    subst hM
    refine ⟨Nat.pow_lt_pow_right (by decide) (by decide), fun _ => Nat.le_refl _, ?_⟩
    show 2 ^ 52 * 2 ^ (E + 1) = 2 ^ 53 * 2 ^ E
    rw [Nat.pow_succ]; ring
  · rename_i hM
    exact ⟨by omega, hge, rfl⟩

/-! ### the key of a rounded value -/

/-- what `roundToF64` returns, in terms of the rounded mantissa `M` and exponent `E` -/
theorem roundToF64_cases (neg : Bool) (num den : Nat) (hd : 0 < den) :
    ∃ M E : Nat, M < 2 ^ 53 ∧ (0 < E → 2 ^ 52 ≤ M) ∧ M * 2 ^ E = roundVal (num * 2 ^ 1074) den ∧
      roundToF64 neg num den = if 2045 < E then .inf neg else .fin neg M ((E : Int) - 1074) :=
  have ⟨h1, h2, h3⟩ := roundScaled_spec (num * 2 ^ 1074) den hd
  ⟨(roundScaled (num * 2 ^ 1074) den).1, (roundScaled (num * 2 ^ 1074) den).2, h1, h2, h3, rfl⟩

/-- a mantissa in the 53-bit window reaches 2^2098 exactly when its exponent is above 2045 -/
theorem window_overflow {M E : Nat} (h1 : M < 2 ^ 53) (h2 : 0 < E → 2 ^ 52 ≤ M) :
    2 ^ 2098 ≤ M * 2 ^ E ↔ 2045 < E := by
  constructor
  · intro h
    by_contra hE
    have : M * 2 ^ E < 2 ^ 53 * 2 ^ 2045 :=
      Nat.mul_lt_mul_of_lt_of_le h1 (Nat.pow_le_pow_right (by decide) (by omega)) (Nat.two_pow_pos _)
    have e : (2 : Nat) ^ 2098 = 2 ^ 53 * 2 ^ 2045 := by
      rw [show (2098 : Nat) = 53 + 2045 from rfl, Nat.pow_add]
    rw [← e] at this
    exact absurd h (Nat.not_le.mpr this)
  · intro hE
    calc 2 ^ 2098 = 2 ^ 52 * 2 ^ 2046 := by rw [show (2098 : Nat) = 52 + 2046 from rfl, Nat.pow_add]
      _ ≤ M * 2 ^ E := Nat.mul_le_mul (h2 (by omega)) (Nat.pow_le_pow_right (by decide) hE)

/-- overflow exactly when the rounded value reaches 2^1024 (scaled: 2^2098) -/
theorem roundToF64_inf_iff (neg : Bool) (num den : Nat) (hd : 0 < den) :
    2 ^ 2098 ≤ roundVal (num * 2 ^ 1074) den ↔ roundToF64 neg num den = .inf neg := by
  obtain ⟨M, E, h1, h2, h3, he⟩ := roundToF64_cases neg num den hd
  rw [he, ← h3, window_overflow h1 h2]
  constructor
  · intro hE; rw [if_pos hE]
  · intro h
    split at h
    · assumption
    · cases h

/-- the key of a rounded value is the rounded magnitude, capped at the key of infinity -/
theorem key_roundToF64 (neg : Bool) (num den : Nat) (hd : 0 < den) :
    (roundToF64 neg num den).key = sgn neg (min (roundVal (num * 2 ^ 1074) den) (2 ^ 2098)) := by
  obtain ⟨M, E, h1, h2, h3, he⟩ := roundToF64_cases neg num den hd
  rw [he, ← h3]
  by_cases hE : 2045 < E
  · rw [if_pos hE, Nat.min_eq_right ((window_overflow h1 h2).mpr hE)]
    cases neg <;> simp [F64.key, sgn]
  · rw [if_neg hE, Nat.min_eq_left (Nat.le_of_lt (Nat.not_le.mp (mt (window_overflow h1 h2).mp hE)))]
    simp [F64.key, sgn]

theorem roundToF64_not_nan (neg : Bool) (num den : Nat) : (roundToF64 neg num den).isNan = false := by
  unfold roundToF64; simp only; split <;> rfl

theorem roundToF64_zero (neg : Bool) (den : Nat) : roundToF64 neg 0 den = .fin neg 0 (-1074) := by
  unfold roundToF64 roundScaled scaleExp
  simp [rne_zero]

/-- a magnitude that rounds to zero gives the signed zero -/
theorem roundToF64_eq_zero (neg : Bool) (num den : Nat) (hd : 0 < den)
    (h : roundVal (num * 2 ^ 1074) den = 0) : roundToF64 neg num den = .fin neg 0 (-1074) := by
  obtain ⟨M, E, _, h2, h3, he⟩ := roundToF64_cases neg num den hd
  rw [h] at h3
  have hm : M = 0 := (Nat.mul_eq_zero.mp h3).resolve_right (Nat.ne_of_gt (Nat.two_pow_pos _))
  have hE : E = 0 := Nat.eq_zero_of_not_pos fun hp => by have := h2 hp; omega
  rw [he, hm, hE]; simp

/-! ### signed magnitudes -/

theorem sgn_mul (neg : Bool) (a b : Nat) : sgn neg a * (b : Int) = sgn neg (a * b) := by
  cases neg <;> simp [sgn]

theorem natAbs_sgn (neg : Bool) (v : Nat) : (sgn neg v).natAbs = v := by
  cases neg <;> simp [sgn]

/-- a map of magnitudes `x ↦ k` that is monotone and sends 0 to 0 is monotone on signed values -/
theorem sgn_le_sgn {n1 n2 : Bool} {x1 x2 k1 k2 : Nat} (h : sgn n1 x1 ≤ sgn n2 x2)
    (hle : x1 ≤ x2 → k1 ≤ k2) (hge : x2 ≤ x1 → k2 ≤ k1) (h1 : x1 = 0 → k1 = 0) (h2 : x2 = 0 → k2 = 0) :
    sgn n1 k1 ≤ sgn n2 k2 := by
  cases n1 <;> cases n2 <;> simp only [sgn, Bool.false_eq_true, if_false, if_true] at h ⊢ <;> omega

/-- a strictly monotone map of magnitudes `x ↦ k` fixing 0 preserves the strict order of signed values -/
theorem sgn_lt_sgn_iff {n1 n2 : Bool} {x1 x2 k1 k2 : Nat}
    (hlt : x1 < x2 → k1 < k2) (hgt : x2 < x1 → k2 < k1) (heq : x1 = x2 → k1 = k2)
    (h1 : k1 = 0 ↔ x1 = 0) (h2 : k2 = 0 ↔ x2 = 0) :
    sgn n1 k1 < sgn n2 k2 ↔ sgn n1 x1 < sgn n2 x2 := by
  cases n1 <;> cases n2 <;> simp only [sgn, Bool.false_eq_true, if_false, if_true] <;> omega

theorem sgn_lt_scale (n1 n2 : Bool) (x y c : Nat) (hc : 0 < c) :
    sgn n1 (x * c) < sgn n2 (y * c) ↔ sgn n1 x < sgn n2 y := by
  rw [← sgn_mul, ← sgn_mul]
  exact Int.mul_lt_mul_right (by exact_mod_cast hc)

theorem mul_pos_eq_zero {a d : Nat} (hd : 0 < d) : a * d = 0 ↔ a = 0 := by
  rw [Nat.mul_eq_zero]; omega

/-! ### monotonicity of the signed rounding -/

theorem scaled_cross {a1 d1 a2 d2 : Nat} (P : Nat) (h : a1 * d2 ≤ a2 * d1) :
    a1 * P * d2 ≤ a2 * P * d1 := by
  rw [Nat.mul_right_comm a1, Nat.mul_right_comm a2]
  exact Nat.mul_le_mul_right P h

theorem key_mono_pos {a1 d1 a2 d2 : Nat} (h1 : 0 < d1) (h2 : 0 < d2) (h : a1 * d2 ≤ a2 * d1) :
    min (roundVal (a1 * 2 ^ 1074) d1) (2 ^ 2098) ≤ min (roundVal (a2 * 2 ^ 1074) d2) (2 ^ 2098) := by
  have := roundVal_mono h1 h2 (scaled_cross (2 ^ 1074) h)
  generalize 2 ^ 2098 = B
  omega

/-- round-to-nearest-even into binary64 is monotone on signed fractions -/
theorem round_monotone (n1 n2 : Bool) (a1 d1 a2 d2 : Nat) (h1 : 0 < d1) (h2 : 0 < d2)
    (h : sgn n1 a1 * (d2 : Int) ≤ sgn n2 a2 * (d1 : Int)) :
    (roundToF64 n1 a1 d1).le (roundToF64 n2 a2 d2) = true := by
  unfold F64.le
  rw [roundToF64_not_nan, roundToF64_not_nan, key_roundToF64 _ _ _ h1, key_roundToF64 _ _ _ h2]
  simp only [Bool.not_false, Bool.true_and, decide_eq_true_eq]
  rw [sgn_mul, sgn_mul] at h
  have zero : ∀ {a d d' : Nat}, 0 < d' → a * d' = 0 → min (roundVal (a * 2 ^ 1074) d) (2 ^ 2098) = 0 := by
    intro a d d' hd' h0
    rw [(mul_pos_eq_zero hd').mp h0, Nat.zero_mul, roundVal_zero, Nat.zero_min]
  exact sgn_le_sgn h (key_mono_pos h1 h2) (key_mono_pos h2 h1) (zero h2) (zero h1)

/-! ### literals: the clamps of `Lit.toF64` never change the value -/

theorem toF64Exact_dec (neg : Bool) (mant : Nat) (exp : Int) :
    (Lit.dec neg mant exp).toF64Exact = roundToF64 neg (mant * 10 ^ exp.toNat) (10 ^ (-exp).toNat) := by
  simp only [Lit.toF64Exact]
  split
  · rename_i h
    have : (-exp).toNat = 0 := by omega
    rw [this]; rfl
  · rename_i h
    have : exp.toNat = 0 := by omega
    rw [this]; simp

theorem pow10_pos (k : Nat) : 0 < 10 ^ k := Nat.pow_pos (by decide)

theorem two_le_ten : (2 : Nat) ^ 1076 ≤ 10 ^ 401 := by decide +kernel

theorem overflow_clamp (neg : Bool) (mant k : Nat) (hm : mant ≠ 0) (hk : 401 ≤ k) :
    roundToF64 neg (mant * 10 ^ k) 1 = .inf neg := by
  apply (roundToF64_inf_iff neg _ 1 (by decide)).mp
  have e : (2 : Nat) ^ 2098 = 2 ^ 52 * 2 ^ 2046 := by rw [← Nat.pow_add]
  rw [e]
  apply le_roundVal (Nat.pow_lt_pow_right (by decide) (by decide)) (by decide)
  rw [← e, Nat.mul_one, show (2098 : Nat) = 1024 + 1074 from rfl, Nat.pow_add]
  apply Nat.mul_le_mul_right
  calc 2 ^ 1024 ≤ 2 ^ 1076 := Nat.pow_le_pow_right (by decide) (by decide)
    _ ≤ 10 ^ 401 := two_le_ten
    _ ≤ 10 ^ k := Nat.pow_le_pow_right (by decide) hk
    _ ≤ mant * 10 ^ k := Nat.le_mul_of_pos_left _ (Nat.pos_of_ne_zero hm)

/-- a value of at most 2^-1076 is at most a quarter of the smallest subnormal 2^-1074, and a quarter
    rounds to 0 (`roundVal 1 4 = 0`, evaluated): the bound is 2^1076 ≤ 10^401 -/
theorem underflow_clamp (neg : Bool) (mant k : Nat) (hk : 401 + (mant.log2 + 1) ≤ k) :
    roundToF64 neg mant (10 ^ k) = .fin neg 0 (-1074) := by
  apply roundToF64_eq_zero neg mant (10 ^ k) (pow10_pos k)
  have h0 : roundVal (mant * 2 ^ 1074) (10 ^ k) ≤ roundVal 1 4 := by
    apply roundVal_mono (pow10_pos k) (by decide)
    have hm : mant < 2 ^ (mant.log2 + 1) := Nat.lt_log2_self
    have h2 : 2 ^ (mant.log2 + 1) ≤ 10 ^ (mant.log2 + 1) := Nat.pow_le_pow_left (by decide) _
    have h3 : 10 ^ (401 + (mant.log2 + 1)) ≤ 10 ^ k := Nat.pow_le_pow_right (by decide) hk
    rw [Nat.pow_add] at h3
    have e : (2 : Nat) ^ 1076 = 2 ^ 1074 * 4 := by
      rw [show (1076 : Nat) = 1074 + 2 from rfl, Nat.pow_add]
    calc mant * 2 ^ 1074 * 4 = mant * (2 ^ 1074 * 4) := by ring
      _ = mant * 2 ^ 1076 := by rw [e]
      _ ≤ 10 ^ (mant.log2 + 1) * 10 ^ 401 :=
          Nat.mul_le_mul (Nat.le_trans (Nat.le_of_lt hm) h2) two_le_ten
      _ = 10 ^ 401 * 10 ^ (mant.log2 + 1) := Nat.mul_comm _ _
      _ ≤ 10 ^ k := h3
      _ = 1 * 10 ^ k := (Nat.one_mul _).symm
  rw [show roundVal 1 4 = 0 by decide +kernel] at h0
  omega

/-- the executable reader (clamped) and the clamp-free definition agree on every literal -/
theorem toF64_eq_exact (l : Lit) : l.toF64 = l.toF64Exact := by
  cases l with
  | nan => rfl
  | inf n => rfl
  | dec neg mant exp =>
    simp only [Lit.toF64]
    split
    · rename_i h; subst h; simp [toF64Exact_dec, roundToF64_zero]
    · rename_i hm
      split
      · rename_i he
        have h0 : (-exp).toNat = 0 := by omega
        rw [toF64Exact_dec, h0, Nat.pow_zero]
        exact (overflow_clamp neg mant exp.toNat hm (by omega)).symm
      · split
        · rename_i he
          have h0 : exp.toNat = 0 := by omega
          rw [toF64Exact_dec, h0, Nat.pow_zero, Nat.mul_one]
          exact (underflow_clamp neg mant (-exp).toNat (by omega)).symm
        · rfl

/-! ### keys of read literals -/

/-- the key of infinity as an integer, kept symbolic in proofs -/
def bigKey : Int := ((2 ^ 2098 : Nat) : Int)

theorem bigKey_pos : 0 < bigKey := by
  unfold bigKey; exact_mod_cast Nat.two_pow_pos 2098

theorem key_inf (neg : Bool) : (F64.inf neg).key = if neg then -bigKey else bigKey := rfl

theorem sgn_abs_le (neg : Bool) (v B : Nat) (h : v ≤ B) : -(B : Int) ≤ sgn neg v ∧ sgn neg v ≤ (B : Int) := by
  cases neg <;> simp [sgn] <;> omega

theorem key_dec (neg : Bool) (mant : Nat) (exp : Int) :
    (Lit.dec neg mant exp).toF64.key =
      sgn neg (min (roundVal (mant * 10 ^ exp.toNat * 2 ^ 1074) (10 ^ (-exp).toNat)) (2 ^ 2098)) := by
  rw [toF64_eq_exact, toF64Exact_dec, key_roundToF64 _ _ _ (pow10_pos _)]

theorem dec_not_nan (neg : Bool) (mant : Nat) (exp : Int) : (Lit.dec neg mant exp).toF64.isNan = false := by
  rw [toF64_eq_exact, toF64Exact_dec, roundToF64_not_nan]

/-- the exact order of two decimals, cross-multiplied -/
theorem exactLt_dec (n1 n2 : Bool) (m1 m2 : Nat) (e1 e2 : Int) :
    (Lit.dec n1 m1 e1).exactLt (.dec n2 m2 e2) ↔
      sgn n1 (m1 * 10 ^ e1.toNat * 10 ^ (-e2).toNat) < sgn n2 (m2 * 10 ^ e2.toNat * 10 ^ (-e1).toNat) := by
  show (Lit.dec n1 m1 e1).num * ((Lit.dec n2 m2 e2).den : Int) <
    (Lit.dec n2 m2 e2).num * ((Lit.dec n1 m1 e1).den : Int) ↔ _
  simp only [Lit.num, Lit.den, sgn_mul]

/-- monotonicity, on literals: the exact order `≤` is carried to the keys -/
theorem dec_key_mono (n1 n2 : Bool) (m1 m2 : Nat) (e1 e2 : Int)
    (h : ¬ (Lit.dec n2 m2 e2).exactLt (.dec n1 m1 e1)) :
    (Lit.dec n1 m1 e1).toF64.key ≤ (Lit.dec n2 m2 e2).toF64.key := by
  have := round_monotone n1 n2 (m1 * 10 ^ e1.toNat) (10 ^ (-e1).toNat) (m2 * 10 ^ e2.toNat) (10 ^ (-e2).toNat)
    (pow10_pos _) (pow10_pos _) (Int.not_lt.mp h)
  rw [← toF64Exact_dec, ← toF64Exact_dec, ← toF64_eq_exact, ← toF64_eq_exact] at this
  unfold F64.le at this
  rw [dec_not_nan, dec_not_nan] at this
  simpa using this

theorem lt_eq_of_not_nan (a b : F64) (ha : a.isNan = false) (hb : b.isNan = false) :
    F64.lt a b = decide (a.key < b.key) := by
  simp [F64.lt, ha, hb]

/-- what every literal other than NaN reads as: not a NaN, its key between those of the infinities -/
theorem toF64_key_bounds (l : Lit) (h : l ≠ .nan) :
    l.toF64.isNan = false ∧ -bigKey ≤ l.toF64.key ∧ l.toF64.key ≤ bigKey := by
  have hB := bigKey_pos
  cases l with
  | nan => exact absurd rfl h
  | inf n => exact ⟨rfl, by show _ ≤ (F64.inf n).key ∧ (F64.inf n).key ≤ _; rw [key_inf]; cases n <;> simp <;> omega⟩
  | dec n m e => exact ⟨dec_not_nan n m e, by rw [key_dec]; exact sgn_abs_le n _ _ (Nat.min_le_right _ _)⟩

theorem lt_nan_left (x : F64) : F64.lt .nan x = false := rfl

theorem lt_nan_right (x : F64) : F64.lt x .nan = false := by
  cases h : x.isNan <;> simp [F64.lt, h, F64.isNan]

/-- against an infinity only its sign can make a comparison true -/
theorem lt_inf_sound (x : F64) (n : Bool) (hx : x.isNan = false ∧ -bigKey ≤ x.key ∧ x.key ≤ bigKey) :
    (F64.lt (.inf n) x = true → n = true) ∧ (F64.lt x (.inf n) = true → n = false) := by
  have hB := bigKey_pos
  rw [lt_eq_of_not_nan _ _ rfl hx.1, lt_eq_of_not_nan _ _ hx.1 rfl, key_inf]
  cases n <;> simp <;> omega

theorem Lit.exactLt_asymm {a b : Lit} (h : a.exactLt b) : ¬ b.exactLt a := by
  cases a <;> cases b <;> simp only [Lit.exactLt] at h ⊢
  · simp_all
  · simp_all
  · simp_all
  · omega

/-- on literals a strict IEEE order between the rounded values is a strict order between
    the exact values -/
theorem lit_lt_sound (la lb : Lit) (h : F64.lt la.toF64 lb.toF64 = true) : la.exactLt lb := by
  cases la with
  | nan => simp [Lit.toF64, lt_nan_left] at h
  | inf na =>
    cases lb with
    | nan => simp [Lit.toF64, lt_nan_right] at h
    | inf nb =>
      exact ⟨(lt_inf_sound _ na (toF64_key_bounds (.inf nb) nofun)).1 h,
        (lt_inf_sound _ nb (toF64_key_bounds (.inf na) nofun)).2 h⟩
    | dec n2 m2 e2 => exact (lt_inf_sound _ na (toF64_key_bounds (.dec n2 m2 e2) nofun)).1 h
  | dec n1 m1 e1 =>
    cases lb with
    | nan => simp [Lit.toF64, lt_nan_right] at h
    | inf nb => exact (lt_inf_sound _ nb (toF64_key_bounds (.dec n1 m1 e1) nofun)).2 h
    | dec n2 m2 e2 =>
      rw [lt_eq_of_not_nan _ _ (dec_not_nan _ _ _) (dec_not_nan _ _ _), decide_eq_true_eq] at h
      by_contra hn
      have := dec_key_mono n2 n1 m2 m1 e2 e1 hn
      omega

/-! ### representable literals: the answer is the exact order -/

theorem key_representable (neg : Bool) (mant : Nat) (exp : Int) (M F : Nat) (hM : M < 2 ^ 53)
    (hB : M * 2 ^ F < 2 ^ 2098)
    (hv : mant * 10 ^ exp.toNat * 2 ^ 1074 = M * 2 ^ F * 10 ^ (-exp).toNat) :
    (Lit.dec neg mant exp).toF64.key = sgn neg (M * 2 ^ F) := by
  rw [key_dec, hv, roundVal_exact M F _ hM (pow10_pos _), Nat.min_eq_left (Nat.le_of_lt hB)]

theorem sgn_abs_lt (neg : Bool) (v B : Nat) (h : v < B) : -(B : Int) < sgn neg v ∧ sgn neg v < (B : Int) := by
  cases neg <;> simp [sgn] <;> omega

/-- the order of two fractions `a₁/d₁`, `a₂/d₂` read off any common scaling `aᵢ · P = Vᵢ · dᵢ` -/
theorem sgn_lt_cross {n1 n2 : Bool} {a1 a2 d1 d2 V1 V2 P : Nat} (hP : 0 < P) (h1 : 0 < d1) (h2 : 0 < d2)
    (hv1 : a1 * P = V1 * d1) (hv2 : a2 * P = V2 * d2) :
    sgn n1 V1 < sgn n2 V2 ↔ sgn n1 (a1 * d2) < sgn n2 (a2 * d1) := by
  have x1 : a1 * d2 * P = V1 * (d1 * d2) := by rw [Nat.mul_right_comm, hv1]; ring
  have x2 : a2 * d1 * P = V2 * (d1 * d2) := by rw [Nat.mul_right_comm, hv2]; ring
  rw [← sgn_lt_scale n1 n2 (a1 * d2) (a2 * d1) P hP, x1, x2, sgn_lt_scale _ _ _ _ _ (Nat.mul_pos h1 h2)]

/-- against an infinity only its sign matters, for any value strictly between the infinities -/
theorem lt_inf_iff (x : F64) (n : Bool) (hx : x.isNan = false) (h : -bigKey < x.key ∧ x.key < bigKey) :
    (F64.lt (.inf n) x = n) ∧ (F64.lt x (.inf n) = !n) := by
  rw [lt_eq_of_not_nan _ _ rfl hx, lt_eq_of_not_nan _ _ hx rfl, key_inf]
  cases n <;> simp <;> omega

theorem lit_lt_exact (la lb : Lit) (ra : la.Representable) (rb : lb.Representable) :
    F64.lt la.toF64 lb.toF64 = decide (la.exactLt lb) := by
  have hBig := bigKey_pos
  -- a representable decimal reads as its own value, strictly between the infinities
  have fin : ∀ n m e, (Lit.dec n m e).Representable → ∃ V, (Lit.dec n m e).toF64.key = sgn n V ∧
      m * 10 ^ e.toNat * 2 ^ 1074 = V * 10 ^ (-e).toNat ∧ -bigKey < sgn n V ∧ sgn n V < bigKey :=
    fun n m e ⟨M, F, hM, hB, hv⟩ =>
      ⟨M * 2 ^ F, key_representable n m e M F hM hB hv, hv, sgn_abs_lt n _ _ hB⟩
  cases la with
  | nan => exact absurd ra (by simp [Lit.Representable])
  | inf na =>
    cases lb with
    | nan => exact absurd rb (by simp [Lit.Representable])
    | inf nb =>
      rw [lt_eq_of_not_nan _ _ rfl rfl]
      simp only [Lit.toF64, key_inf]
      cases na <;> cases nb <;> simp [Lit.exactLt] <;> omega
    | dec n2 m2 e2 =>
      obtain ⟨V, hk, _, hb⟩ := fin n2 m2 e2 rb
      rw [← hk] at hb
      rw [show (Lit.inf na).toF64 = F64.inf na from rfl, (lt_inf_iff _ na (dec_not_nan _ _ _) hb).1]
      cases na <;> simp [Lit.exactLt]
  | dec n1 m1 e1 =>
    obtain ⟨V1, hk1, hv1, hb1⟩ := fin n1 m1 e1 ra
    cases lb with
    | nan => exact absurd rb (by simp [Lit.Representable])
    | inf nb =>
      rw [← hk1] at hb1
      rw [show (Lit.inf nb).toF64 = F64.inf nb from rfl, (lt_inf_iff _ nb (dec_not_nan _ _ _) hb1).2]
      cases nb <;> simp [Lit.exactLt]
    | dec n2 m2 e2 =>
      obtain ⟨V2, hk2, hv2, _⟩ := fin n2 m2 e2 rb
      rw [lt_eq_of_not_nan _ _ (dec_not_nan _ _ _) (dec_not_nan _ _ _), hk1, hk2]
      apply decide_eq_decide.mpr
      rw [exactLt_dec]
      exact sgn_lt_cross (Nat.two_pow_pos 1074) (pow10_pos _) (pow10_pos _) hv1 hv2

/-! ### integers up to 2^53 are binary64 values -/

/-- an integer of magnitude at most 2^53 is a binary64 value -/
theorem int_representable (neg : Bool) (n : Nat) (h : n ≤ 2 ^ 53) : (Lit.dec neg n 0).Representable := by
  have e0 : (0 : Int).toNat = 0 := rfl
  have e1 : (-(0 : Int)).toNat = 0 := rfl
  have hlt : (2 : Nat) ^ 53 * 2 ^ 1074 < 2 ^ 2098 := by
    rw [← Nat.pow_add]; exact Nat.pow_lt_pow_right (by decide) (by decide)
  rcases Nat.eq_or_lt_of_le h with heq | hlt'
  · refine ⟨2 ^ 52, 1075, Nat.pow_lt_pow_right (by decide) (by decide), ?_, ?_⟩
    · rw [← Nat.pow_add]; exact Nat.pow_lt_pow_right (by decide) (by decide)
    · rw [e0, e1, heq, Nat.pow_zero, Nat.mul_one, Nat.mul_one, ← Nat.pow_add, ← Nat.pow_add]
  · refine ⟨n, 1074, hlt', ?_, ?_⟩
    · have hpos : 0 < 2 ^ 1074 := Nat.two_pow_pos 1074
      have h1 : n * 2 ^ 1074 < 2 ^ 53 * 2 ^ 1074 := Nat.mul_lt_mul_of_pos_right hlt' hpos
      exact Nat.lt_trans h1 hlt
    · rw [e0, e1, Nat.pow_zero, Nat.mul_one, Nat.mul_one]

theorem exactLt_int (n1 n2 : Bool) (a b : Nat) :
    (Lit.dec n1 a 0).exactLt (Lit.dec n2 b 0) ↔ sgn n1 a < sgn n2 b := by
  rw [exactLt_dec]; simp

/-! ### canonical form -/

/-- the form of every value `roundToF64` returns: 53-bit mantissa, exponent range of binary64,
    mantissa below 2^52 only at the smallest exponent (subnormals and zeros) -/
def F64.Canonical : F64 → Prop
  | .fin _ m e => m < 2 ^ 53 ∧ -1074 ≤ e ∧ e ≤ 971 ∧ (m < 2 ^ 52 → e = -1074)
  | _ => True

-- `roundToF64` is kept folded: as an expected type `(roundToF64 …).Canonical` is normalised by the
-- elaborator, and unfolding would run into the stuck division and `log2` inside `rne`
attribute [local irreducible] roundToF64 in
theorem roundToF64_canonical (neg : Bool) (num den : Nat) (hd : 0 < den) :
    (roundToF64 neg num den).Canonical := by
  obtain ⟨M, E, h1, h2, _, he⟩ := roundToF64_cases neg num den hd
  rw [he]
  split
  · trivial
  · rename_i hE
    refine ⟨h1, by omega, by omega, ?_⟩
    intro hm
    by_contra hne
    have := h2 (by omega)
    omega

/-! ### plain decimals of at most 15 significant digits: rounding is strictly monotone -/

/-- the rounded value is within half a unit in the last place of the fraction (both times `d`) -/
theorem roundVal_near (N d : Nat) (hd : 0 < d) :
    2 * (roundVal N d * d) ≤ 2 * N + d * 2 ^ scaleExp N d ∧
    2 * N ≤ 2 * (roundVal N d * d) + d * 2 ^ scaleExp N d := by
  obtain ⟨h1, h2, _⟩ := rne_bounds N (d * 2 ^ scaleExp N d) (Nat.mul_pos hd (Nat.two_pow_pos _))
  have e : 2 * (roundVal N d * d) = 2 * rne N (d * 2 ^ scaleExp N d) * (d * 2 ^ scaleExp N d) := by
    unfold roundVal; ring
  rw [e]
  exact ⟨h1, h2⟩

/-- if the larger fraction does not round strictly higher, the two fractions are within one unit in
    the last place of the larger one: N₂/d₂ − N₁/d₁ ≤ 2^E₂ -/
theorem close_of_not_lt {N1 d1 N2 d2 : Nat} (h1 : 0 < d1) (h2 : 0 < d2) (hle : N1 * d2 ≤ N2 * d1)
    (h : roundVal N2 d2 ≤ roundVal N1 d1) :
    N2 * d1 ≤ N1 * d2 + d1 * d2 * 2 ^ scaleExp N2 d2 := by
  have hp : 2 ^ scaleExp N1 d1 ≤ 2 ^ scaleExp N2 d2 :=
    Nat.pow_le_pow_right (by decide) (scaleExp_mono h1 h2 hle)
  -- N₂/d₂ ≤ x₂ + u₂/2 ≤ x₁ + u₂/2 ≤ N₁/d₁ + u₁/2 + u₂/2, all times d₁ d₂
  have b1 := Nat.mul_le_mul_right d2 (roundVal_near N1 d1 h1).1
  have b2 := Nat.mul_le_mul_right d1 (roundVal_near N2 d2 h2).2
  have b3 := Nat.mul_le_mul_right (d1 * d2) h
  have b4 := Nat.mul_le_mul_left (d1 * d2) hp
  linarith

/-- rounding separates two fractions whose distance exceeds both one unit of the scale (for
    `N = a · 2^1074`: the smallest subnormal, 2^-1074) and 2^-52 of the larger one: a unit in the last
    place of the larger is at most 2^-52 of it, or one unit of the scale at the floor of the window -/
theorem roundVal_strict {N1 d1 N2 d2 : Nat} (h1 : 0 < d1) (h2 : 0 < d2)
    (habs : d1 * d2 + N1 * d2 < N2 * d1) (hrel : N2 * d1 + N1 * d2 * 2 ^ 52 < N2 * d1 * 2 ^ 52) :
    roundVal N1 d1 < roundVal N2 d2 := by
  by_contra hn
  have hc := close_of_not_lt h1 h2 (by omega) (Nat.le_of_not_lt hn)
  rcases Nat.eq_zero_or_pos (scaleExp N2 d2) with hE | hE
  · rw [hE, Nat.pow_zero, Nat.mul_one] at hc
    omega
  · -- d₂ u 2^52 ≤ N₂: the unit u is at most 2^-52 of the larger fraction
    have hw := Nat.mul_le_mul_left d1 (ge_window N2 d2 h2 hE)
    have hc' := Nat.mul_le_mul_right (2 ^ 52) hc
    linarith

theorem mul_gap {a b u : Nat} (h : a * u < b * u) : a * u + u ≤ b * u := by
  rw [← Nat.succ_mul]
  exact Nat.mul_le_mul_right u (Nat.succ_le_of_lt (Nat.lt_of_mul_lt_mul_right h))

/-- a gap `g` between `L` and `R`, one of them below 10^15 g, is more than 2^-52 of `R`
    (10^15 < 2^52 − 1) -/
theorem rel_gap {L R g : Nat} (h : L + g ≤ R) (hs : L < 10 ^ 15 * g ∨ R < 10 ^ 15 * g) :
    R + L * 2 ^ 52 < R * 2 ^ 52 := by
  omega

/-- two distinct decimals m/10^s with m < 10^15, s ≤ 15 never round to the same double: their cross
    products differ by a unit g of the coarser denominator, and one of them is below 10^15 g -/
theorem decimal15_strict {m1 s1 m2 s2 : Nat} (hm1 : m1 < 10 ^ 15) (hm2 : m2 < 10 ^ 15)
    (hs1 : s1 ≤ 15) (hs2 : s2 ≤ 15) (hlt : m1 * 10 ^ s2 < m2 * 10 ^ s1) :
    roundVal (m1 * 2 ^ 1074) (10 ^ s1) < roundVal (m2 * 2 ^ 1074) (10 ^ s2) := by
  have hdd := Nat.mul_le_mul (Nat.pow_le_pow_right (by decide : 0 < 10) hs1)
    (Nat.pow_le_pow_right (by decide : 0 < 10) hs2)
  have hg : ∃ g, 0 < g ∧ m1 * 10 ^ s2 + g ≤ m2 * 10 ^ s1 ∧
      (m1 * 10 ^ s2 < 10 ^ 15 * g ∨ m2 * 10 ^ s1 < 10 ^ 15 * g) := by
    rcases Nat.le_total s2 s1 with hle | hle <;> obtain ⟨t, rfl⟩ := Nat.exists_eq_add_of_le hle
    · rw [Nat.pow_add, Nat.mul_comm (10 ^ s2), ← Nat.mul_assoc] at hlt ⊢
      exact ⟨10 ^ s2, pow10_pos _, mul_gap hlt, Or.inl (Nat.mul_lt_mul_of_pos_right hm1 (pow10_pos _))⟩
    · rw [Nat.pow_add, Nat.mul_comm (10 ^ s1), ← Nat.mul_assoc] at hlt ⊢
      exact ⟨10 ^ s1, pow10_pos _, mul_gap hlt, Or.inr (Nat.mul_lt_mul_of_pos_right hm2 (pow10_pos _))⟩
  obtain ⟨g, hg0, hgap, hsmall⟩ := hg
  have hP : (10 : Nat) ^ 15 * 10 ^ 15 < 2 ^ 1074 := by decide +kernel
  apply roundVal_strict (pow10_pos s1) (pow10_pos s2) <;>
    rw [Nat.mul_right_comm m1, Nat.mul_right_comm m2]
  · -- the gap is at least one unit of 10^-30 > 2^-1074
    have := Nat.mul_le_mul_right (2 ^ 1074) hgap
    have := Nat.mul_le_mul_right (2 ^ 1074) hg0
    generalize 2 ^ 1074 = P at *
    linarith
  · have := Nat.mul_lt_mul_of_pos_right (rel_gap hgap hsmall) (Nat.two_pow_pos 1074)
    generalize 2 ^ 1074 = P at *
    linarith

theorem decimal15_lt_big (m s : Nat) (hm : m < 10 ^ 15) :
    roundVal (m * 2 ^ 1074) (10 ^ s) < 2 ^ 2098 := by
  have h : roundVal (m * 2 ^ 1074) (10 ^ s) ≤ 1 * 2 ^ 1124 := by
    apply roundVal_le (Nat.one_lt_two_pow (by decide)) (pow10_pos s)
    have e : (2 : Nat) ^ 1124 = 2 ^ 50 * 2 ^ 1074 := by rw [← Nat.pow_add]
    rw [Nat.one_mul, e]
    calc m * 2 ^ 1074 ≤ 2 ^ 50 * 2 ^ 1074 := Nat.mul_le_mul_right _ (Nat.le_of_lt (Nat.lt_trans hm (by decide)))
      _ ≤ 2 ^ 50 * 2 ^ 1074 * 10 ^ s := Nat.le_mul_of_pos_right _ (pow10_pos s)
  rw [Nat.one_mul] at h
  exact Nat.lt_of_le_of_lt h (Nat.pow_lt_pow_right (by decide) (by decide))

theorem key_decimal15 (n : Bool) (m : Nat) (e : Int) (hm : m < 10 ^ 15) (he : e ≤ 0) :
    (Lit.dec n m e).toF64.key = sgn n (roundVal (m * 2 ^ 1074) (10 ^ (-e).toNat)) := by
  have h0 : e.toNat = 0 := by omega
  rw [key_dec, h0, Nat.pow_zero, Nat.mul_one,
    Nat.min_eq_left (Nat.le_of_lt (decimal15_lt_big m _ hm))]

theorem roundVal_congr {N1 d1 N2 d2 : Nat} (h1 : 0 < d1) (h2 : 0 < d2) (h : N1 * d2 = N2 * d1) :
    roundVal N1 d1 = roundVal N2 d2 :=
  Nat.le_antisymm (roundVal_mono h1 h2 (Nat.le_of_eq h)) (roundVal_mono h2 h1 (Nat.le_of_eq h.symm))

theorem decimal15_eq_zero {m s : Nat} (hm : m < 10 ^ 15) (hs : s ≤ 15) (s' : Nat) :
    roundVal (m * 2 ^ 1074) (10 ^ s) = 0 ↔ m * 10 ^ s' = 0 := by
  rw [mul_pos_eq_zero (pow10_pos s')]
  constructor
  · intro h
    have := decimal15_strict (m1 := 0) (s1 := 0) (m2 := m) (s2 := s) (pow10_pos 15) hm (Nat.zero_le _) hs
    simp only [Nat.zero_mul, roundVal_zero, Nat.pow_zero, Nat.mul_one] at this
    omega
  · rintro rfl; rw [Nat.zero_mul, roundVal_zero]

/-- on decimals of at most 15 digits the IEEE order of the rounded values is the exact order -/
theorem lit_lt_decimal15 (la lb : Lit) (ca : la.Decimal15) (cb : lb.Decimal15) :
    F64.lt la.toF64 lb.toF64 = decide (la.exactLt lb) := by
  cases la with
  | nan => exact absurd ca (by simp [Lit.Decimal15])
  | inf _ => exact absurd ca (by simp [Lit.Decimal15])
  | dec n1 m1 e1 =>
  cases lb with
  | nan => exact absurd cb (by simp [Lit.Decimal15])
  | inf _ => exact absurd cb (by simp [Lit.Decimal15])
  | dec n2 m2 e2 =>
  obtain ⟨hm1, hl1, hu1⟩ := ca
  obtain ⟨hm2, hl2, hu2⟩ := cb
  rw [lt_eq_of_not_nan _ _ (dec_not_nan _ _ _) (dec_not_nan _ _ _),
    key_decimal15 n1 m1 e1 hm1 hu1, key_decimal15 n2 m2 e2 hm2 hu2]
  apply decide_eq_decide.mpr
  have z1 : e1.toNat = 0 := by omega
  have z2 : e2.toNat = 0 := by omega
  rw [exactLt_dec, z1, z2, Nat.pow_zero, Nat.mul_one, Nat.mul_one]
  have hs1 : (-e1).toNat ≤ 15 := by omega
  have hs2 : (-e2).toNat ≤ 15 := by omega
  exact sgn_lt_sgn_iff (decimal15_strict hm1 hm2 hs1 hs2) (decimal15_strict hm2 hm1 hs2 hs1)
    (fun h => roundVal_congr (pow10_pos _) (pow10_pos _)
      (by rw [Nat.mul_right_comm, h, Nat.mul_right_comm]))
    (decimal15_eq_zero hm1 hs1 _) (decimal15_eq_zero hm2 hs2 _)

/-! ### nearest: a 53-bit value is never strictly inside a cell of the grid (used by
    `C16_f64_round_nearest`) -/

/-- a natural with at most 53 significant bits is not strictly inside the cell
    (k · 2^E, (k+1) · 2^E) of the grid used for N / d -/
theorem grid_gap (N d M F : Nat) (hd : 0 < d) (hM : M < 2 ^ 53) :
    M * 2 ^ F * d ≤ N / (d * 2 ^ scaleExp N d) * (d * 2 ^ scaleExp N d) ∨
    (N / (d * 2 ^ scaleExp N d) + 1) * (d * 2 ^ scaleExp N d) ≤ M * 2 ^ F * d := by
  have hw := ge_window N d hd
  generalize scaleExp N d = E at *
  rcases Nat.lt_or_ge F E with hlt | hge
  · -- finer grid: the value is below 2^52 · 2^E ≤ k · 2^E
    left
    have hE : 0 < E := by omega
    have hk : 2 ^ 52 ≤ N / (d * 2 ^ E) := by
      rw [Nat.le_div_iff_mul_le (Nat.mul_pos hd (Nat.two_pow_pos _))]
      calc 2 ^ 52 * (d * 2 ^ E) = d * 2 ^ E * 2 ^ 52 := by ring
        _ ≤ N := hw hE
    have h1 : M * 2 ^ F ≤ 2 ^ 52 * 2 ^ E :=
      calc M * 2 ^ F ≤ 2 ^ 53 * 2 ^ F := Nat.mul_le_mul_right _ (Nat.le_of_lt hM)
        _ = 2 ^ 52 * 2 ^ (F + 1) := by rw [← Nat.pow_add, ← Nat.pow_add]; congr 1; omega
        _ ≤ 2 ^ 52 * 2 ^ E := Nat.mul_le_mul_left _ (Nat.pow_le_pow_right (by decide) hlt)
    calc M * 2 ^ F * d ≤ 2 ^ 52 * 2 ^ E * d := Nat.mul_le_mul_right _ h1
      _ = 2 ^ 52 * (d * 2 ^ E) := by ring
      _ ≤ N / (d * 2 ^ E) * (d * 2 ^ E) := Nat.mul_le_mul_right _ hk
  · -- same or coarser grid: a multiple of 2^E
    obtain ⟨G, rfl⟩ := Nat.exists_eq_add_of_le hge
    have e : M * 2 ^ (E + G) * d = M * 2 ^ G * (d * 2 ^ E) := by rw [Nat.pow_add]; ring
    rw [e]
    rcases Nat.lt_or_ge (N / (d * 2 ^ E)) (M * 2 ^ G) with h | h
    · right; exact Nat.mul_le_mul_right _ h
    · left; exact Nat.mul_le_mul_right _ h

end Duck.F64
