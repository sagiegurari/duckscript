/-
  Lemmas for C09: the line rebuilt by `eval::parse` from safe values is parsed and bound back
  to the same values; one rebuilt line is one instruction; the second binding leaves `xStable`
  values alone, and what a value outside `xStable` contains (`not_xStable`).
-/
import DuckModel.Sdk.Reserialize
import DuckModel.Lemmas.RenderLemmas

namespace Duck
namespace Reser
open Duck.Spec

/-! ### characters of a value -/

theorem hasChar_false {s : Str} {c : Char} : hasChar s c = false ↔ ∀ x ∈ s, x ≠ c := by
  simp [hasChar]

theorem hasChar_true {s : Str} {c : Char} : hasChar s c = true ↔ c ∈ s := by
  simp [hasChar]

theorem hasChar_false_of_not_mem {s : Str} {c : Char} (h : c ∉ s) : hasChar s c = false :=
  hasChar_false.mpr fun x hx he => h (he ▸ hx)

/-! ### the rebuilt line -/

/-- `.replace("\\", "\\\\")` on one character -/
def dblc (c : Char) : Str := if c = '\\' then ['\\', '\\'] else [c]

def dbl (s : Str) : Str := s.flatMap dblc

/-- the characters that survive `.replace("\r", "").replace("\n", "")` -/
def keep (c : Char) : Bool := c != '\r' && c != '\n'

theorem serializeLine_eq (args : List Str) :
    serializeLine args = dbl ((args.flatMap fun a => serializeArg a ++ [' ']).filter keep) := rfl

theorem dbl_nil : dbl [] = [] := rfl

theorem dbl_cons (c : Char) (s : Str) : dbl (c :: s) = dblc c ++ dbl s := by
  simp [dbl]

theorem dbl_append (a b : Str) : dbl (a ++ b) = dbl a ++ dbl b := by
  simp [dbl]

theorem dbl_no_backslash (s : Str) (h : ∀ x ∈ s, x ≠ '\\') : dbl s = s := by
  induction s with
  | nil => rfl
  | cons c t ih =>
    rw [dbl_cons, ih (fun x hx => h x (by simp [hx]))]
    simp [dblc, h c (by simp)]

theorem dbl_ne_nil {s : Str} (h : s ≠ []) : dbl s ≠ [] := by
  cases s with
  | nil => exact absurd rfl h
  | cons c t =>
    rw [dbl_cons]
    unfold dblc
    split <;> simp

/-- no CR / LF in the value: the two `replace` calls leave it as it is -/
def NoBreak (v : Str) : Prop := ∀ x ∈ v, x ≠ '\r' ∧ x ≠ '\n'

theorem filter_keep_self (s : Str) (h : NoBreak s) : s.filter keep = s := by
  rw [List.filter_eq_self]
  intro x hx
  obtain ⟨a, b⟩ := h x hx
  simp [keep, a, b]

theorem noBreak_serializeArg {a : Str} (h : NoBreak a) : NoBreak (serializeArg a) := by
  unfold serializeArg
  intro x hx
  split at hx
  · simp at hx; rcases hx with rfl | rfl <;> decide
  · split at hx
    · simp at hx
      rcases hx with rfl | hx | rfl
      · decide
      · exact h x hx
      · decide
    · split at hx
      · simp at hx
        rcases hx with rfl | hx | rfl
        · decide
        · exact h x hx
        · decide
      · exact h x hx

/-- the written form of one value -/
def dser (a : Str) : Str := dbl (serializeArg a)

theorem serializeLine_noBreak (args : List Str) (h : ∀ a ∈ args, NoBreak a) :
    serializeLine args = args.flatMap fun a => dser a ++ [' '] := by
  rw [serializeLine_eq]
  induction args with
  | nil => rfl
  | cons a as ih =>
    have ha : NoBreak (serializeArg a) := noBreak_serializeArg (h a (by simp))
    have ih' := ih (fun x hx => h x (by simp [hx]))
    simp only [List.flatMap_cons, List.filter_append, dbl_append] at ih' ⊢
    rw [ih', filter_keep_self _ ha]
    simp [dser, keep, dbl, dblc]

/-- the part of the line after the command: every value preceded by one space -/
def pre (vals : List Str) : Str := vals.flatMap fun a => ' ' :: dser a

theorem pre_nil : pre [] = [] := rfl

theorem pre_cons (a : Str) (as : List Str) : pre (a :: as) = ' ' :: (dser a ++ pre as) := by
  simp [pre]

theorem space_flatMap_eq (vals : List Str) :
    ' ' :: (vals.flatMap fun a => dser a ++ [' ']) = pre vals ++ [' '] := by
  induction vals with
  | nil => rfl
  | cons a as ih =>
    rw [pre_cons, List.flatMap_cons]
    simp only [List.append_assoc, List.cons_append, List.nil_append]
    rw [ih]

theorem spTail_pre (vals : List Str) : SpTail (pre vals) := by
  cases vals with
  | nil => exact Or.inl rfl
  | cons a as => exact Or.inr ⟨_, pre_cons a as⟩

/-! ### the value classes as propositions -/

theorem safe_iff (v : Str) :
    Safe v = true ↔
      (xStable .normal v = true ∧ ∀ x ∈ v, x ≠ '\r' ∧ x ≠ '\n') ∧
      ((' ' ∈ v ∧ ∀ x ∈ v, x ≠ '"') ∨
       (' ' ∉ v ∧ (∀ x ∈ v, x ≠ '#') ∧ v.head? ≠ some '"')) := by
  unfold Safe
  by_cases hs : hasChar v ' ' = true
  · have hm := hasChar_true.mp hs
    simp only [hs, if_true, Bool.and_eq_true, Bool.not_eq_true', hasChar_false]
    constructor
    · rintro ⟨⟨⟨a, c⟩, d⟩, e⟩
      exact ⟨⟨a, fun x hx => ⟨c x hx, d x hx⟩⟩, Or.inl ⟨hm, e⟩⟩
    · rintro ⟨⟨a, h⟩, h2⟩
      refine ⟨⟨⟨a, fun x hx => (h x hx).1⟩, fun x hx => (h x hx).2⟩, ?_⟩
      rcases h2 with ⟨_, e⟩ | ⟨n, _⟩
      · exact e
      · exact absurd hm n
  · have hs' : hasChar v ' ' = false := by simpa using hs
    have hm : ' ' ∉ v := fun hin => hs (hasChar_true.mpr hin)
    simp only [hs', Bool.false_eq_true, if_false, Bool.and_eq_true, Bool.not_eq_true',
      hasChar_false, bne_iff_ne, ne_eq]
    constructor
    · rintro ⟨⟨⟨a, c⟩, d⟩, e, f⟩
      exact ⟨⟨a, fun x hx => ⟨c x hx, d x hx⟩⟩, Or.inr ⟨hm, e, f⟩⟩
    · rintro ⟨⟨a, h⟩, h2⟩
      refine ⟨⟨⟨a, fun x hx => (h x hx).1⟩, fun x hx => (h x hx).2⟩, ?_⟩
      rcases h2 with ⟨hin, _⟩ | ⟨_, e, f⟩
      · exact absurd hin hm
      · exact ⟨e, f⟩

theorem cmdOK_iff (c : Str) :
    cmdOK c = true ↔ NameOK c ∧ NoEq c ∧ Spec.FirstOK c := by
  unfold cmdOK NameOK NoEq Spec.FirstOK
  simp only [Bool.and_eq_true, Bool.not_eq_true', List.all_eq_true, bne_iff_ne, ne_eq,
    List.isEmpty_eq_false_iff]
  constructor
  · rintro ⟨⟨⟨⟨a, b⟩, c1⟩, d⟩, e⟩
    exact ⟨⟨a, fun x hx => ⟨(b x hx).1.1.1, (b x hx).1.1.2, (b x hx).1.2⟩, c1⟩,
      fun x hx => (b x hx).2, d, e⟩
  · rintro ⟨⟨a, b, c1⟩, f, d, e⟩
    exact ⟨⟨⟨⟨a, fun x hx => ⟨⟨⟨(b x hx).1, (b x hx).2.1⟩, (b x hx).2.2⟩, f x hx⟩⟩, c1⟩, d⟩, e⟩

/-! ### the written form of a safe value -/

theorem serializeArg_nil : serializeArg [] = ['"', '"'] := rfl

theorem serializeArg_spaced {a : Str} (hs : ' ' ∈ a) (hq : ∀ x ∈ a, x ≠ '"') :
    serializeArg a = '"' :: (a ++ ['"']) := by
  unfold serializeArg
  have h1 : a.isEmpty = false := by
    cases a with
    | nil => simp at hs
    | cons _ _ => rfl
  have h2 : a.head? ≠ some '"' := by
    cases a with
    | nil => simp
    | cons c t => simpa using hq c (by simp)
  have h3 : strContains a ' ' = true := hasChar_true.mpr hs
  simp [h1, h2, h3]

theorem serializeArg_bare {a : Str} (hne : a ≠ []) (hs : ' ' ∉ a) (hq : a.head? ≠ some '"') :
    serializeArg a = a := by
  unfold serializeArg
  have h1 : a.isEmpty = false := by
    cases a with
    | nil => exact absurd rfl hne
    | cons _ _ => rfl
  have h3 : strContains a ' ' = false := hasChar_false_of_not_mem hs
  simp [h1, hq, h3]

/-! ### reading one written value back -/

/-- the characters that go into the argument one by one: inside quotes every character but the
    quote, outside every character but the space and the `#` -/
def Inner (q : Bool) (c : Char) : Prop := if q then c ≠ '"' else c ≠ ' ' ∧ c ≠ '#'

theorem pvLoop_char (q : Bool) (c : Char) (acc l : Str) (h : Inner q c) :
    pvLoop (argFlags false) { arg := acc, inArg := true, usingQuotes := q } (dblc c ++ l) =
      pvLoop (argFlags false) { arg := acc ++ [c], inArg := true, usingQuotes := q } l := by
  by_cases h1 : c = '\\'
  · subst h1; cases q <;> simp [dblc, pvLoop, pvStep, argFlags]
  · cases q
    · simp [dblc, pvLoop, pvStep, argFlags, h1, h.1, h.2]
    · have h2 : c ≠ '"' := h
      simp [dblc, pvLoop, pvStep, argFlags, h1, h2]

theorem pvLoop_dbl (q : Bool) (s acc tail : Str) (h : ∀ x ∈ s, Inner q x) :
    pvLoop (argFlags false) { arg := acc, inArg := true, usingQuotes := q } (dbl s ++ tail) =
      pvLoop (argFlags false) { arg := acc ++ s, inArg := true, usingQuotes := q } tail := by
  induction s generalizing acc with
  | nil => simp [dbl]
  | cons c t ih =>
    rw [dbl_cons, List.append_assoc, pvLoop_char q c acc _ (h c (by simp)),
      ih _ (fun x hx => h x (by simp [hx]))]
    simp

theorem parseNextValue_q (s tail : Str) (h : ∀ x ∈ s, x ≠ '"') :
    parseNextValue (argFlags false) ('"' :: (dbl s ++ '"' :: tail)) = .ok (tail, some s) := by
  rw [parseNextValue_eq, pvLoop_open_quote, pvLoop_dbl true s [] _ h, pvLoop]
  cases s <;> simp [pvStep, pvFinish]

theorem pvLoop_b_first (c : Char) (l : Str) (h1 : c ≠ ' ') (h2 : c ≠ '#') (h4 : c ≠ '"') :
    pvLoop (argFlags false) {} (dblc c ++ l) =
      pvLoop (argFlags false) { arg := [c], inArg := true } l := by
  by_cases h3 : c = '\\'
  · subst h3; simp [dblc, pvLoop, pvStep, argFlags]
  · simp [dblc, pvLoop, pvStep, argFlags, h1, h2, h3, h4]

theorem parseNextValue_b (s tail : Str) (hne : s ≠ []) (h : ∀ x ∈ s, x ≠ ' ' ∧ x ≠ '#')
    (hq : s.head? ≠ some '"') (hb : Bnd false tail) :
    parseNextValue (argFlags false) (dbl s ++ tail) = .ok (afterTok tail, some s) := by
  cases s with
  | nil => exact absurd rfl hne
  | cons c t =>
    have hc := h c (by simp)
    rw [parseNextValue_eq, dbl_cons, List.append_assoc,
      pvLoop_b_first c _ hc.1 hc.2 (by simpa using hq),
      pvLoop_dbl false t [c] tail (fun x hx => h x (by simp [hx]))]
    exact pv_finish_at_bnd (argFlags false) ([c] ++ t) tail (by simp) hb

/-- the three written forms of a safe value: `""`, the value between quotes, the bare value -/
theorem dser_safe {a : Str} (h : Safe a = true) :
    (a = [] ∧ dser a = ['"', '"']) ∨
    ((∀ x ∈ a, x ≠ '"') ∧ dser a = '"' :: (dbl a ++ ['"'])) ∨
    ((a ≠ [] ∧ ' ' ∉ a ∧ (∀ x ∈ a, x ≠ '#') ∧ a.head? ≠ some '"') ∧ dser a = dbl a) := by
  obtain ⟨_, hcase⟩ := (safe_iff a).mp h
  unfold dser
  by_cases hn : a = []
  · subst hn
    exact .inl ⟨rfl, rfl⟩
  rcases hcase with ⟨hs, hq⟩ | ⟨hs, hh, hq⟩
  · rw [serializeArg_spaced hs hq]
    exact .inr (.inl ⟨hq, by simp [dbl_cons, dbl_append, dblc, dbl_nil]⟩)
  · rw [serializeArg_bare hn hs hq]
    exact .inr (.inr ⟨⟨hn, hs, hh, hq⟩, rfl⟩)

/-- one safe value, written by `eval::parse`, followed by a space-separated tail -/
theorem parseNextValue_dser (a tail : Str) (ha : Safe a = true) (ht : SpTail tail) :
    parseNextValue (argFlags false) (dser a ++ tail) = .ok (tail, some a) := by
  rcases dser_safe ha with ⟨rfl, e⟩ | ⟨hq, e⟩ | ⟨⟨hn, hs, hh, hq⟩, e⟩ <;> rw [e]
  · exact parseNextValue_q [] tail (by simp)
  · simpa using parseNextValue_q a tail hq
  · have := parseNextValue_b a tail hn
      (fun x hx => ⟨fun he => hs (he ▸ hx), hh x hx⟩) hq ht.bnd
    rwa [ht.afterTok] at this

theorem dser_ne_nil (a : Str) : dser a ≠ [] := by
  unfold dser
  apply dbl_ne_nil
  unfold serializeArg
  split
  · simp
  · split
    · simp
    · split
      · simp
      · rename_i h _ _
        intro he
        simp [he] at h

theorem parseArgsLoop_pre (vals : List Str) (h : ∀ v ∈ vals, Safe v = true) :
    parseArgsLoop false (pre vals) = .ok vals := by
  induction vals with
  | nil => exact parseArgsLoop_none false [] [] rfl
  | cons a as ih =>
    have ih' := ih (fun v hv => h v (by simp [hv]))
    rw [pre_cons]
    have hpv : parseNextValue (argFlags false) (' ' :: (dser a ++ pre as)) = .ok (pre as, some a) := by
      have := parseNextValue_spaces (argFlags false) 1 (dser a ++ pre as)
      rw [spaces_succ, spaces_zero, List.singleton_append] at this
      rw [this]
      exact parseNextValue_dser a (pre as) (h a (by simp)) (spTail_pre as)
    rw [parseArgsLoop_eq, hpv]
    simp only [ih']

theorem parseArguments_pre (vals : List Str) (h : ∀ v ∈ vals, Safe v = true) :
    parseArguments (pre vals) = .ok (if vals = [] then none else some vals) := by
  apply parseArguments_of_loop
  · split
    · simp
    · rename_i hne
      simpa using hne
  · rw [parseArgsLoop_pre vals h]
    split
    · rename_i he; simp [he]
    · rfl

/-! ### the line as a whole -/

theorem head_dser (a : Str) (hf : firstOK a = true) (hs : Safe a = true) :
    ∃ c t, dser a = c :: t ∧ c ≠ ' ' ∧ c ≠ '=' := by
  rcases dser_safe hs with ⟨rfl, e⟩ | ⟨_, e⟩ | ⟨⟨hn, hsp, _, _⟩, e⟩ <;> rw [e]
  · exact ⟨'"', ['"'], rfl, by decide, by decide⟩
  · exact ⟨'"', _, rfl, by decide, by decide⟩
  · cases a with
    | nil => exact absurd rfl hn
    | cons c t =>
      have hc1 : c ≠ ' ' := fun he => hsp (by simp [he])
      have hc2 : c ≠ '=' := by
        unfold firstOK at hf
        have : hasChar (c :: t) ' ' = false := hasChar_false_of_not_mem hsp
        simpa [this] using hf
      rw [dbl_cons]
      by_cases hb : c = '\\'
      · subst hb
        exact ⟨'\\', '\\' :: dbl t, by simp [dblc], by decide, by decide⟩
      · exact ⟨c, dbl t, by simp [dblc, hb], hc1, hc2⟩

theorem noEqAhead_pre (vals : List Str) (h : ∀ v ∈ vals, Safe v = true)
    (hf : ∀ v, vals.head? = some v → firstOK v = true) : NoEqAhead (pre vals) := by
  cases vals with
  | nil => exact noEqAhead_nil
  | cons a as =>
    rw [pre_cons]
    obtain ⟨c, t, e, h1, h2⟩ := head_dser a (hf a rfl) (h a (by simp))
    rw [e]
    exact noEqAhead_space (noEqAhead_cons c _ h1 h2)

theorem noTrail_dser (a : Str) (hs : Safe a = true) (hl : lastOK a = true) : NoTrail (dser a) := by
  rcases dser_safe hs with ⟨rfl, e⟩ | ⟨_, e⟩ | ⟨⟨hn, hsp, _, _⟩, e⟩ <;> rw [e]
  · exact NoTrail.append_singleton ['"'] _ (by decide)
  · exact NoTrail.append_singleton ('"' :: dbl a) _ (by decide)
  · have hsp' : hasChar a ' ' = false := hasChar_false_of_not_mem hsp
    obtain ⟨ini, c, rfl⟩ : ∃ ini c, a = ini ++ [c] := by
      rcases List.eq_nil_or_concat a with h | ⟨i, c, h⟩
      · exact absurd h hn
      · exact ⟨i, c, by simpa using h⟩
    have hc : isWs c = false := by
      unfold lastOK at hl
      simpa [hsp'] using hl
    rw [dbl_append]
    apply NoTrail.append
    · by_cases hb : c = '\\'
      · subst hb
        exact NoTrail.append_singleton ['\\'] _ (by decide)
      · have : dbl [c] = [] ++ [c] := by simp [dbl, dblc, hb]
        rw [this]
        exact NoTrail.append_singleton _ _ hc
    · exact dbl_ne_nil (by simp)

theorem noTrail_pre (vals : List Str) (hne : vals ≠ []) (h : ∀ v ∈ vals, Safe v = true)
    (hl : ∀ v, vals.getLast? = some v → lastOK v = true) : NoTrail (pre vals) ∧ pre vals ≠ [] := by
  obtain ⟨ini, a, rfl⟩ : ∃ ini a, vals = ini ++ [a] := by
    rcases List.eq_nil_or_concat vals with h | ⟨i, c, h⟩
    · exact absurd h hne
    · exact ⟨i, c, by simpa using h⟩
  have e : pre (ini ++ [a]) = (pre ini ++ [' ']) ++ dser a := by simp [pre]
  rw [e]
  refine ⟨NoTrail.append _ _ (noTrail_dser a (h a (by simp)) (hl a (by simp))) (dser_ne_nil a), ?_⟩
  simp

theorem trim_line (cmd : Str) (vals : List Str) (hc : NameOK cmd)
    (h : ∀ v ∈ vals, Safe v = true) (hl : ∀ v, vals.getLast? = some v → lastOK v = true) :
    trim ((cmd ++ pre vals) ++ [' ']) = cmd ++ pre vals := by
  rw [trim_append_ws _ [' '] (by intro c hc; simp at hc; subst hc; decide)]
  obtain ⟨x, c', rfl, hx, _⟩ := nameOK_head hc
  have hnt : NoTrail ((x :: c') ++ pre vals) := by
    by_cases hv : vals = []
    · subst hv; simpa [pre_nil] using noTrail_name hc
    · obtain ⟨a, b⟩ := noTrail_pre vals hv h hl
      exact NoTrail.append _ _ a b
  unfold trim
  rw [List.cons_append, trimStart_cons_nonws x _ hx]
  exact hnt

theorem positionOK_iff (vals : List Str) :
    positionOK vals = true ↔
      (∀ v, vals.head? = some v → firstOK v = true) ∧
      (∀ v, vals.getLast? = some v → lastOK v = true) := by
  unfold positionOK
  cases vals.head? <;> cases vals.getLast? <;> simp

/-- the rebuilt line of a writable command name and safe values: the name, every value preceded
    by one space, and a final space -/
theorem serializeLine_cmd (cmd : Str) (vals : List Str) (hn : NameOK cmd)
    (h : ∀ v ∈ vals, Safe v = true) : serializeLine (cmd :: vals) = (cmd ++ pre vals) ++ [' '] := by
  have hd : dser cmd = cmd := by
    unfold dser
    have hsp : ' ' ∉ cmd := fun hin => (isWs_false_ne (hn.2.1 ' ' hin).1).1 rfl
    rw [serializeArg_bare hn.1 hsp hn.2.2]
    exact dbl_no_backslash cmd (fun x hx => (hn.2.1 x hx).2.2)
  rw [serializeLine_noBreak]
  · rw [List.flatMap_cons, hd]
    simp only [List.append_assoc, List.singleton_append]
    rw [space_flatMap_eq]
  · intro a ha
    simp only [List.mem_cons] at ha
    rcases ha with rfl | ha
    · exact fun x hx =>
        ⟨(isWs_false_ne (hn.2.1 x hx).1).2.2.1, (isWs_false_ne (hn.2.1 x hx).1).2.1⟩
    · exact fun x hx => ((safe_iff a).mp (h a ha)).1.2 x hx

/-- the line rebuilt from a command name and safe values parses to that command and values -/
theorem parseLine_serialized (cmd : Str) (vals : List Str) (hc : cmdOK cmd = true)
    (h : ∀ v ∈ vals, Safe v = true) (hp : positionOK vals = true) :
    parseLine (serializeLine (cmd :: vals)) =
      .ok (.script { label := none, output := none, command := some cmd,
                     args := if vals = [] then none else some vals }) := by
  obtain ⟨hn, he, hfo⟩ := (cmdOK_iff cmd).mp hc
  obtain ⟨hf, hl⟩ := (positionOK_iff vals).mp hp
  rw [serializeLine_cmd cmd vals hn h]
  obtain ⟨x, c', hxe, hx, hx1, _, _, _⟩ := nameOK_head hn
  have hx2 : x ≠ '!' := by
    have := hfo.2
    rw [hxe] at this
    simpa using this
  have htrim := trim_line cmd vals hn h hl
  rw [hxe, List.cons_append] at htrim
  rw [hxe, List.cons_append, parseLine_of_trim_cmd _ x _ htrim hx1 hx2]
  have hgen := parseCommandLine_cmd_gen none 0 none 0 0 cmd (pre vals)
    (by intro l hl; cases hl) (by intro o ho; cases ho)
    ⟨hn, fun _ => ⟨he, fun _ => hfo⟩⟩ (spTail_pre vals).bnd
    (by rw [(spTail_pre vals).afterTok]; exact noEqAhead_pre vals h hf)
  simp only [lblPart, outPart, List.nil_append] at hgen
  rw [(spTail_pre vals).afterTok, parseArguments_pre vals h, hxe, List.cons_append] at hgen
  exact hgen

/-! ### one rebuilt line is one instruction -/

theorem serializeLine_noLF (args : List Str) : ∀ c ∈ serializeLine args, c ≠ '\n' := by
  rw [serializeLine_eq]
  intro c hc
  unfold dbl at hc
  rw [List.mem_flatMap] at hc
  obtain ⟨x, hx, hcx⟩ := hc
  rw [List.mem_filter] at hx
  have hxn : x ≠ '\n' := by
    intro he
    have := hx.2
    rw [he] at this
    revert this
    decide
  unfold dblc at hcx
  split at hcx
  · simp at hcx
    subst hcx
    decide
  · simp at hcx
    subst hcx
    exact hxn

theorem serializeLine_ne_nil (a : Str) (as : List Str) : serializeLine (a :: as) ≠ [] := by
  rw [serializeLine_eq]
  apply dbl_ne_nil
  rw [List.flatMap_cons, List.append_assoc, List.filter_append, List.filter_append]
  intro he
  have := congrArg List.length he
  simp [keep] at this

theorem lines_serializeLine (a : Str) (as : List Str) :
    lines (serializeLine (a :: as)) = [serializeLine (a :: as)] :=
  lines_noLF _ (serializeLine_noLF _) (serializeLine_ne_nil a as)

/-- the meta info `parse_text` gives the first line of a text: line 1, no source file -/
def meta1 : Meta := { line := some 1, source := none }

/-- the rebuilt line parses to its single instruction (for a line that is not a directive) -/
theorem evalParse_of_parseLine (a : Str) (as : List Str) (ty : InstrType)
    (h : parseLine (serializeLine (a :: as)) = .ok ty) (hnp : ∀ c x, ty ≠ .preProcess c x) :
    evalParse (a :: as) = some ⟨meta1, ty⟩ := by
  unfold evalParse parseText parseTextFs
  rw [lines_serializeLine]
  unfold parseLinesWith
  rw [h]
  cases ty with
  | preProcess c x => exact absurd rfl (hnp c x)
  | empty => simp [parseLinesWith, meta1]
  | script si => simp [parseLinesWith, meta1]

/-- `instructions[0]` in `eval::parse` cannot panic: a rebuilt line never parses to an empty
    instruction list -/
theorem parseText_serializeLine_ne_nil (a : Str) (as : List Str) :
    parseText (serializeLine (a :: as)) ≠ .ok [] := by
  unfold parseText parseTextFs
  rw [lines_serializeLine]
  unfold parseLinesWith
  cases parseLine (serializeLine (a :: as)) with
  | error e => simp
  | ok ty =>
    cases ty with
    | empty => simp [parseLinesWith]
    | script si => simp [parseLinesWith]
    | preProcess c x =>
      simp only [parseLinesWith]
      cases runPre (parseFileF Fs.none 0) Fs.none { line := some 1, source := none } c x with
      | error e => simp
      | ok added => simp

/-! ### binding the re-parsed values again -/

/-- the characters the second binding is still holding back in mode `m` -/
def pfx : XMode → Str
  | .normal => []
  | .force => ['\\']
  | .dollar => ['$']

/-- the state of `expand_by_wrapper` in mode `m` with output buffer `out` -/
def stOf (out : Str) (m : XMode) : XSt :=
  { out := out,
    prefixIndex := (match m with | .dollar => 1 | _ => 0),
    foundPrefix := false, key := [],
    forcePush := (match m with | .force => true | _ => false),
    singleType := true }

def nextMode (m : XMode) (c : Char) : XMode :=
  match m with
  | .normal => if c = '\\' then .force else if c = '$' then .dollar else .normal
  | _ => .normal

def nextOut (out : Str) (m : XMode) (c : Char) : Str :=
  match m with
  | .normal => if c = '\\' then out else if c = '$' then out else out ++ [c]
  | .force => out ++ ['\\', c]
  | .dollar => out ++ ['$', c]

theorem xStable_cons {m : XMode} {c : Char} {t : Str} (h : xStable m (c :: t) = true) :
    c ≠ '%' ∧ (m = .force → c ≠ '$') ∧ (m = .dollar → c ≠ '{') ∧ xStable (nextMode m c) t = true := by
  unfold xStable at h
  by_cases hp : c = '%'
  · simp [hp] at h
  · simp only [hp, if_false] at h
    cases m with
    | normal =>
      refine ⟨hp, by simp, by simp, ?_⟩
      unfold nextMode
      simp only at h ⊢
      split
      · rename_i hb; simpa [hb] using h
      · rename_i hb
        split
        · rename_i hd; simpa [hb, hd] using h
        · rename_i hd; simpa [hb, hd] using h
    | force =>
      by_cases hd : c = '$'
      · simp [hd] at h
      · simp only [hd, if_false] at h
        exact ⟨hp, fun _ => hd, by simp, h⟩
    | dollar =>
      by_cases hd : c = '{'
      · simp [hd] at h
      · simp only [hd, if_false] at h
        exact ⟨hp, by simp, fun _ => hd, h⟩

theorem xStep_stable (vars : Vars) (out : Str) (m : XMode) (c : Char) (h1 : c ≠ '%')
    (h2 : m = .force → c ≠ '$') (h3 : m = .dollar → c ≠ '{') :
    xStep vars (stOf out m) c = stOf (nextOut out m c) (nextMode m c) ∧
      nextOut out m c ++ pfx (nextMode m c) = out ++ pfx m ++ [c] := by
  cases m with
  | normal =>
    by_cases hb : c = '\\'
    · subst hb; simp [xStep, stOf, nextOut, nextMode, pfx]
    · by_cases hd : c = '$'
      · subst hd; simp [xStep, stOf, nextOut, nextMode, pfx]
      · simp [xStep, stOf, nextOut, nextMode, pfx, hb, hd, h1]
  | force =>
    have hd := h2 rfl
    simp [xStep, stOf, nextOut, nextMode, pfx, hd, h1]
  | dollar =>
    have hd := h3 rfl
    by_cases hb : c = '\\'
    · subst hb; simp [xStep, stOf, nextOut, nextMode, pfx, pushPrefix]
    · by_cases hd2 : c = '$'
      · subst hd2; simp [xStep, stOf, nextOut, nextMode, pfx, pushPrefix]
      · simp [xStep, stOf, nextOut, nextMode, pfx, pushPrefix, hb, hd, hd2, h1]

theorem xFold_stable (vars : Vars) (v : Str) (out : Str) (m : XMode) (h : xStable m v = true) :
    ∃ out' m', v.foldl (xStep vars) (stOf out m) = stOf out' m' ∧
      out' ++ pfx m' = out ++ pfx m ++ v := by
  induction v generalizing out m with
  | nil => exact ⟨out, m, rfl, by simp⟩
  | cons c t ih =>
    obtain ⟨h1, h2, h3, h4⟩ := xStable_cons h
    obtain ⟨e1, e2⟩ := xStep_stable vars out m c h1 h2 h3
    obtain ⟨out', m', f1, f2⟩ := ih (nextOut out m c) (nextMode m c) h4
    refine ⟨out', m', ?_, ?_⟩
    · rw [List.foldl_cons, e1, f1]
    · rw [f2, e2]; simp

theorem xFinish_stOf (out : Str) (m : XMode) : xFinish (stOf out m) = (out ++ pfx m, true) := by
  cases m <;> simp [xFinish, stOf, pfx, pushPrefix]

theorem expand_plain (vars : Vars) (v : Str) (h : xStable .normal v = true) :
    expand vars v = if v.isEmpty then .none else .single v := by
  obtain ⟨out', m', f1, f2⟩ := xFold_stable vars v [] .normal h
  have e0 : ({} : XSt) = stOf [] .normal := rfl
  unfold expand
  rw [e0, f1, xFinish_stOf, f2]
  simp [pfx]

theorem bind_plain (vars : Vars) (vals : List Str) (h : ∀ v ∈ vals, xStable .normal v = true) :
    bind vars (if vals = [] then none else some vals) = vals := by
  by_cases hv : vals = []
  · subst hv; rfl
  · simp only [hv, if_false]
    unfold bind
    simp only [Option.getD_some]
    clear hv
    induction vals with
    | nil => rfl
    | cons a as ih =>
      rw [List.flatMap_cons, ih (fun v hv => h v (by simp [hv])), expand_plain vars a (h a (by simp))]
      cases a <;> simp

/-! ### outside `xStable`: a `%`, a `${` or a `\\$` -/

/-- the value contains `a` immediately followed by `b` -/
def hasPair (a b : Char) : Str → Bool
  | x :: y :: t => (x == a && y == b) || hasPair a b (y :: t)
  | _ => false

theorem hasPair_cons {a b : Char} (x : Char) {t : Str} (h : hasPair a b t = true) :
    hasPair a b (x :: t) = true := by
  cases t with
  | nil => simp [hasPair] at h
  | cons y t => simp [hasPair, h]

theorem hasChar_cons {c : Char} (x : Char) {t : Str} (h : hasChar t c = true) :
    hasChar (x :: t) c = true := by
  simp only [hasChar, List.any_cons, Bool.or_eq_true] at h ⊢
  exact Or.inr h

theorem not_xStable (m : XMode) (v : Str) (h : xStable m v = false) :
    hasChar v '%' = true ∨ hasPair '$' '{' (pfx m ++ v) = true ∨
      hasPair '\\' '$' (pfx m ++ v) = true := by
  induction v generalizing m with
  | nil => simp [xStable] at h
  | cons c t ih =>
    unfold xStable at h
    by_cases hp : c = '%'
    · subst hp; exact Or.inl (by simp [hasChar])
    · simp only [hp, if_false] at h
      cases m with
      | normal =>
        simp only at h
        simp only [pfx, List.nil_append]
        by_cases hb : c = '\\'
        · subst hb
          simp only [if_true] at h
          rcases ih .force h with a | a | a
          · exact Or.inl (hasChar_cons _ a)
          · exact Or.inr (Or.inl a)
          · exact Or.inr (Or.inr a)
        · by_cases hd : c = '$'
          · subst hd
            simp only [hb, if_false, if_true] at h
            rcases ih .dollar h with a | a | a
            · exact Or.inl (hasChar_cons _ a)
            · exact Or.inr (Or.inl a)
            · exact Or.inr (Or.inr a)
          · simp only [hb, hd, if_false] at h
            rcases ih .normal h with a | a | a
            · exact Or.inl (hasChar_cons _ a)
            · exact Or.inr (Or.inl (hasPair_cons _ a))
            · exact Or.inr (Or.inr (hasPair_cons _ a))
      | force =>
        simp only at h
        by_cases hd : c = '$'
        · subst hd; exact Or.inr (Or.inr (by simp [pfx, hasPair]))
        · simp only [hd, if_false] at h
          rcases ih .normal h with a | a | a
          · exact Or.inl (hasChar_cons _ a)
          · exact Or.inr (Or.inl (hasPair_cons _ (hasPair_cons _ a)))
          · exact Or.inr (Or.inr (hasPair_cons _ (hasPair_cons _ a)))
      | dollar =>
        simp only at h
        by_cases hd : c = '{'
        · subst hd; exact Or.inr (Or.inl (by simp [pfx, hasPair]))
        · simp only [hd, if_false] at h
          rcases ih .normal h with a | a | a
          · exact Or.inl (hasChar_cons _ a)
          · exact Or.inr (Or.inl (hasPair_cons _ (hasPair_cons _ a)))
          · exact Or.inr (Or.inr (hasPair_cons _ (hasPair_cons _ a)))

theorem not_xStable_normal (v : Str) (h : xStable .normal v = false) :
    hasChar v '%' = true ∨ hasPair '$' '{' v = true ∨ hasPair '\\' '$' v = true := by
  simpa [pfx] using not_xStable .normal v h

end Reser
end Duck
