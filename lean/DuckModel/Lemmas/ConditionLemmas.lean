/-
  The condition evaluator (Sdk/Condition.lean) against the condition ASTs of Spec/Cond.lean:
  `is_true` is `truthy`; the token lists of well-formed ASTs are balanced; `cStep` by token
  class; a run of the loop over the tokens of an atom / disjunction / conjunction computes its
  value (`evalSlice_correct`); the nesting fuel beyond the number of tokens changes nothing.
-/
import DuckModel.Sdk.Condition
import DuckModel.Spec.Cond

namespace Duck
open Duck.Spec

/-! ### truthiness table -/

theorem isTrue_eq_truthy (v : Option Str) : isTrue v = truthy v := by
  cases v with
  | none => rfl
  | some s =>
    simp only [isTrue, truthy, Generated.falsyWords, List.contains_cons, List.contains_nil,
      Bool.or_false, Bool.beq_eq_decide_eq, Bool.or_assoc]
    rfl

/-! ### keyword tokens -/

theorem tokOpen_ne_tokClose : tokOpen ≠ tokClose := by decide
theorem tokAnd_ne_tokOpen : tokAnd ≠ tokOpen := by decide
theorem tokAnd_ne_tokClose : tokAnd ≠ tokClose := by decide
theorem tokOr_ne_tokOpen : tokOr ≠ tokOpen := by decide
theorem tokOr_ne_tokClose : tokOr ≠ tokClose := by decide
theorem tokOr_ne_tokAnd : tokOr ≠ tokAnd := by decide

theorem Atom.tokens_val (s : Str) : (Atom.val s).tokens = [s] := by
  simp only [Atom.tokens]
theorem Atom.tokens_group (c : Cond) :
    (Atom.group c).tokens = tokOpen :: (c.tokens ++ [tokClose]) := by
  simp only [Atom.tokens]; rfl
theorem Cond.tokens_empty : Cond.empty.tokens = [] := by
  simp only [Cond.tokens]
theorem Cond.tokens_conj (c : Conj) : (Cond.conj c).tokens = c.tokens := by
  simp only [Cond.tokens]
theorem Conj.tokens_one (d : Disj) : (Conj.one d).tokens = d.tokens := by
  simp only [Conj.tokens]
theorem Conj.tokens_cons (d : Disj) (r : Conj) :
    (Conj.cons d r).tokens = d.tokens ++ tokAnd :: r.tokens := by
  simp only [Conj.tokens]; rfl
theorem Disj.tokens_one (a : Atom) : (Disj.one a).tokens = a.tokens := by
  simp only [Disj.tokens]
theorem Disj.tokens_cons (a : Atom) (r : Disj) :
    (Disj.cons a r).tokens = a.tokens ++ tokOr :: r.tokens := by
  simp only [Disj.tokens]; rfl

theorem ValOK.unfold {s : Str} (h : ValOK s) :
    s ≠ tokAnd ∧ s ≠ tokOr ∧ s ≠ tokOpen ∧ s ≠ tokClose := h

/-! ### balanced token lists and group scanning -/

inductive Bal : List Str → Prop
  | nil : Bal []
  | tok (s : Str) : s ≠ tokOpen → s ≠ tokClose → Bal [s]
  | paren {ts : List Str} : Bal ts → Bal (tokOpen :: (ts ++ [tokClose]))
  | app {as bs : List Str} : Bal as → Bal bs → Bal (as ++ bs)

mutual
  theorem Atom.bal : ∀ (a : Atom), a.OK → Bal a.tokens
    | .val s, h => by
      rw [Atom.tokens_val]
      exact Bal.tok s (ValOK.unfold h).2.2.1 (ValOK.unfold h).2.2.2
    | .group c, h => by
      rw [Atom.tokens_group]
      exact Bal.paren (Cond.bal c h)
  theorem Cond.bal : ∀ (c : Cond), c.OK → Bal c.tokens
    | .empty, _ => by rw [Cond.tokens_empty]; exact Bal.nil
    | .conj c, h => by
      rw [Cond.tokens_conj]
      exact Conj.bal c h
  theorem Conj.bal : ∀ (c : Conj), c.OK → Bal c.tokens
    | .one d, h => by
      rw [Conj.tokens_one]
      exact Disj.bal d h
    | .cons d r, h => by
      rw [Conj.tokens_cons]
      exact Bal.app (Disj.bal d h.1)
        (Bal.app (Bal.tok tokAnd tokAnd_ne_tokOpen tokAnd_ne_tokClose) (Conj.bal r h.2))
  theorem Disj.bal : ∀ (d : Disj), d.OK → Bal d.tokens
    | .one a, h => by
      rw [Disj.tokens_one]
      exact Atom.bal a h
    | .cons a r, h => by
      rw [Disj.tokens_cons]
      exact Bal.app (Atom.bal a h.1)
        (Bal.app (Bal.tok tokOr tokOr_ne_tokOpen tokOr_ne_tokClose) (Disj.bal r h.2))
end

theorem cLoop_cons (ev : List Str → Except CondErr Bool) (st : CSt) (a : Str) (rest : List Str) :
    cLoop ev st (a :: rest) =
      match cStep ev st a with
      | .cont st' => cLoop ev st' rest
      | .ret b => .ok b
      | .err e => .error e := by
  simp only [cLoop]
  rfl

/-- scanning a balanced token list inside an open group only appends it to `block` -/
theorem scan_bal (ev : List Str → Except CondErr Bool) {ts : List Str} (hb : Bal ts) :
    ∀ (k : Nat) (b : List Str) (t p : Option Bool) (f : FoundToken) (rest : List Str),
      cLoop ev ⟨true, k + 1, b, t, p, f⟩ (ts ++ rest) =
        cLoop ev ⟨true, k + 1, b ++ ts, t, p, f⟩ rest := by
  induction hb with
  | nil => intros; simp
  | tok s h1 h2 =>
    intro k b t p f rest
    simp [cLoop_cons, cStep, h1, h2]
  | @paren ts _ ih =>
    intro k b t p f rest
    have h3 := tokOpen_ne_tokClose
    rw [List.cons_append, cLoop_cons]
    simp only [cStep, if_true, Nat.succ_ne_zero, if_false]
    rw [List.append_assoc, ih (k + 1)]
    rw [List.cons_append, List.nil_append, cLoop_cons]
    simp [cStep, h3.symm]
  | @app as bs _ _ iha ihb =>
    intro k b t p f rest
    rw [List.append_assoc, iha, ihb, List.append_assoc]

/-! ### `cStep` by token class -/

/-- what a token other than a parenthesis does outside groups -/
def topStep (st : CSt) (a : Str) : CStep :=
  if a = tokAnd then
    match st.found with
    | .value =>
      let total := st.total.getD true && st.part.getD true
      if total then .cont { st with found := .and, total := some total, part := none }
      else .ret false
    | _ => .err .unexpectedAnd
  else if a = tokOr then
    match st.found with
    | .value => .cont { st with found := .or }
    | _ => .err .unexpectedOr
  else foldAtom st (isTrue (some a))

theorem cStep_open (ev : List Str → Except CondErr Bool) (st : CSt) :
    cStep ev st tokOpen =
      .cont { st with searching := true, counter := st.counter + 1,
                      block := if st.counter = 0 then [] else st.block ++ [tokOpen] } :=
  if_pos rfl

theorem cStep_close (ev : List Str → Except CondErr Bool) (st : CSt) :
    cStep ev st tokClose =
      if st.counter = 0 then .err .unexpectedClose
      else if st.counter = 1 then
        match ev st.block with
        | .error e => .err e
        | .ok b => foldAtom { st with searching := false, counter := 0, block := [] } b
      else .cont { st with counter := st.counter - 1, block := st.block ++ [tokClose] } := by
  rw [cStep, if_neg tokOpen_ne_tokClose.symm, if_pos rfl]
  rfl

theorem cStep_other (ev : List Str → Except CondErr Bool) (st : CSt) {a : Str}
    (ho : a ≠ tokOpen) (hc : a ≠ tokClose) :
    cStep ev st a =
      if st.searching then .cont { st with block := st.block ++ [a] } else topStep st a := by
  rw [cStep, if_neg ho, if_neg hc]
  rfl

theorem foldAtom_cont {st st' : CSt} {b : Bool} (h : foldAtom st b = .cont st') :
    st'.counter = st.counter ∧ st'.block = st.block := by
  unfold foldAtom at h
  split at h <;> first | (cases h; exact ⟨rfl, rfl⟩) | cases h

theorem topStep_cont {st st' : CSt} {a : Str} (h : topStep st a = .cont st') :
    st'.counter = st.counter ∧ st'.block = st.block := by
  unfold topStep at h
  split at h
  · split at h
    · dsimp only at h
      split at h <;> cases h
      exact ⟨rfl, rfl⟩
    · cases h
  · split at h
    · split at h <;> cases h
      exact ⟨rfl, rfl⟩
    · exact foldAtom_cont h

/-! ### top-level runs -/

/-- the accumulated value of the current disjunction seen so far -/
def accOf (f : FoundToken) (p : Option Bool) : Bool :=
  match f with
  | .or => p.getD false
  | _ => false

/-- folding an atom into a state that does not already hold a value -/
theorem foldAtom_of_ne_value (st : CSt) (b : Bool) (hf : st.found ≠ .value) :
    foldAtom st b = .cont { st with part := some (b || accOf st.found st.part), found := .value } := by
  obtain ⟨s, k, bl, t, p, f⟩ := st
  cases f <;> simp [foldAtom, accOf] at hf ⊢

/-- at the start of a conjunct nothing is accumulated -/
theorem accOf_of_none_or_and {f : FoundToken} (p : Option Bool) (hf : f = .none ∨ f = .and) :
    accOf f p = false ∧ f ≠ .value := by
  rcases hf with rfl | rfl <;> simp [accOf]

section Run
variable (ev : List Str → Except CondErr Bool) (n : Nat)
  (hev : ∀ c : Cond, c.OK → c.tokens.length < n → ev c.tokens = .ok c.eval)
include hev

theorem atom_run (a : Atom) (hok : a.OK) (hlen : a.tokens.length ≤ n)
    (t p : Option Bool) (f : FoundToken) (rest : List Str) (hf : f ≠ .value) :
    cLoop ev ⟨false, 0, [], t, p, f⟩ (a.tokens ++ rest) =
      cLoop ev ⟨false, 0, [], t, some (a.eval || accOf f p), .value⟩ rest := by
  cases a with
  | val s =>
    obtain ⟨h1, h2, h3, h4⟩ := ValOK.unfold hok
    rw [Atom.tokens_val, List.cons_append, List.nil_append, cLoop_cons, cStep_other ev _ h3 h4]
    simp only [Bool.false_eq_true, if_false, topStep, h1, h2, Atom.eval, ← isTrue_eq_truthy]
    rw [foldAtom_of_ne_value ⟨false, 0, [], t, p, f⟩ _ hf]
  | group c =>
    rw [Atom.tokens_group] at hlen ⊢
    simp only [List.length_cons, List.length_append, List.length_nil] at hlen
    have hc := hev c hok (by omega)
    rw [List.cons_append, cLoop_cons, cStep_open]
    simp only [if_true]
    rw [List.append_assoc, scan_bal ev (Cond.bal c hok) 0, List.cons_append, List.nil_append,
      cLoop_cons, cStep_close]
    simp only [Nat.zero_add, Nat.succ_ne_zero, if_false, if_true, List.nil_append, hc, Atom.eval]
    rw [foldAtom_of_ne_value ⟨false, 0, [], t, p, f⟩ _ hf]

theorem disj_run : ∀ (d : Disj), d.OK → d.tokens.length ≤ n →
    ∀ (t p : Option Bool) (f : FoundToken) (rest : List Str), f ≠ .value →
      cLoop ev ⟨false, 0, [], t, p, f⟩ (d.tokens ++ rest) =
        cLoop ev ⟨false, 0, [], t, some (d.eval || accOf f p), .value⟩ rest
  | .one a, hok, hlen, t, p, f, rest, hf => by
    rw [Disj.tokens_one] at hlen ⊢
    simp only [Disj.eval]
    exact atom_run ev n hev a hok hlen t p f rest hf
  | .cons a r, hok, hlen, t, p, f, rest, hf => by
    rw [Disj.tokens_cons] at hlen ⊢
    simp only [List.length_cons, List.length_append] at hlen
    rw [List.append_assoc, atom_run ev n hev a hok.1 (by omega) t p f _ hf]
    rw [List.cons_append, cLoop_cons]
    simp only [cStep, tokOr_ne_tokOpen, tokOr_ne_tokClose, tokOr_ne_tokAnd, if_false, if_true,
      Bool.false_eq_true]
    rw [disj_run r hok.2 (by omega) t _ .or rest (by simp)]
    simp only [Disj.eval, accOf, Option.getD_some]
    cases a.eval <;> cases r.eval <;> cases accOf f p <;> rfl

theorem conj_run : ∀ (c : Conj), c.OK → c.tokens.length ≤ n →
    ∀ (t p : Option Bool) (f : FoundToken), (f = .none ∨ f = .and) →
      cLoop ev ⟨false, 0, [], t, p, f⟩ c.tokens = .ok (c.eval && t.getD true)
  | .one d, hok, hlen, t, p, f, hf => by
    rw [Conj.tokens_one] at hlen ⊢
    obtain ⟨hacc, hf'⟩ := accOf_of_none_or_and p hf
    have := disj_run ev n hev d hok hlen t p f [] hf'
    rw [List.append_nil] at this
    rw [this, hacc]
    simp [cLoop, Conj.eval]
  | .cons d r, hok, hlen, t, p, f, hf => by
    rw [Conj.tokens_cons] at hlen ⊢
    simp only [List.length_cons, List.length_append] at hlen
    obtain ⟨hacc, hf'⟩ := accOf_of_none_or_and p hf
    rw [disj_run ev n hev d hok.1 (by omega) t p f _ hf', hacc, cLoop_cons]
    simp only [cStep, tokAnd_ne_tokOpen, tokAnd_ne_tokClose, if_false, if_true, Bool.or_false,
      Option.getD_some, Bool.false_eq_true]
    by_cases hT : (t.getD true && d.eval) = true
    · simp only [hT, if_true]
      rw [conj_run r hok.2 (by omega) _ _ .and (Or.inr rfl)]
      simp only [Bool.and_eq_true] at hT
      simp [Conj.eval, hT.1, hT.2]
    · simp only [hT, Conj.eval]
      cases ht : t.getD true <;> cases hd : d.eval <;> simp [ht, hd] at hT ⊢

theorem cond_run (c : Cond) (hok : c.OK) (hlen : c.tokens.length ≤ n) :
    cLoop ev {} c.tokens = .ok c.eval := by
  cases c with
  | empty => rw [Cond.tokens_empty]; simp [cLoop, Cond.eval, isTrue]
  | conj c =>
    rw [Cond.tokens_conj] at hlen ⊢
    have := conj_run ev n hev c hok hlen none none .none (Or.inl rfl)
    simpa [Cond.eval] using this

end Run

theorem evalSliceF_succ (n : Nat) (args : List Str) :
    evalSliceF (n + 1) args = cLoop (evalSliceF n) {} args := by
  cases args with
  | nil => simp [evalSliceF, cLoop]
  | cons a rest => simp [evalSliceF]

theorem evalSliceF_correct : ∀ (n : Nat) (c : Cond), c.OK → c.tokens.length < n →
    evalSliceF n c.tokens = .ok c.eval := by
  intro n
  induction n with
  | zero => intro c _ h; omega
  | succ n ih =>
    intro c hok hlen
    rw [evalSliceF_succ]
    exact cond_run (evalSliceF n) n ih c hok (by omega)

theorem evalSlice_correct (c : Cond) (h : c.OK) : evalSlice c.tokens = .ok c.eval :=
  evalSliceF_correct _ c h (Nat.lt_succ_self _)

/-! ### fuel -/

/-- the evaluator of closed groups is consulted only at a `)` that closes the outermost group -/
theorem cStep_congr (ev1 ev2 : List Str → Except CondErr Bool) (st : CSt) (a : Str)
    (h : st.counter = 1 → ev1 st.block = ev2 st.block) :
    cStep ev1 st a = cStep ev2 st a := by
  by_cases ho : a = tokOpen
  · rw [ho, cStep_open, cStep_open]
  · by_cases hc : a = tokClose
    · rw [hc, cStep_close, cStep_close]
      by_cases h1 : st.counter = 1
      · rw [h h1]
      · rw [if_neg h1, if_neg h1]
    · rw [cStep_other ev1 st ho hc, cStep_other ev2 st ho hc]

/-- a continuing step makes the block of an open group at most one token longer, and the block
    of a newly opened group is empty -/
theorem cStep_block (ev : List Str → Except CondErr Bool) {st st' : CSt} {a : Str}
    (hs : cStep ev st a = .cont st') (hc' : st'.counter ≠ 0) :
    st'.block.length ≤ if st.counter = 0 then 0 else st.block.length + 1 := by
  by_cases ho : a = tokOpen
  · -- `(`: a new group starts with an empty block, an open one gets the token
    rw [ho, cStep_open] at hs
    cases hs
    by_cases hc : st.counter = 0 <;> simp [hc]
  · by_cases hc : a = tokClose
    · -- `)`: the outermost group is closed (counter 0 afterwards) or an inner one gets the token
      rw [hc, cStep_close] at hs
      split at hs
      · cases hs
      · rename_i h0
        rw [if_neg h0]
        split at hs
        · split at hs
          · cases hs
          · exact absurd (foldAtom_cont hs).1 hc'
        · cases hs
          simp
    · -- another token: appended inside a group, no change of block or counter outside
      rw [cStep_other ev st ho hc] at hs
      split at hs
      · cases hs
        rw [if_neg hc']
        simp
      · obtain ⟨e1, e2⟩ := topStep_cont hs
        rw [e2, ← e1, if_neg hc']
        omega

/-- the bound kept by the loop: inside a group, the collected block plus the remaining
    tokens stay below the original length -/
theorem cStep_inv (ev : List Str → Except CondErr Bool) (m : Nat) (st st' : CSt) (a : Str)
    (rest : List Str)
    (h0 : st.counter = 0 → (a :: rest).length ≤ m)
    (h1 : st.counter ≠ 0 → st.block.length + (a :: rest).length < m)
    (hs : cStep ev st a = .cont st') :
    (st'.counter = 0 → rest.length ≤ m) ∧
      (st'.counter ≠ 0 → st'.block.length + rest.length < m) := by
  simp only [List.length_cons] at h0 h1
  have hb := cStep_block ev hs
  by_cases hc : st.counter = 0
  · have := h0 hc
    rw [if_pos hc] at hb
    exact ⟨fun _ => by omega, fun hc' => by have := hb hc'; omega⟩
  · have := h1 hc
    rw [if_neg hc] at hb
    exact ⟨fun _ => by omega, fun hc' => by have := hb hc'; omega⟩

theorem cLoop_congr (ev1 ev2 : List Str → Except CondErr Bool) (m : Nat)
    (h : ∀ b : List Str, b.length < m → ev1 b = ev2 b) :
    ∀ (rest : List Str) (st : CSt), (st.counter = 0 → rest.length ≤ m) →
      (st.counter ≠ 0 → st.block.length + rest.length < m) →
      cLoop ev1 st rest = cLoop ev2 st rest := by
  intro rest
  induction rest with
  | nil => intro st _ _; simp [cLoop]
  | cons a rest ih =>
    intro st h0 h1
    have hstep : cStep ev1 st a = cStep ev2 st a := by
      apply cStep_congr
      intro hc
      apply h
      have := h1 (by omega)
      simp only [List.length_cons] at this
      omega
    rw [cLoop_cons, cLoop_cons, hstep]
    cases hs : cStep ev2 st a with
    | cont st' =>
      obtain ⟨i0, i1⟩ := cStep_inv ev2 m st st' a rest h0 h1 hs
      exact ih st' i0 i1
    | ret b => rfl
    | err e => rfl

theorem evalSliceF_fuel_succ : ∀ (n : Nat) (args : List Str), args.length < n →
    evalSliceF (n + 1) args = evalSliceF n args := by
  intro n
  induction n with
  | zero => intro args h; omega
  | succ k ih =>
    intro args hlen
    rw [evalSliceF_succ, evalSliceF_succ]
    apply cLoop_congr _ _ k (fun b hb => ih b hb)
    · intro _; omega
    · intro hc; exact absurd rfl hc

theorem evalSliceF_fuel_add (args : List Str) (extra : Nat) :
    evalSliceF (args.length + 1 + extra) args = evalSliceF (args.length + 1) args := by
  induction extra with
  | zero => rfl
  | succ e ih =>
    rw [← Nat.add_assoc, evalSliceF_fuel_succ _ _ (by omega), ih]

end Duck
