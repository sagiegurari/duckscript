/-
  Programs without functions: the simulation theorems of the simple2 and the simple fragment as
  the special case "no definitions" of the simulation with functions (Lemmas/SimFnMain.lean); the
  masked fuel crash of the nested evaluator; the sub-fragments named by Props/C04Sim.lean.
-/
import DuckModel.Lemmas.SimFnMain

namespace Duck
open Duck.Spec Duck.Generated

/-! ### the simple2 fragment is the fragment with functions when there are none -/

theorem condNoFn_nil (cond : List Str) : condNoFn [] cond = true := by
  rcases cond with _ | ⟨a, _ | ⟨b, rest⟩⟩ <;> rfl

section
variable (v : Str)

mutual
  theorem Stmt.assigns_of_assignsF : ∀ s : Stmt, s.assignsF (faAll []) v = true → s.assigns v = true
    | .line l, h => by simpa only [Stmt.assignsF, Stmt.assigns, faAll, List.contains_nil, Bool.or_false] using h
    | .ifChain _ _ body elifs _ elseBody _, h => by
      simp only [Stmt.assignsF, Stmt.assigns, Bool.or_eq_true] at h ⊢
      exact h.imp (Or.imp (Block.assigns_of_assignsF body) (Elifs.assigns_of_assignsF elifs))
        (Block.assigns_of_assignsF elseBody)
    | .whileLoop _ _ body _, h => Block.assigns_of_assignsF body h
    | .forIn _ _ _ body _, h => by
      simp only [Stmt.assignsF, Stmt.assigns, Bool.or_eq_true] at h ⊢
      exact h.imp_right (Block.assigns_of_assignsF body)
    | .fnDef _ _ _ _ _, h => by cases h
    | .ret _ _, h => by cases h
  theorem Block.assigns_of_assignsF : ∀ b : Block, b.assignsF (faAll []) v = true → b.assigns v = true
    | .nil, h => by cases h
    | .cons s rest, h => by
      simp only [Block.assignsF, Block.assigns, Bool.or_eq_true] at h ⊢
      exact h.imp (Stmt.assigns_of_assignsF s) (Block.assigns_of_assignsF rest)
  theorem Elifs.assigns_of_assignsF : ∀ e : Elifs, e.assignsF (faAll []) v = true → e.assigns v = true
    | .nil, h => by cases h
    | .cons _ _ body rest, h => by
      simp only [Elifs.assignsF, Elifs.assigns, Bool.or_eq_true] at h ⊢
      exact h.imp (Block.assigns_of_assignsF body) (Elifs.assigns_of_assignsF rest)
end

end

section
variable (rets : Bool)

mutual
  theorem Stmt.fnFrag_of_simple2 : ∀ (s : Stmt) (inFor : Bool), s.simple2 = true →
      s.fnFrag [] [] (faAll []) rets inFor = true
    | .line l, _, h => by
      simp only [Stmt.fnFrag, Bool.or_eq_true]
      exact .inl h
    | .ifChain _ cond body elifs _ elseBody _, inFor, h => by
      simp only [Stmt.simple2, Bool.and_eq_true] at h
      simp only [Stmt.fnFrag, Bool.and_eq_true]
      exact ⟨⟨⟨⟨h.1.1.1, condNoFn_nil cond⟩, Block.fnFrag_of_simple2 body inFor h.1.1.2⟩,
        Elifs.fnFrag_of_simple2 elifs inFor h.1.2⟩, Block.fnFrag_of_simple2 elseBody inFor h.2⟩
    | .whileLoop _ cond body _, inFor, h => by
      simp only [Stmt.simple2, Bool.and_eq_true] at h
      simp only [Stmt.fnFrag, Bool.and_eq_true]
      exact ⟨⟨h.1, condNoFn_nil cond⟩, Block.fnFrag_of_simple2 body inFor h.2⟩
    | .forIn _ x handle body _, _, h => by
      simp only [Stmt.simple2, Bool.and_eq_true] at h
      simp only [Stmt.fnFrag, Bool.and_eq_true]
      refine ⟨⟨h.1.1, Block.fnFrag_of_simple2 body true h.1.2⟩, ?_⟩
      cases hv : handleVar? handle with
      | none => rw [hv] at h; exact h.2
      | some hn =>
        rw [hv] at h
        simp only [Bool.and_eq_true, Bool.not_eq_true'] at h ⊢
        refine ⟨h.2.1, ?_⟩
        cases ha : body.assignsF (faAll []) hn with
        | false => rfl
        | true => rw [Block.assigns_of_assignsF hn body ha] at h; cases h.2.2
    | .fnDef _ _ _ _ _, _, h => by cases h
    | .ret _ _, _, h => by cases h
  theorem Block.fnFrag_of_simple2 : ∀ (b : Block) (inFor : Bool), b.simple2 = true →
      b.fnFrag [] [] (faAll []) rets inFor = true
    | .nil, _, _ => rfl
    | .cons s rest, inFor, h => by
      simp only [Block.simple2, Bool.and_eq_true] at h
      simp only [Block.fnFrag, Bool.and_eq_true]
      exact ⟨Stmt.fnFrag_of_simple2 s inFor h.1, Block.fnFrag_of_simple2 rest inFor h.2⟩
  theorem Elifs.fnFrag_of_simple2 : ∀ (e : Elifs) (inFor : Bool), e.simple2 = true →
      e.fnFrag [] [] (faAll []) rets inFor = true
    | .nil, _, _ => rfl
    | .cons _ cond body rest, inFor, h => by
      simp only [Elifs.simple2, Bool.and_eq_true] at h
      simp only [Elifs.fnFrag, Bool.and_eq_true]
      exact ⟨⟨⟨h.1.1, condNoFn_nil cond⟩, Block.fnFrag_of_simple2 body inFor h.1.2⟩,
        Elifs.fnFrag_of_simple2 rest inFor h.2⟩
end

end

theorem Block.noFn_of_simple2 : ∀ b : Block, b.simple2 = true → b.noFn = true :=
  fun b h => Block.noFn_of_fnFrag _ _ _ b _ _ (Block.fnFrag_of_simple2 false b false h)

theorem Elifs.noFn_of_simple2 : ∀ e : Elifs, e.simple2 = true → e.noFn = true :=
  fun e h => Elifs.noFn_of_fnFrag _ _ _ e _ _ (Elifs.fnFrag_of_simple2 false e false h)

/-! ### without definitions no function is ever defined, and the two safety predicates agree -/

theorem execLine_fns {fuel : Nat} {is : List Instruction} {l : Line} {t t' : TState}
    (h : execLine fuel is l t = .normal t') : t'.fns = t.fns := by
  unfold execLine at h
  split at h
  · cases h
  · dsimp only at h
    generalize runCmdF _ _ _ _ _ _ _ _ _ = R at h
    obtain ⟨r, vars, sdk⟩ := R
    cases r <;> cases h <;> rfl

theorem evalCond_fns {is : List Instruction} {fuel : Nat} {cond : List Str} {t t1 : TState} {b : Bool}
    (hf : t.fns = []) (h : evalCond is fuel cond t = some (b, t1)) : t1.fns = [] := by
  cases fuel with
  | zero => cases h
  | succ f =>
    unfold evalCond at h
    simp only [hf, lookupFn] at h
    split at h
    · split at h
      · cases h; rfl
      · cases h
    · cases h; exact hf

/-- running a piece without definitions from a state without functions: the two safety predicates
    agree, and no function is defined afterwards -/
theorem noFn_run (is : List Instruction) : ∀ n,
    (∀ st t, Stmt.noFn st = true → t.fns = [] → fsafeStmt is n st t = safeStmt is n st t ∧
      ∀ t', execStmt is n st t = .normal t' → t'.fns = []) ∧
    (∀ b t, Block.noFn b = true → t.fns = [] → fsafeBlock is n b t = safeBlock is n b t ∧
      ∀ t', execBlock is n b t = .normal t' → t'.fns = []) ∧
    (∀ es kwElse elseBody t, Elifs.noFn es = true → Block.noFn elseBody = true → t.fns = [] →
      fsafeElifs is n es kwElse elseBody t = safeElifs is n es kwElse elseBody t ∧
      ∀ t', execElifs is n es kwElse elseBody t = .normal t' → t'.fns = []) ∧
    (∀ x items body t, Block.noFn body = true → t.fns = [] →
      fsafeFor is n x items body t = safeFor is n x items body t ∧
      ∀ t', execFor is n x items body t = .normal t' → t'.fns = []) := by
  intro n
  induction n with
  | zero =>
    exact ⟨fun _ _ _ _ => ⟨rfl, fun _ h => by simp [execStmt] at h⟩,
      fun _ _ _ _ => ⟨rfl, fun _ h => by simp [execBlock] at h⟩,
      fun _ _ _ _ _ _ _ => ⟨rfl, fun _ h => by simp [execElifs] at h⟩,
      fun _ _ _ _ _ _ => ⟨rfl, fun _ h => by simp [execFor] at h⟩⟩
  | succ n ih =>
    obtain ⟨hS, hB, hE, hF⟩ := ih
    refine ⟨?_, ?_, ?_, ?_⟩
    · intro st t hn hf
      cases st with
      | line l =>
        refine ⟨by simp only [fsafeStmt, safeStmt, hf, lookupFn], fun t' h => ?_⟩
        simp only [execStmt, hf, lookupFn] at h
        exact (execLine_fns h).trans hf
      | ifChain kwIf cond body elifs kwElse elseBody kwEnd =>
        simp only [Stmt.noFn, Bool.and_eq_true] at hn
        simp only [fsafeStmt, safeStmt, execStmt]
        cases hc : evalCond is n cond t with
        | none => exact ⟨rfl, nofun⟩
        | some p =>
          obtain ⟨b, t1⟩ := p
          cases b with
          | true =>
            have := hB body t1 hn.1.1 (evalCond_fns hf hc)
            exact ⟨congrArg _ this.1, this.2⟩
          | false =>
            have := hE elifs kwElse elseBody t1 hn.1.2 hn.2 (evalCond_fns hf hc)
            exact ⟨congrArg _ this.1, this.2⟩
      | whileLoop kw cond body kwEnd =>
        have hn0 := hn
        simp only [Stmt.noFn] at hn
        simp only [fsafeStmt, safeStmt, execStmt]
        cases hc : evalCond is n cond t with
        | none => exact ⟨rfl, nofun⟩
        | some p =>
          obtain ⟨b, t1⟩ := p
          have h1 := evalCond_fns hf hc
          cases b with
          | false => exact ⟨rfl, fun t' h => by cases h; exact h1⟩
          | true =>
            have hb := hB body t1 hn h1
            simp only [hb.1]
            cases he : execBlock is n body t1 with
            | normal t2 =>
              have := hS _ t2 hn0 (hb.2 t2 he)
              exact ⟨congrArg _ (congrArg _ this.1), this.2⟩
            | _ => exact ⟨rfl, nofun⟩
      | forIn kw x handle body kwEnd =>
        simp only [Stmt.noFn] at hn
        simp only [fsafeStmt, safeStmt, execStmt]
        generalize bind t.vars (some [handle]) = L
        rcases L with _ | ⟨h, _ | _⟩
        · exact ⟨rfl, nofun⟩
        · exact hF _ _ _ _ hn hf
        · exact ⟨rfl, nofun⟩
      | fnDef kw sc name body kwEnd => cases hn
      | ret kw value =>
        refine ⟨rfl, fun t' h => ?_⟩
        simp only [execStmt] at h
        split at h
        · cases h; exact hf
        · split at h
          · cases h
          · split at h <;> cases h
    · intro b t hn hf
      cases b with
      | nil => exact ⟨rfl, fun t' h => by simp only [execBlock] at h; cases h; exact hf⟩
      | cons st rest =>
        simp only [Block.noFn, Bool.and_eq_true] at hn
        have hs := hS st t hn.1 hf
        simp only [fsafeBlock, safeBlock, execBlock, hs.1]
        cases he : execStmt is n st t with
        | normal t1 =>
          have := hB rest t1 hn.2 (hs.2 t1 he)
          exact ⟨congrArg _ this.1, this.2⟩
        | _ => exact ⟨rfl, nofun⟩
    · intro es kwElse elseBody t hn hne hf
      cases es with
      | nil =>
        simp only [fsafeElifs, safeElifs, execElifs]
        split
        · exact hB _ _ hne hf
        · exact ⟨rfl, fun t' h => by cases h; exact hf⟩
      | cons kw cond body rest =>
        simp only [Elifs.noFn, Bool.and_eq_true] at hn
        simp only [fsafeElifs, safeElifs, execElifs]
        cases hc : evalCond is n cond t with
        | none => exact ⟨rfl, nofun⟩
        | some p =>
          obtain ⟨b, t1⟩ := p
          cases b with
          | true =>
            have := hB body t1 hn.1 (evalCond_fns hf hc)
            exact ⟨congrArg _ this.1, this.2⟩
          | false =>
            have := hE rest kwElse elseBody t1 hn.2 hne (evalCond_fns hf hc)
            exact ⟨congrArg _ this.1, this.2⟩
    · intro x items body t hn hf
      cases items with
      | nil => exact ⟨rfl, fun t' h => by simp only [execFor] at h; cases h; exact hf⟩
      | cons v rest =>
        have hb := hB body { t with vars := t.vars.set x v } hn hf
        simp only [fsafeFor, safeFor, execFor, hb.1]
        cases he : execBlock is n body { t with vars := t.vars.set x v } with
        | normal t1 =>
          have := hF x rest body t1 hn (hb.2 t1 he)
          exact ⟨congrArg _ this.1, this.2⟩
        | _ => exact ⟨rfl, nofun⟩

/-! ### whole programs -/

/-- the simulation theorem for whole programs of the simple2 fragment whose conditions have safe
    bound arguments throughout the tree run: the case of no definitions -/
theorem sim_program2 (b : Block) (vars : Vars) (fuelT : Nat) (t' : TState)
    (hwf : b.wf = true) (hs : b.simple2 = true) (hsafe : CondArgsSafe fuelT b vars)
    (h : execBlock (program b) fuelT b { vars := vars, sdk := {} } = .normal t') :
    ∃ fuelM rs, interpRun fuelM (program b) vars {} = (rs, .reachedEnd) ∧
      rs.vars = t'.vars ∧ rs.st.emitted = t'.sdk.emitted ∧ rs.st.handles = t'.sdk.handles :=
  sim_programF [] b vars fuelT t'
    (by
      show (true && b.wf && b.fnFrag [] [] (faAll []) false false) = true
      rw [hwf, Block.fnFrag_of_simple2 false b false hs]
      rfl)
    ((((noFn_run (program b) fuelT).2.1 b _ (Block.noFn_of_simple2 b hs) rfl).1).trans hsafe) h

/-! ### programs of the simple fragment: every condition is a value condition, nothing to check -/

theorem safe_of_simple (is : List Instruction) :
    ∀ n, (∀ st t, Stmt.simple st = true → safeStmt is n st t = true) ∧
      (∀ b t, Block.simple b = true → safeBlock is n b t = true) ∧
      (∀ es kwElse elseBody t, Elifs.simple es = true → Block.simple elseBody = true →
        safeElifs is n es kwElse elseBody t = true) ∧
      (∀ x items body t, Block.simple body = true → safeFor is n x items body t = true) := by
  intro n
  induction n with
  | zero => exact ⟨fun _ _ _ => rfl, fun _ _ _ => rfl, fun _ _ _ _ _ _ => rfl, fun _ _ _ _ _ => rfl⟩
  | succ n ih =>
    obtain ⟨hS, hB, hE, hF⟩ := ih
    refine ⟨?_, ?_, ?_, ?_⟩
    · intro st t hs
      cases st with
      | line l => rfl
      | ifChain kwIf cond body elifs kwElse elseBody kwEnd =>
        simp only [Stmt.simple, Bool.and_eq_true] at hs
        simp only [safeStmt, Bool.and_eq_true]
        refine ⟨condArgsSafe_of_simple t.vars hs.1.1.1, ?_⟩
        cases evalCond is n cond t with
        | none => rfl
        | some pr =>
          obtain ⟨bv, t1⟩ := pr
          cases bv with
          | true => exact hB body t1 hs.1.1.2
          | false => exact hE elifs kwElse elseBody t1 hs.1.2 hs.2
      | whileLoop kw cond body kwEnd =>
        have hs0 := hs
        simp only [Stmt.simple, Bool.and_eq_true] at hs
        simp only [safeStmt, Bool.and_eq_true]
        refine ⟨condArgsSafe_of_simple t.vars hs.1, ?_⟩
        cases evalCond is n cond t with
        | none => rfl
        | some pr =>
          obtain ⟨bv, t1⟩ := pr
          cases bv with
          | false => rfl
          | true =>
            simp only [Bool.and_eq_true]
            refine ⟨hB body t1 hs.2, ?_⟩
            cases execBlock is n body t1 with
            | normal t2 => exact hS _ t2 hs0
            | _ => rfl
      | forIn kw x handle body kwEnd =>
        simp only [Stmt.simple, Bool.and_eq_true] at hs
        simp only [safeStmt]
        split
        · exact hF _ _ body t hs.1.2
        · rfl
      | fnDef kw sc name body kwEnd => simp [Stmt.simple] at hs
      | ret kw v => simp [Stmt.simple] at hs
    · intro b t hs
      cases b with
      | nil => rfl
      | cons st rest =>
        simp only [Block.simple, Bool.and_eq_true] at hs
        simp only [safeBlock, Bool.and_eq_true]
        refine ⟨hS st t hs.1, ?_⟩
        cases execStmt is n st t with
        | normal t1 => exact hB rest t1 hs.2
        | _ => rfl
    · intro es kwElse elseBody t hs hes
      cases es with
      | nil =>
        simp only [safeElifs]
        split
        · exact hB elseBody t hes
        · rfl
      | cons kw cond body rest =>
        simp only [Elifs.simple, Bool.and_eq_true] at hs
        simp only [safeElifs, Bool.and_eq_true]
        refine ⟨condArgsSafe_of_simple t.vars hs.1.1, ?_⟩
        cases evalCond is n cond t with
        | none => rfl
        | some pr =>
          obtain ⟨bv, t1⟩ := pr
          cases bv with
          | true => exact hB body t1 hs.1.2
          | false => exact hE rest kwElse elseBody t1 hs.2 hes
    · intro x items body t hs
      cases items with
      | nil => rfl
      | cons v rest =>
        simp only [safeFor, Bool.and_eq_true]
        refine ⟨hB body _ hs, ?_⟩
        cases execBlock is n body { t with vars := t.vars.set x v } with
        | normal t1 => exact hF x rest body t1 hs
        | _ => rfl

/-- the simulation theorem for whole programs of the simple fragment -/
theorem sim_program (b : Block) (vars : Vars) (fuelT : Nat) (t' : TState)
    (hwf : b.wf = true) (hs : b.simple = true)
    (h : execBlock (program b) fuelT b { vars := vars, sdk := {} } = .normal t') :
    ∃ fuelM rs, interpRun fuelM (program b) vars {} = (rs, .reachedEnd) ∧
      rs.vars = t'.vars ∧ rs.st.emitted = t'.sdk.emitted ∧ rs.st.handles = t'.sdk.handles :=
  sim_program2 b vars fuelT t' hwf (Block.simple2_of_simple b hs)
    ((safe_of_simple (program b) fuelT).2.1 b _ hs) h

/-! ### the nested evaluator's fuel: a crash deep inside is masked -/

open Duck.Reser

def nnt : List Str := ["not".toList, "not".toList, "true".toList]

/-- the closed facts about the three words that the two proofs below use -/
theorem nnt_facts :
    resolveCmd {} "not".toList = some .notC ∧ cmdOK "not".toList = true ∧
    (∀ x ∈ ["not".toList, "true".toList], Safe x = true) ∧
    positionOK ["not".toList, "true".toList] = true ∧ positionOK ["true".toList] = true ∧
    resolveCmd {} "true".toList = none ∧ isTrue (some "true".toList) = true := by
  decide +kernel

/-- `not not true`, nested fuel 2: the inner fuel crash comes out as an ordinary error -/
theorem nnt_fuel2 : (evalCondition (evalInstrsF 2) [] nnt [] {}).1 = .error () := by
  obtain ⟨hres, hcm, hs2, hp2, hp1, _, _⟩ := nnt_facts
  have hs1 : ∀ x ∈ ["true".toList], Safe x = true := fun x hx => hs2 x (List.mem_cons_of_mem _ hx)
  have hin := evalCondition_cmd_low 1 (by omega) ([] ++ [condInstr "not".toList ["not".toList, "true".toList]])
    "not".toList ["true".toList] [] {} .notC hcm hs1 hp1 hres
  generalize hR : evalCondition (evalInstrsF 1) ([] ++ [condInstr "not".toList ["not".toList, "true".toList]])
    ["not".toList, "true".toList] [] {} = R at hin
  obtain ⟨r0, v0, s0⟩ := R
  simp only at hin
  subst hin
  have hrun : runCmdF (evalInstrsF 1) ([] ++ [condInstr "not".toList ["not".toList, "true".toList]]) 3 .notC
      ["not".toList, "true".toList] none ([] : List Instruction).length [] {} = (errR, v0, s0) := by
    rw [runCmdF_not _ _ _ _ _ _ _ rfl, hR]; rfl
  have := evalCondition_cmd_error 1 [] "not".toList ["not".toList, "true".toList] [] {} .notC _ v0 s0
    hcm hs2 hp2 hres hrun
  show (evalCondition (evalInstrsF (1 + 1)) [] ("not".toList :: ["not".toList, "true".toList]) [] {}).1 = _
  rw [this]

theorem nnt_fuel3 : (evalCondition (evalInstrsF 3) [] nnt [] {}).1 = .ok true := by
  obtain ⟨hres, hcm, hs2, hp2, hp1, htrue, hist⟩ := nnt_facts
  have hs1 : ∀ x ∈ ["true".toList], Safe x = true := fun x hx => hs2 x (List.mem_cons_of_mem _ hx)
  -- innermost: the value condition `true`
  have h0 : evalCondition (evalInstrsF 1)
      (([] ++ [condInstr "not".toList ["not".toList, "true".toList]]) ++
        [condInstr "not".toList ["true".toList]]) ["true".toList] [] {} =
      (condVal ["true".toList], [], {}) :=
    evalCondition_slice _ _ _ _ _ _ htrue
  have hv : condVal ["true".toList] = .ok true := by
    have : evalSlice ["true".toList] = .ok true := by rfl
    unfold condVal; rw [this]
  have hrun1 : runCmdF (evalInstrsF 1)
      (([] ++ [condInstr "not".toList ["not".toList, "true".toList]]) ++
        [condInstr "not".toList ["true".toList]]) 3 .notC ["true".toList] none
      ([] ++ [condInstr "not".toList ["not".toList, "true".toList]]).length [] {} =
      (.continue (some "false".toList), [], {}) := by
    rw [runCmdF_not _ _ _ _ _ _ _ rfl, h0, hv]; rfl
  have h1 := evalCondition_cmd_continue 0 ([] ++ [condInstr "not".toList ["not".toList, "true".toList]])
    "not".toList ["true".toList] [] {} .notC _ [] {} hcm hs1 hp1 hres hrun1
  have hrun2 : runCmdF (evalInstrsF 2) ([] ++ [condInstr "not".toList ["not".toList, "true".toList]]) 3
      .notC ["not".toList, "true".toList] none ([] : List Instruction).length [] {} =
      (.continue (some "true".toList), [], {}) := by
    rw [runCmdF_not _ _ _ _ _ _ _ rfl, h1]; rfl
  have h2 := evalCondition_cmd_continue 1 [] "not".toList ["not".toList, "true".toList] [] {} .notC _ [] {}
    hcm hs2 hp2 hres hrun2
  show (evalCondition (evalInstrsF (1 + 2)) [] ("not".toList :: ["not".toList, "true".toList]) [] {}).1 = _
  rw [h2]
  show Except.ok (isTrue (some "true".toList)) = Except.ok true
  rw [hist]
end Duck

/-! ### sub-fragments of the simple fragment, named by Props/C04Sim.lean -/

namespace Duck.Spec

mutual
  /-- no for/in loop anywhere -/
  def Stmt.noFor : Stmt → Bool
    | .line _ => true
    | .ifChain _ _ body elifs _ elseBody _ => body.noFor && elifs.noFor && elseBody.noFor
    | .whileLoop _ _ body _ => body.noFor
    | .forIn _ _ _ _ _ => false
    | .fnDef _ _ _ body _ => body.noFor
    | .ret _ _ => true
  def Block.noFor : Block → Bool
    | .nil => true
    | .cons s rest => s.noFor && rest.noFor
  def Elifs.noFor : Elifs → Bool
    | .nil => true
    | .cons _ _ body rest => body.noFor && rest.noFor
end

mutual
  /-- no loop anywhere: if chains and straight lines only -/
  def Stmt.noLoop : Stmt → Bool
    | .line _ => true
    | .ifChain _ _ body elifs _ elseBody _ => body.noLoop && elifs.noLoop && elseBody.noLoop
    | .whileLoop _ _ _ _ => false
    | .forIn _ _ _ _ _ => false
    | .fnDef _ _ _ body _ => body.noLoop
    | .ret _ _ => true
  def Block.noLoop : Block → Bool
    | .nil => true
    | .cons s rest => s.noLoop && rest.noLoop
  def Elifs.noLoop : Elifs → Bool
    | .nil => true
    | .cons _ _ body rest => body.noLoop && rest.noLoop
end

/-- a block of straight-line statements -/
def Block.onlyLines : Block → Bool
  | .nil => true
  | .cons (.line _) rest => rest.onlyLines
  | .cons _ _ => false

end Duck.Spec
