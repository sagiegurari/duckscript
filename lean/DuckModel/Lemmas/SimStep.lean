/-
  The tree run is followed by the goto-machine — one machine step per command result, value
  conditions (decided by the boolean-expression evaluator, no command is run) and the straight-line
  command lemma (the seven plain commands only touch the observable part of the state).
-/
import DuckModel.Lemmas.SimLemmas
import DuckModel.Lemmas.NamesLemmas

namespace Duck
open Duck.Spec Duck.Generated

/-! ### one step of the runner on a command line -/

theorem runStep_cmd_continue (nested : EvalFn) (is : List Instruction) (l p : Nat) (v : Vars) (s : Sdk)
    (mi : Meta) (out : Option Str) (cmd : Str) (args : List Str) (c : Cmd) (val : Option Str)
    (v' : Vars) (s' : Sdk)
    (hi : is[l]? = some ⟨mi, .script (mkInstr out cmd args)⟩)
    (hc : resolveCmd s cmd = some c)
    (hr : runCmdF nested is 3 c (bind v (some args)) out l v s = (.continue val, v', s')) :
    runStep (sdkSem nested is) is (labelTable is) (fun _ _ => false) ⟨l, p, v, s⟩ =
      .inl ⟨l + 1, p + 1, Vars.updateOutput v' out val, s'⟩ := by
  unfold runStep
  simp only [Bool.false_eq_true, if_false, hi, runInstruction, mkInstr, sdkSem, hc, bind_mkArgs, hr]

theorem runStep_cmd_goto (nested : EvalFn) (is : List Instruction) (l p : Nat) (v : Vars) (s : Sdk)
    (mi : Meta) (out : Option Str) (cmd : Str) (args : List Str) (c : Cmd) (val : Option Str)
    (n : Nat) (v' : Vars) (s' : Sdk)
    (hi : is[l]? = some ⟨mi, .script (mkInstr out cmd args)⟩)
    (hc : resolveCmd s cmd = some c)
    (hr : runCmdF nested is 3 c (bind v (some args)) out l v s = (.goTo val (.line n), v', s')) :
    runStep (sdkSem nested is) is (labelTable is) (fun _ _ => false) ⟨l, p, v, s⟩ =
      .inl ⟨n, p + 1, Vars.updateOutput v' out val, s'⟩ := by
  unfold runStep
  simp only [Bool.false_eq_true, if_false, hi, runInstruction, mkInstr, sdkSem, hc, bind_mkArgs, hr]

theorem sdkSem_none (nested : EvalFn) (is : List Instruction) (n : Str) (a : List Str) (out : Option Str)
    (line : Nat) (v : Vars) (s : Sdk) (h : resolveCmd s n = none) :
    sdkSem nested is n a out line v s = none := by
  unfold sdkSem; rw [h]

theorem sdkSem_some (nested : EvalFn) (is : List Instruction) (n : Str) (a : List Str) (out : Option Str)
    (line : Nat) (v : Vars) (s : Sdk) (c : Cmd) (h : resolveCmd s n = some c) :
    sdkSem nested is n a out line v s = some (runCmdF nested is 3 c a out line v s) := by
  unfold sdkSem; rw [h]

/-- an error result with no `on_error` command defined: the output variable becomes `false` and the
    run goes on; holds for any command semantics in which `on_error` is not a command -/
theorem runStep_error {σ : Type} (sem : CmdSem σ) (is : List Instruction) (labels : List (Str × Nat))
    (l p : Nat) (v : Vars) (s : σ) (mi : Meta) (out : Option Str) (cmd : Str) (args : List Str) (e : Str)
    (v' : Vars) (s' : σ)
    (hi : is[l]? = some ⟨mi, .script (mkInstr out cmd args)⟩)
    (hr : sem cmd (bind v (some args)) out l v s = some (.error e, v', s'))
    (hoe : ∀ a w, sem onErrorName a none 0 w s' = none) :
    runStep sem is labels (fun _ _ => false) ⟨l, p, v, s⟩ =
      .inl ⟨l + 1, p + 1, Vars.updateOutput v' out (some "false".toList), s'⟩ := by
  unfold runStep
  simp only [Bool.false_eq_true, if_false, hi, runInstruction, mkInstr, bind_mkArgs, hr, runOnError, hoe]

theorem runStep_cmd_error (nested : EvalFn) (is : List Instruction) (l p : Nat) (v : Vars) (s : Sdk)
    (mi : Meta) (out : Option Str) (cmd : Str) (args : List Str) (c : Cmd) (e : Str)
    (v' : Vars) (s' : Sdk)
    (hi : is[l]? = some ⟨mi, .script (mkInstr out cmd args)⟩)
    (hc : resolveCmd s cmd = some c)
    (hr : runCmdF nested is 3 c (bind v (some args)) out l v s = (.error e, v', s'))
    (hoe : resolveCmd s' onErrorName = none) :
    runStep (sdkSem nested is) is (labelTable is) (fun _ _ => false) ⟨l, p, v, s⟩ =
      .inl ⟨l + 1, p + 1, Vars.updateOutput v' out (some "false".toList), s'⟩ :=
  runStep_error _ is _ l p v s mi out cmd args e v' s' hi
    (by rw [sdkSem_some nested is cmd _ out l v s c hc, hr])
    (fun a w => sdkSem_none nested is _ a none 0 w s' hoe)

/-! ### conditions of the fragment -/

/-- the verdict of the boolean-expression evaluator, in the shape `evalCondition` returns it -/
def condVal (args : List Str) : Except Unit Bool :=
  match evalSlice args with
  | .ok b => .ok b
  | .error _ => .error ()

theorem evalCondition_slice (nested : EvalFn) (is : List Instruction) (first : Str) (rest : List Str)
    (v : Vars) (s : Sdk) (h : resolveCmd s first = none) :
    evalCondition nested is (first :: rest) v s = (condVal (first :: rest), v, s) := by
  unfold evalCondition condVal
  simp only [h, Option.isSome_none, Bool.false_eq_true, if_false]
  cases evalSlice (first :: rest) <;> rfl

theorem condSimple_bind {cond : List Str} (vars : Vars) (hc : condSimple cond = true) :
    ∃ h rest, bind vars (some cond) = h :: rest ∧ (resolveCmd {} h).isNone = true := by
  cases cond with
  | nil => simp [condSimple] at hc
  | cons h rest =>
    simp only [condSimple, Bool.and_eq_true] at hc
    exact ⟨h, bind vars (some rest), bind_cons_literal vars h rest hc.1.1, hc.2⟩

/-- machine side: a simple condition is decided by `condVal` and leaves variables and state alone -/
theorem evalCondition_simple (nested : EvalFn) (is : List Instruction) (cond : List Str) (v : Vars)
    (s : Sdk) (hc : condSimple cond = true) (hf : s.fns = []) :
    evalCondition nested is (bind v (some cond)) v s = (condVal (bind v (some cond)), v, s) := by
  obtain ⟨h, rest, hb, hn⟩ := condSimple_bind v hc
  rw [hb]
  exact evalCondition_slice nested is h rest v s (resolveCmd_none_of_empty s hf hn)

theorem condSimple_bind_ne {cond : List Str} (vars : Vars) (hc : condSimple cond = true) :
    (bind vars (some cond)).isEmpty = false := by
  obtain ⟨h, rest, hb, _⟩ := condSimple_bind vars hc
  rw [hb]; rfl

/-- tree side -/
theorem evalCond_simple (is : List Instruction) (fuel : Nat) (cond : List Str) (t : TState)
    (hc : condSimple cond = true) (hf : t.fns = []) (hsf : t.sdk.fns = []) :
    evalCond is (fuel + 1) cond t =
      match condVal (bind t.vars (some cond)) with
      | .ok b => some (b, t)
      | .error _ => none := by
  obtain ⟨h, rest, hb, hn⟩ := condSimple_bind t.vars hc
  have he := evalCondition_slice (evalInstrsF fuel) is h rest t.vars t.sdk
    (resolveCmd_none_of_empty t.sdk hsf hn)
  obtain ⟨tv, ts, tf, td⟩ := t
  simp only at hf hb he
  subst hf
  unfold evalCond
  simp only [bind_mkArgs, hb, lookupFn, he]
  cases condVal (h :: rest) <;> rfl

/-! ### straight-line commands of the fragment -/

def SimpleCmd (c : Cmd) : Prop :=
  c = .set ∨ c = .equals ∨ c = .array ∨ c = .range ∨ c = .emit ∨ c = .inc ∨ c = .lt

theorem isSimpleCmd_resolve {cmd : Str} (h : isSimpleCmd cmd = true) :
    ∃ c, resolveCmd {} cmd = some c ∧ SimpleCmd c := by
  unfold isSimpleCmd at h
  split at h <;> first
    | (rename_i hc; exact ⟨_, hc, by simp [SimpleCmd]⟩)
    | simp at h

/-- a plain command of the fragment reads and writes only `handles / nextHandle / emitted`,
    never the variables, and does not depend on the line, the program or the nested evaluator -/
theorem simple_cmd (c : Cmd) (hc : SimpleCmd c) (args : List Str) (H : KV (List Str)) (N : Nat)
    (E : List (List Str)) :
    ∃ (r : CmdResult) (hd : KV (List Str)) (nx : Nat) (em : List (List Str)),
      (∀ (nested : EvalFn) (is : List Instruction) (out : Option Str) (line : Nat) (vars : Vars)
          (s : Sdk), s.handles = H → s.nextHandle = N → s.emitted = E →
        runCmdF nested is 3 c args out line vars s =
          (r, vars, { s with handles := hd, nextHandle := nx, emitted := em })) ∧
      ((hd = H ∧ nx = N) ∨ (∃ items, hd = H.put (handleName N) items ∧ nx = N + 1)) ∧
      (∀ val g, r ≠ .goTo val g) ∧ (∀ val, r ≠ .exit val) := by
  rcases hc with rfl | rfl | rfl | rfl | rfl | rfl | rfl
  · -- set
    rcases args with _ | ⟨a, _ | ⟨b, rest⟩⟩
    · exact ⟨.continue none, H, N, E, fun _ _ _ _ _ s h1 h2 h3 => by subst h1 h2 h3; rfl,
        .inl ⟨rfl, rfl⟩, nofun, nofun⟩
    · exact ⟨.continue (some a), H, N, E, fun _ _ _ _ _ s h1 h2 h3 => by subst h1 h2 h3; rfl,
        .inl ⟨rfl, rfl⟩, nofun, nofun⟩
    · exact ⟨.crash "unmodelled set form".toList, H, N, E,
        fun _ _ _ _ _ s h1 h2 h3 => by subst h1 h2 h3; rfl, .inl ⟨rfl, rfl⟩, nofun, nofun⟩
  · -- equals
    rcases args with _ | ⟨a, _ | ⟨b, rest⟩⟩
    · exact ⟨errR, H, N, E, fun _ _ _ _ _ s h1 h2 h3 => by subst h1 h2 h3; rfl,
        .inl ⟨rfl, rfl⟩, nofun, nofun⟩
    · exact ⟨errR, H, N, E, fun _ _ _ _ _ s h1 h2 h3 => by subst h1 h2 h3; rfl,
        .inl ⟨rfl, rfl⟩, nofun, nofun⟩
    · exact ⟨.continue (some (if a = b then "true".toList else "false".toList)), H, N, E,
        fun _ _ _ _ _ s h1 h2 h3 => by subst h1 h2 h3; rfl, .inl ⟨rfl, rfl⟩, nofun, nofun⟩
  · -- array
    exact ⟨.continue (some (handleName N)), H.put (handleName N) args, N + 1, E,
      fun _ _ _ _ _ s h1 h2 h3 => by subst h1 h2 h3; rfl, .inr ⟨args, rfl, rfl⟩, nofun, nofun⟩
  · -- range
    rcases args with _ | ⟨a, _ | ⟨b, _ | ⟨c, rest⟩⟩⟩
    · exact ⟨errR, H, N, E, fun _ _ _ _ _ s h1 h2 h3 => by subst h1 h2 h3; rfl,
        .inl ⟨rfl, rfl⟩, nofun, nofun⟩
    · exact ⟨errR, H, N, E, fun _ _ _ _ _ s h1 h2 h3 => by subst h1 h2 h3; rfl,
        .inl ⟨rfl, rfl⟩, nofun, nofun⟩
    · cases hx : decDigits? a with
      | none =>
        exact ⟨.crash "unmodelled range form".toList, H, N, E,
          fun _ _ _ _ _ s h1 h2 h3 => by
            subst h1 h2 h3; simp only [runCmdF, runCmd, hx],
          .inl ⟨rfl, rfl⟩, nofun, nofun⟩
      | some x =>
        cases hy : decDigits? b with
        | none =>
          exact ⟨.crash "unmodelled range form".toList, H, N, E,
            fun _ _ _ _ _ s h1 h2 h3 => by
              subst h1 h2 h3; simp only [runCmdF, runCmd, hx, hy],
            .inl ⟨rfl, rfl⟩, nofun, nofun⟩
        | some y =>
          by_cases hxy : x > y
          · exact ⟨errR, H, N, E,
              fun _ _ _ _ _ s h1 h2 h3 => by
                subst h1 h2 h3; simp only [runCmdF, runCmd, hx, hy, hxy, if_true],
              .inl ⟨rfl, rfl⟩, nofun, nofun⟩
          · exact ⟨.continue (some (handleName N)),
              H.put (handleName N) ((List.range (y - x)).map fun i => natToStr (x + i)), N + 1, E,
              fun _ _ _ _ _ s h1 h2 h3 => by
                subst h1 h2 h3; simp only [runCmdF, runCmd, hx, hy, hxy, if_false],
              .inr ⟨_, rfl, rfl⟩, nofun, nofun⟩
    · exact ⟨errR, H, N, E, fun _ _ _ _ _ s h1 h2 h3 => by subst h1 h2 h3; rfl,
        .inl ⟨rfl, rfl⟩, nofun, nofun⟩
  · -- emit
    exact ⟨.continue none, H, N, E ++ [args],
      fun _ _ _ _ _ s h1 h2 h3 => by subst h1 h2 h3; rfl, .inl ⟨rfl, rfl⟩, nofun, nofun⟩
  · -- inc
    rcases args with _ | ⟨a, _ | ⟨b, rest⟩⟩
    · exact ⟨errR, H, N, E, fun _ _ _ _ _ s h1 h2 h3 => by subst h1 h2 h3; rfl,
        .inl ⟨rfl, rfl⟩, nofun, nofun⟩
    · cases hx : decDigits? a with
      | none =>
        exact ⟨.continue (some "1".toList), H, N, E,
          fun _ _ _ _ _ s h1 h2 h3 => by subst h1 h2 h3; simp only [runCmdF, runCmd, hx],
          .inl ⟨rfl, rfl⟩, nofun, nofun⟩
      | some n =>
        exact ⟨.continue (some (natToStr (n + 1))), H, N, E,
          fun _ _ _ _ _ s h1 h2 h3 => by subst h1 h2 h3; simp only [runCmdF, runCmd, hx],
          .inl ⟨rfl, rfl⟩, nofun, nofun⟩
    · exact ⟨errR, H, N, E, fun _ _ _ _ _ s h1 h2 h3 => by subst h1 h2 h3; rfl,
        .inl ⟨rfl, rfl⟩, nofun, nofun⟩
  · -- lt
    rcases args with _ | ⟨a, _ | ⟨b, _ | ⟨c, rest⟩⟩⟩
    · exact ⟨errR, H, N, E, fun _ _ _ _ _ s h1 h2 h3 => by subst h1 h2 h3; rfl,
        .inl ⟨rfl, rfl⟩, nofun, nofun⟩
    · exact ⟨errR, H, N, E, fun _ _ _ _ _ s h1 h2 h3 => by subst h1 h2 h3; rfl,
        .inl ⟨rfl, rfl⟩, nofun, nofun⟩
    · cases hx : decDigits? a with
      | none =>
        exact ⟨.continue (some "false".toList), H, N, E,
          fun _ _ _ _ _ s h1 h2 h3 => by subst h1 h2 h3; simp only [runCmdF, runCmd, hx],
          .inl ⟨rfl, rfl⟩, nofun, nofun⟩
      | some x =>
        cases hy : decDigits? b with
        | none =>
          exact ⟨.continue (some "false".toList), H, N, E,
            fun _ _ _ _ _ s h1 h2 h3 => by subst h1 h2 h3; simp only [runCmdF, runCmd, hx, hy],
            .inl ⟨rfl, rfl⟩, nofun, nofun⟩
        | some y =>
          exact ⟨.continue (some (if x < y then "true".toList else "false".toList)), H, N, E,
            fun _ _ _ _ _ s h1 h2 h3 => by subst h1 h2 h3; simp only [runCmdF, runCmd, hx, hy],
            .inl ⟨rfl, rfl⟩, nofun, nofun⟩
    · exact ⟨errR, H, N, E, fun _ _ _ _ _ s h1 h2 h3 => by subst h1 h2 h3; rfl,
        .inl ⟨rfl, rfl⟩, nofun, nofun⟩

end Duck
