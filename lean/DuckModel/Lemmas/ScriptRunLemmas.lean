/-
  The base of every proof about a script command run from its source: `clear` after writes under
  the scope prefix, the published argument variables, the wrapper `aliasRun` over the collection
  model's handle table, dispatch inside a body (`bodySem_*`), one line of a body through the loop
  of `eval_instructions` (`eval_skip`, `eval_end`, `eval_cmd` and its instances `eval_native`,
  `eval_flow`; `evalAfter` is how the loop goes on), and the words the theorems are stated in
  (`Agrees`, `CorrectRun`, `IsAnswer`, `run_of_bound`).
-/
import DuckModel.Sdk.ScriptRun
import DuckModel.Lemmas.AliasCmdLemmas
import DuckModel.Lemmas.ScriptNames
import DuckModel.Lemmas.ExpansionLemmas
import DuckModel.Lemmas.CollectionsLemmas
import Std.Data.String.ToNat

namespace Duck.ScriptRun
open Duck Duck.Alias Duck.Coll Duck.Spec

/-! ### `clear` forgets writes under the prefix -/

theorem clear_erase_under (scope : Str) (m : Vars) (k : Str) (hk : underPrefix scope k = true) :
    clear scope (Vars.erase m k) = clear scope m := by
  unfold clear Vars.erase
  rw [List.filter_filter]
  apply List.filter_congr
  intro p _
  by_cases e : p.1 = k
  · simp [e, hk]
  · simp [e]

theorem clear_set_under (scope : Str) (m : Vars) (k v : Str) (hk : underPrefix scope k = true) :
    clear scope (Vars.set m k v) = clear scope m := by
  have : clear scope (Vars.set m k v) = clear scope (Vars.erase m k) := by
    simp [clear, Vars.set, hk]
  rw [this, clear_erase_under scope m k hk]

theorem clear_updateOutput_under (scope : Str) (m : Vars) (o : Option Str) (v : Option Str)
    (ho : ∀ k, o = some k → underPrefix scope k = true) :
    clear scope (Vars.updateOutput m o v) = clear scope m := by
  cases o with
  | none => rfl
  | some k =>
    cases v with
    | none => exact clear_erase_under scope m k (ho k rfl)
    | some x => exact clear_set_under scope m k x (ho k rfl)

theorem clear_publishArgs (scope : Str) (args : List Str) (i : Nat) (m : Vars) :
    clear scope (publishArgs scope i args m) = clear scope m := by
  induction args generalizing i m with
  | nil => rfl
  | cons a rest ih =>
    simp only [publishArgs]
    rw [ih, clear_set_under scope m _ a (underPrefix_argKey scope (i + 1))]

theorem clear_length_le (scope : Str) (m : Vars) : (clear scope m).length ≤ m.length :=
  List.length_filter_le _ _

/-- nothing under the prefix: `clear` is the identity -/
theorem clear_of_callerClean (scope : Str) (m : Vars) (h : ∀ k, underPrefix scope k = true → Vars.get m k = none) :
    clear scope m = m := by
  unfold clear
  apply List.filter_eq_self.mpr
  intro p hp
  cases hu : underPrefix scope p.1 with
  | false => rfl
  | true =>
    have hk : p.1 ∈ keys m := List.mem_map.mpr ⟨p, hp, rfl⟩
    exact absurd (h p.1 hu) ((mem_keys m p.1).mp hk)

/-! ### the published argument variables -/

theorem natToStr_inj {a b : Nat} (h : natToStr a = natToStr b) : a = b := by
  unfold natToStr at h
  have h3 : Nat.repr a = Nat.repr b := String.toList_inj.mp h
  exact Nat.repr_injective h3

theorem argKey_inj (scope : Str) {a b : Nat} (h : argKey scope a = argKey scope b) : a = b := by
  unfold argKey at h
  exact natToStr_inj (List.append_cancel_left (List.append_cancel_left h))

theorem argsKey_ne_argKey (scope : Str) (i : Nat) : argKey scope i ≠ argsKey scope := by
  unfold argKey argsKey
  intro h
  have := List.append_cancel_left h
  simp at this

/-- the `for argument in context.arguments` loop started at `i` leaves `argument::j` alone for
    `j ≤ i` and sets `argument::(i+1+j)` to the j-th argument (`get_publishArgs_nth`) -/
theorem get_publishArgs_le (scope : Str) (args : List Str) (i j : Nat) (m : Vars) (hj : j ≤ i) :
    Vars.get (publishArgs scope i args m) (argKey scope j) = Vars.get m (argKey scope j) := by
  induction args generalizing i m with
  | nil => rfl
  | cons a rest ih =>
    simp only [publishArgs]
    rw [ih (i + 1) _ (by omega), get_set]
    have : argKey scope j ≠ argKey scope (i + 1) := fun e => by have := argKey_inj scope e; omega
    simp [this]

theorem get_publishArgs_nth (scope : Str) (args : List Str) (i j : Nat) (m : Vars) (a : Str) (h : args[j]? = some a) :
    Vars.get (publishArgs scope i args m) (argKey scope (i + 1 + j)) = some a := by
  induction args generalizing i j m with
  | nil => cases h
  | cons x rest ih =>
    simp only [publishArgs]
    cases j with
    | zero =>
      rw [get_publishArgs_le scope rest (i + 1) (i + 1) _ (Nat.le_refl _), get_set, if_pos rfl]
      exact h
    | succ j =>
      rw [show i + 1 + (j + 1) = i + 1 + 1 + j by omega]
      exact ih (i + 1) j _ h

/-! ### `aliasRun` on the collection model's table -/

/-- variables and state the body of a call with at least one argument starts from -/
def pubVars (scope : Str) (args : List Str) (vars : Vars) (st : ScriptSt) : Vars :=
  (publishArgs scope 0 args vars).set (argsKey scope) (Coll.handleName st.coll.next)

def pubSt (scope : Str) (args : List Str) (st : ScriptSt) : ScriptSt :=
  { st with
    coll := { tbl := tinsert st.coll.tbl (Coll.handleName st.coll.next) (.list (args.map .str)),
              next := st.coll.next + 1 },
    ctx := scope }

theorem get_pubVars_arg (scope : Str) (args : List Str) (vars : Vars) (st : ScriptSt) (j : Nat) :
    Vars.get (pubVars scope args vars st) (argKey scope j) =
      Vars.get (publishArgs scope 0 args vars) (argKey scope j) := by
  unfold pubVars
  rw [get_set]
  simp [argsKey_ne_argKey]

theorem get_pubVars_arg1 (scope a : Str) (rest : List Str) (vars : Vars) (st : ScriptSt) :
    Vars.get (pubVars scope (a :: rest) vars st) (argKey scope 1) = some a :=
  (get_pubVars_arg ..).trans (get_publishArgs_nth scope (a :: rest) 0 0 vars a rfl)

theorem get_pubVars_arg2 (scope a b : Str) (rest : List Str) (vars : Vars) (st : ScriptSt) :
    Vars.get (pubVars scope (a :: b :: rest) vars st) (argKey scope 2) = some b :=
  (get_pubVars_arg ..).trans (get_publishArgs_nth scope (a :: b :: rest) 0 1 vars b rfl)

theorem clear_pubVars (scope : Str) (args : List Str) (vars : Vars) (st : ScriptSt) :
    clear scope (pubVars scope args vars st) = clear scope vars := by
  unfold pubVars
  rw [clear_set_under scope _ _ _ (underPrefix_argsKey scope), clear_publishArgs]

theorem publish_handleOps (scope : Str) (args : List Str) (vars : Vars) (st : ScriptSt) (hne : args ≠ []) :
    publish handleOps scope args vars (handleOps.setCtx st scope) =
      (some (Coll.handleName st.coll.next), pubVars scope args vars st, pubSt scope args st) := by
  cases args with
  | nil => exact absurd rfl hne
  | cons a r => simp [publish, handleOps, putHandle, pubVars, pubSt]

/-- One call with enough arguments (at least one): the call returns the body's result, the
    body's variables minus everything under the prefix, and the body's table minus the temporary
    array; the line-context name is restored.  `hlen`: the leak detector cannot fire (the body may
    have removed variables outside the prefix: a nested script command clears its own prefix in
    the same variable map). -/
theorem aliasRun_handleOps_le (amount : Nat) (body : Vars → ScriptSt → BodyResult × Vars × ScriptSt)
    (scope : Str) (args : List Str) (vars : Vars) (st : ScriptSt)
    (hn : ¬ args.length < amount) (hne : args ≠ [])
    (br : BodyResult) (vars2 : Vars) (st2 : ScriptSt)
    (hb : body (pubVars scope args vars st) (pubSt scope args st) = (br, vars2, st2))
    (hlen : (clear scope vars2).length ≤ vars.length) :
    aliasRun handleOps amount body scope args vars st =
      (resultOf br, clear scope vars2,
        { st2 with
          coll := { tbl := tremove st2.coll.tbl (Coll.handleName st.coll.next), next := st2.coll.next },
          ctx := st.ctx }) := by
  rw [aliasRun_run handleOps amount body scope args vars st hn]
  simp only [publish_handleOps scope args vars st hne, hb, cleanup]
  have : ¬ vars.length < (clear scope vars2).length := by omega
  simp [this, handleOps]

/-- … when the body's variables differ from the published ones only under the prefix: the
    caller's variables minus everything under the prefix -/
theorem aliasRun_handleOps (amount : Nat) (body : Vars → ScriptSt → BodyResult × Vars × ScriptSt)
    (scope : Str) (args : List Str) (vars : Vars) (st : ScriptSt)
    (hn : ¬ args.length < amount) (hne : args ≠ [])
    (br : BodyResult) (vars2 : Vars) (st2 : ScriptSt)
    (hb : body (pubVars scope args vars st) (pubSt scope args st) = (br, vars2, st2))
    (hclear : clear scope vars2 = clear scope (pubVars scope args vars st)) :
    aliasRun handleOps amount body scope args vars st =
      (resultOf br, clear scope vars,
        { st2 with
          coll := { tbl := tremove st2.coll.tbl (Coll.handleName st.coll.next), next := st2.coll.next },
          ctx := st.ctx }) := by
  rw [aliasRun_handleOps_le amount body scope args vars st hn hne br vars2 st2 hb
    (by rw [hclear, clear_pubVars]; exact clear_length_le scope vars), hclear, clear_pubVars]

/-- a call without arguments of a command whose `arguments_amount` is 0: nothing is published,
    no temporary array -/
theorem aliasRun_handleOps_nil_le (body : Vars → ScriptSt → BodyResult × Vars × ScriptSt)
    (scope : Str) (vars : Vars) (st : ScriptSt) (br : BodyResult) (vars2 : Vars) (st2 : ScriptSt)
    (hb : body vars { st with ctx := scope } = (br, vars2, st2))
    (hlen : (clear scope vars2).length ≤ vars.length) :
    aliasRun handleOps 0 body scope [] vars st =
      (resultOf br, clear scope vars2, { st2 with ctx := st.ctx }) := by
  rw [aliasRun_run handleOps 0 body scope [] vars st (by simp)]
  have hp : publish handleOps scope [] vars (handleOps.setCtx st scope) = (none, vars, { st with ctx := scope }) := by
    simp [publish, handleOps]
  simp only [hp, hb, cleanup]
  have : ¬ vars.length < (clear scope vars2).length := by omega
  simp [this, handleOps]

theorem aliasRun_handleOps_nil (body : Vars → ScriptSt → BodyResult × Vars × ScriptSt)
    (scope : Str) (vars : Vars) (st : ScriptSt) (br : BodyResult) (vars2 : Vars) (st2 : ScriptSt)
    (hb : body vars { st with ctx := scope } = (br, vars2, st2))
    (hclear : clear scope vars2 = clear scope vars) :
    aliasRun handleOps 0 body scope [] vars st =
      (resultOf br, clear scope vars, { st2 with ctx := st.ctx }) := by
  rw [aliasRun_handleOps_nil_le body scope vars st br vars2 st2 hb (by rw [hclear]; exact clear_length_le scope vars), hclear]

/-! ### dispatch inside a body -/

theorem bodySem_native (fuel depth : Nat) (is : List Instruction) (name : Str) (n : Native)
    (hr : resolve name = some (.native n))
    (args : List Str) (out : Option Str) (line : Nat) (vars : Vars) (st : ScriptSt) :
    bodySem fuel depth is name args out line vars st = some (runNative n args vars st) := by
  obtain ⟨hs, hn⟩ := native_of_resolve hr
  cases depth <;> simp [bodySem, hs, hn]

theorem bodySem_flow (fuel depth : Nat) (is : List Instruction) (name : Str) (c : FlowCmd)
    (hf : resolve name = some (.flow c))
    (args : List Str) (out : Option Str) (line : Nat) (vars : Vars) (st : ScriptSt) :
    bodySem fuel (depth + 1) is name args out line vars st =
      some (runFlowF (nestedOf (bodySem fuel depth) fuel) is 2 c args line vars st) := by
  obtain ⟨hs, hn, hf⟩ := flow_of_resolve hf
  simp [bodySem, hs, hn, hf]

theorem bodySem_script (fuel depth : Nat) (is : List Instruction) (name : Str) (sc : Generated.ScriptCmd)
    (hf : findScript name = some sc) (args : List Str) (out : Option Str) (line : Nat) (vars : Vars) (st : ScriptSt) :
    bodySem fuel (depth + 1) is name args out line vars st = some (runScriptCmdF depth fuel name args vars st) := by
  simp [bodySem, runScriptCmdF, hf]

/-! ### decimal numerals; handle names -/

theorem natStr_zero : natStr 0 = "0".toList := by decide

theorem natStr_eq_natToStr (n : Nat) : natStr n = natToStr n := rfl

theorem natStr_inj {a b : Nat} (h : natStr a = natStr b) : a = b := natToStr_inj h

theorem natStr_eq_zero_iff (n : Nat) : ("0".toList = natStr n) ↔ n = 0 :=
  ⟨fun h => (natStr_inj (natStr_zero.trans h)).symm, fun h => h ▸ natStr_zero.symm⟩

theorem handleName_ne_nil (k : Nat) : Coll.handleName k ≠ [] := by
  simp [Coll.handleName, handlePrefix]

/-! ### evaluating the parser on a regenerated text -/

instance (n : Str) : Decidable (KeyOK n) := by unfold KeyOK; infer_instance
instance (n : Str) : Decidable (LitOK n) := by unfold LitOK; infer_instance

def parsesTo (t : Str) (is : List Instruction) : Bool :=
  match parseText t with
  | .ok r => r == is
  | .error _ => false

theorem parsesTo_eq {t : Str} {is : List Instruction} (h : parsesTo t is = true) : parseText t = .ok is := by
  unfold parsesTo at h
  cases hp : parseText t with
  | error e => rw [hp] at h; cases h
  | ok r => rw [hp] at h; simp at h; rw [h]

/-! ### the instruction loop, one step at a time -/

variable {σ : Type}

theorem runInstruction_cmd (sem : CmdSem σ) (vars : Vars) (s : σ) (mi : Meta) (si : ScriptInstr) (c : Str)
    (line : Nat) (hc : si.command = some c) (args : List Str) (hb : bind vars si.args = args)
    (r : CmdResult) (vars' : Vars) (s' : σ)
    (hsem : sem c args si.output line vars s = some (r, vars', s')) :
    runInstruction sem vars s ⟨mi, .script si⟩ line = (r, si.output, vars', s') := by
  simp [runInstruction, hc, hb, hsem]

theorem eval_skip (sem : CmdSem σ) (is : List Instruction) (fuel line poll : Nat) (fo : Option Str)
    (vars : Vars) (s : σ) (instr : Instruction) (hget : is[line]? = some instr) (hty : instr.ty = .empty) :
    evalInstructions sem (fun _ => false) is (fuel + 1) line poll fo vars s =
      evalInstructions sem (fun _ => false) is fuel (line + 1) (poll + 1) fo vars s := by
  simp [evalInstructions, hget, hty]

theorem eval_end (sem : CmdSem σ) (is : List Instruction) (fuel line poll : Nat) (fo : Option Str)
    (vars : Vars) (s : σ) (hget : is[line]? = none) :
    evalInstructions sem (fun _ => false) is (fuel + 1) line poll fo vars s = some (.finished fo, vars, s) := by
  simp [evalInstructions, hget]

/-- how the instruction loop goes on after the command line `line` (output variable `out`)
    answered `r`: the six arms of `eval_instructions` -/
def evalAfter (sem : CmdSem σ) (is : List Instruction) (fuel line poll : Nat) (out : Option Str)
    (r : CmdResult × Vars × σ) : Option (BodyResult × Vars × σ) :=
  match r.1 with
  | .exit v => some (.exit v, r.2.1, r.2.2)
  | .error m => some (.error m, r.2.1, r.2.2)
  | .crash m => some (.crash m, r.2.1, r.2.2)
  | .goTo v (.label l) => some (.gotoLabel v l, r.2.1, r.2.2)
  | .goTo v (.line n) => evalInstructions sem (fun _ => false) is fuel n (poll + 1) v r.2.1 r.2.2
  | .continue v =>
    evalInstructions sem (fun _ => false) is fuel (line + 1) (poll + 1) v (r.2.1.updateOutput out v) r.2.2

/-- one command line of a body -/
theorem eval_script (sem : CmdSem σ) (is : List Instruction) (fuel line poll : Nat) (fo : Option Str)
    (vars : Vars) (s : σ) (instr : Instruction) (si : ScriptInstr) (hget : is[line]? = some instr)
    (hty : instr.ty = .script si) :
    evalInstructions sem (fun _ => false) is (fuel + 1) line poll fo vars s =
      evalAfter sem is fuel line poll si.output
        ((runInstruction sem vars s instr line).1, (runInstruction sem vars s instr line).2.2) := by
  simp only [evalInstructions, Bool.false_eq_true, if_false, hget, hty, evalAfter]
  generalize runInstruction sem vars s instr line = r
  obtain ⟨r, o, vars', s'⟩ := r
  cases r with
  | goTo v g => cases g <;> rfl
  | _ => rfl

/-- one command line whose command word the semantics knows -/
theorem eval_cmd {sem : CmdSem σ} {is : List Instruction} {fuel line poll : Nat} {fo : Option Str}
    {vars : Vars} {s : σ} {mi : Meta} {si : ScriptInstr} {c : Str} {r : CmdResult × Vars × σ}
    (hget : is[line]? = some ⟨mi, .script si⟩) (hc : si.command = some c)
    (hsem : sem c (bind vars si.args) si.output line vars s = some r) :
    evalInstructions sem (fun _ => false) is (fuel + 1) line poll fo vars s =
      evalAfter sem is fuel line poll si.output r := by
  rw [eval_script sem is fuel line poll fo vars s _ si hget rfl,
    runInstruction_cmd sem vars s mi si c line hc _ rfl r.1 r.2.1 r.2.2 hsem]

/-- a line that calls a native command -/
theorem eval_native {F d : Nat} {is : List Instruction} {fuel line poll : Nat} {fo : Option Str}
    {vars : Vars} {s : ScriptSt} {mi : Meta} {si : ScriptInstr} {c : Str} {n : Native}
    {args : List Str} (hget : is[line]? = some ⟨mi, .script si⟩) (hc : si.command = some c)
    (hr : resolve c = some (.native n)) (hb : bind vars si.args = args) :
    evalInstructions (bodySem F d is) (fun _ => false) is (fuel + 1) line poll fo vars s =
      evalAfter (bodySem F d is) is fuel line poll si.output (runNative n args vars s) :=
  hb ▸ eval_cmd hget hc (bodySem_native F d is c n hr _ _ _ _ _)

/-- a line that calls a flow-control command -/
theorem eval_flow {F d : Nat} {is : List Instruction} {fuel line poll : Nat} {fo : Option Str}
    {vars : Vars} {s : ScriptSt} {mi : Meta} {si : ScriptInstr} {c : Str} {fc : FlowCmd}
    {args : List Str} (hget : is[line]? = some ⟨mi, .script si⟩) (hc : si.command = some c)
    (hf : resolve c = some (.flow fc)) (hb : bind vars si.args = args) :
    evalInstructions (bodySem F (d + 1) is) (fun _ => false) is (fuel + 1) line poll fo vars s =
      evalAfter (bodySem F (d + 1) is) is fuel line poll si.output
        (runFlowF (nestedOf (bodySem F d) F) is 2 fc args line vars s) :=
  hb ▸ eval_cmd hget hc (bodySem_flow F d is c fc hf _ _ _ _ _)

/-! ### a table entry run from its source -/

/-- the state a call with at least one argument ends in when its body left the table `t` -/
def afterSt (st : ScriptSt) (t : Table) (next : Nat) : ScriptSt :=
  { st with coll := { tbl := tremove t (Coll.handleName st.coll.next), next := next } }

theorem runScriptCmdF_entry (depth fuel : Nat) (name : Str) (sc : Generated.ScriptCmd) (is : List Instruction)
    (hf : findScript name = some sc) (hp : parseText sc.script = .ok is)
    (args : List Str) (vars : Vars) (st : ScriptSt) :
    runScriptCmdF depth fuel name args vars st =
      aliasRun handleOps sc.argumentsAmount (scriptBody (bodySem fuel depth is) (fun _ => false) fuel is)
        sc.scopeName args vars st := by
  simp [runScriptCmdF, hf, runEntry, hp]

/-- the table after removing the temporary array again reads like the caller's table -/
theorem lookupEq_afterSt (st : ScriptSt) (v : Value) (n : Nat) (t : Table)
    (hfree : tget st.coll.tbl (Coll.handleName st.coll.next) = none)
    (ht : LookupEq t (tinsert st.coll.tbl (Coll.handleName st.coll.next) v)) :
    LookupEq (afterSt st t n).coll.tbl st.coll.tbl := by
  intro h
  simp only [afterSt, tget_tremove]
  rw [ht h, tget_tinsert]
  by_cases e : h = Coll.handleName st.coll.next
  · simp [e, hfree]
  · simp [e]

/-! ### agreement with the specified function -/

/-- a command result agrees with a result of the collection model: the same value, or both an
    `Error` (message texts are not part of the collection model) -/
def Agrees : CmdResult → Res → Prop
  | .continue o, .val o' => o = o'
  | .error _, .err => True
  | _, _ => False

/-- what `C12_script_*_correct` says about a run `r` from variables `vars` and state `st`,
    compared with the specified function's result `spec`; `few` = fewer arguments than
    `arguments_amount` (then nothing is touched) -/
def CorrectRun (scope : Str) (few : Bool) (vars : Vars) (st : ScriptSt) (spec : Res)
    (r : CmdResult × Vars × ScriptSt) : Prop :=
  Agrees r.1 spec ∧
  r.2.1 = (if few then vars else clear scope vars) ∧
  LookupEq r.2.2.coll.tbl st.coll.tbl ∧
  r.2.2.coll.next = st.coll.next + (if few then 0 else 1) ∧
  r.2.2.ctx = st.ctx ∧
  (r.2.2.ifStack, r.2.2.forStack, r.2.2.ifMeta, r.2.2.forMeta, r.2.2.endTable) =
    (st.ifStack, st.forStack, st.ifMeta, st.forMeta, st.endTable)

/-- the result is an answer of the command: `Continue` or `Error` (not `Crash`, so in particular
    not the model's out-of-fuel crash) -/
def IsAnswer : CmdResult → Prop
  | .continue _ => True
  | .error _ => True
  | _ => False

/-- a run that is the same `r` for every budget `k + B` is the run with budget `B` for every
    budget from `B` on, and what holds of `r` holds of it -/
theorem run_of_bound {α : Type} {run : Nat → α} {B : Nat} {P : α → Prop} (h : ∃ r, (∀ k, run (k + B) = r) ∧ P r)
    {fuel : Nat} (hf : B ≤ fuel) : run fuel = run B ∧ P (run fuel) := by
  obtain ⟨r, hr, hP⟩ := h
  have h0 := hr 0
  rw [Nat.zero_add] at h0
  rw [← Nat.sub_add_cancel hf, hr, h0]
  exact ⟨rfl, hP⟩

/-- inside the runner, a script command's name runs the command from its source -/
theorem scriptSem_script (name : Str) (sc : Generated.ScriptCmd) (hf : findScript name = some sc)
    (args : List Str) (out : Option Str) (line : Nat) (vars : Vars) (st : ScriptSt) :
    scriptSem name args out line vars st = some (runScriptCmd name args vars st) := by
  simp [scriptSem, bodySem, runScriptCmd, runScriptCmdF, hf]

end Duck.ScriptRun
