/-
  Command conditions inside a script body run from source (`if not is_array X`, `not map_is_empty X`):
  the condition evaluator rebuilds a script line from the bound values, parses it again and runs
  it on the nested evaluator (C09 path).  For values of the class that survives the round trip
  (`ArgOK`, the decidable class of Sdk/Reserialize.lean) the nested runs are followed here.
-/
import DuckModel.Lemmas.ScriptLoopLemmas
import DuckModel.Lemmas.ReserializeLemmas

namespace Duck.ScriptRun
open Duck Duck.Alias Duck.Coll Duck.Spec Duck.Generated Duck.Reser

/-- an argument that reaches the command unchanged when a condition evaluator rebuilds and
    re-parses the line (C09): stable under the second expansion (no `%`, no `${`), no line
    break, quotes / `#` / leading `=` / trailing blank only where the rebuilt token protects
    them.  Every handle name (`handle:<digits>`, in the code 20 random alphanumerics) is in the
    class; an argument outside it is the C09 finding (`set_from_array \${h}` validates the
    array named by the caller's `h` and then iterates over the literal text). -/
def ArgOK (a : Str) : Bool := Safe a && firstOK a && lastOK a

/-- the message of the scripts that validate their argument by `if not is_array …` -/
def sMsg : Str := "Invalid input, non array handle or array not found.".toList

/-- number of cells of the array named by `a` (0 when `a` names no array) -/
def arrLen (t : Table) (a : Str) : Nat :=
  match tget t a with
  | some (.list l) => l.length
  | _ => 0

/-- the instruction a safe condition line is re-parsed to -/
def condI (cmd : Str) (vals : List Str) : Instruction :=
  ⟨meta1, .script { label := none, output := none, command := some cmd,
                    args := if vals = [] then none else some vals }⟩

theorem evalParse_ok (cmd : Str) (vals : List Str) (hc : cmdOK cmd = true)
    (hs : ∀ v ∈ vals, Safe v = true) (hp : positionOK vals = true) :
    evalParse (cmd :: vals) = some (condI cmd vals) :=
  evalParse_of_parseLine cmd vals _ (parseLine_serialized cmd vals hc hs hp)
    (by intro c x he; cases he)

theorem bind_ok (vars : Vars) (vals : List Str) (hs : ∀ v ∈ vals, Safe v = true) :
    bind vars (if vals = [] then none else some vals) = vals :=
  bind_plain vars vals (fun v hv => ((safe_iff v).mp (hs v hv)).1.1)

theorem isTrue_boolStr (b : Bool) : isTrue (some (boolStr b)) = b := by
  cases b <;> decide

theorem getElem_last {α : Type} (l : List α) (x : α) : (l ++ [x])[(l ++ [x]).length - 1]? = some x := by
  simp

/-- the nested evaluator on one appended instruction whose command answers `Continue(v)`: flow
    output `v` -/
theorem nested_cmd {sem : List Instruction → CmdSem ScriptSt} (F : Nat) (is : List Instruction) (cmd : Str)
    (vals : List Str) (hs : ∀ v ∈ vals, Safe v = true) {vars : Vars} {s : ScriptSt} {v : Option Str} {vars' : Vars}
    {s' : ScriptSt}
    (hsem : sem (is ++ [condI cmd vals]) cmd vals none ((is ++ [condI cmd vals]).length - 1) vars s =
      some (.continue v, vars', s')) :
    nestedOf sem (F + 2) (is ++ [condI cmd vals]) ((is ++ [condI cmd vals]).length - 1) vars s = (none, v, vars', s') := by
  unfold nestedOf
  rw [eval_cmd (fuel := F + 1) (getElem_last is (condI cmd vals)) rfl (by rw [bind_ok vars vals hs]; exact hsem)]
  simp only [evalAfter]
  rw [eval_end _ _ F _ _ _ _ _ (by simp)]
  rfl

/-- … whose command answers `Error` -/
theorem nested_cmd_error {sem : List Instruction → CmdSem ScriptSt} (F : Nat) (is : List Instruction) (cmd : Str)
    (vals : List Str) (hs : ∀ v ∈ vals, Safe v = true) {vars : Vars} {s : ScriptSt} {m : Str} {vars' : Vars}
    {s' : ScriptSt}
    (hsem : sem (is ++ [condI cmd vals]) cmd vals none ((is ++ [condI cmd vals]).length - 1) vars s =
      some (.error m, vars', s')) :
    nestedOf sem (F + 2) (is ++ [condI cmd vals]) ((is ++ [condI cmd vals]).length - 1) vars s =
      (some (.error m), none, vars', s') := by
  unfold nestedOf
  rw [eval_cmd (fuel := F + 1) (getElem_last is (condI cmd vals)) rfl (by rw [bind_ok vars vals hs]; exact hsem)]
  rfl

/-- a command that answers `Continue(v)` as a condition: one round of rebuild / re-parse -/
theorem evalCond_cmd {sem : List Instruction → CmdSem ScriptSt} (F : Nat) (is : List Instruction) (cmd : Str)
    (vals : List Str) (hcmd : isCommand cmd = true) (hc : cmdOK cmd = true) (hs : ∀ v ∈ vals, Safe v = true)
    (hp : positionOK vals = true) {vars : Vars} {s : ScriptSt} {v : Option Str} {vars' : Vars} {s' : ScriptSt}
    (hsem : sem (is ++ [condI cmd vals]) cmd vals none ((is ++ [condI cmd vals]).length - 1) vars s =
      some (.continue v, vars', s')) :
    evalCond (nestedOf sem (F + 2)) is (cmd :: vals) vars s = (.ok (isTrue v), vars', s') := by
  simp only [evalCond, hcmd, if_true, evalParse_ok cmd vals hc hs hp]
  rw [nested_cmd F is cmd vals hs hsem]

/-- `not args…` as a command of a body, given what the condition `args` evaluates to -/
theorem runNot_of_cond (nested : Nested) (is : List Instruction) (a : Str) (args : List Str) (line : Nat) (vars : Vars)
    (s : ScriptSt) {b : Bool} {vars' : Vars} {s' : ScriptSt} (h : evalCond nested is (a :: args) vars s = (.ok b, vars', s')) :
    runFlowF nested is 2 .notC (a :: args) line vars s = (.continue (some (boolStr (!b))), vars', s') := by
  simp only [runFlowF, runFlow, List.isEmpty_cons, Bool.false_eq_true, if_false, h]

/-- `not <native command> vals…` as a condition: two rounds of rebuild / re-parse -/
theorem evalCond_not_native (F d : Nat) (is : List Instruction) (cmd : Str) (vals : List Str) (n : Native)
    (hc : cmdOK cmd = true) (hsc : Safe cmd = true) (hs : ∀ v ∈ vals, Safe v = true)
    (hp1 : positionOK (cmd :: vals) = true) (hp : positionOK vals = true)
    (hr : resolve cmd = some (.native n))
    (vars : Vars) (s : ScriptSt) (v : Option Str) (vars' : Vars) (s' : ScriptSt)
    (hrun : runNative n vals vars s = (.continue v, vars', s')) :
    evalCond (nestedOf (bodySem (F + 2) (d + 1)) (F + 2)) is ("not".toList :: cmd :: vals) vars s =
      (.ok (!isTrue v), vars', s') := by
  have hs' : ∀ x ∈ cmd :: vals, Safe x = true := by
    intro x hx
    rcases List.mem_cons.mp hx with rfl | hx
    · exact hsc
    · exact hs x hx
  have hinner := evalCond_cmd (sem := bodySem (F + 2) d) F (is ++ [condI "not".toList (cmd :: vals)]) cmd vals
    (isCommand_of_resolve hr) hc hs hp ((bodySem_native (F + 2) d _ cmd n hr _ _ _ _ _).trans (congrArg some hrun))
  rw [evalCond_cmd F is "not".toList (cmd :: vals) (isCommand_of_resolve rs_not) (by decide) hs' hp1
    ((bodySem_flow (F + 2) d _ _ .notC rs_not _ _ _ _ _).trans (congrArg some (runNot_of_cond _ _ cmd vals _ vars s hinner))),
    isTrue_boolStr]

theorem argOK_parts {a : Str} (h : ArgOK a = true) : Safe a = true ∧ firstOK a = true ∧ lastOK a = true := by
  unfold ArgOK at h
  simp only [Bool.and_eq_true] at h
  exact ⟨h.1.1, h.1.2, h.2⟩

/-- `is_array X` as a native run -/
theorem run_isArray (X : Str) (vars : Vars) (s : ScriptSt) :
    runNative (.coll .isArray) [X] vars s =
      (.continue (some (boolStr (match tget s.coll.tbl X with | some (.list _) => true | _ => false))), vars, s) := by
  simp only [runNative, runColl, Coll.exec, cmdIsArray]
  cases hv : tget s.coll.tbl X with
  | none => rfl
  | some v => cases v <;> rfl

end Duck.ScriptRun
