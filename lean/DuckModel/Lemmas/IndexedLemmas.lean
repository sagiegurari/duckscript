/-
  Lemmas relating the index-faithful parser model (ParserIndexed.lean) to the suffix
  model (Parser.lean).

  Dictionary: the suffix `r` of `line` stands for the index `line.length - r.length`
  (`liftIdx`); every "what is left" returned by the suffix model is a suffix of its input
  (`…_suffix`), so `line.drop (line.length - r.length) = r`.

  `ipvBody` (index form, with its `index -= 1`) is transcribed by hand; it is tied to the source
  only through `pvStep`, which equals the translated scanner step (Props/C08Translated.lean).
-/
import DuckModel.ParserIndexed
import DuckModel.Lemmas.ScannerLemmas

namespace Duck

theorem drop_length_sub {line r : Str} (h : r <:+ line) : line.drop (line.length - r.length) = r :=
  (List.suffix_iff_eq_drop.mp h).symm

theorem suffix_of_drop {line r : Str} {i : Nat} (h : r <:+ line.drop i) : r <:+ line :=
  h.trans (List.drop_suffix i line)

theorem length_sub_drop (line : Str) {i : Nat} (h : i ≤ line.length) :
    line.length - (line.drop i).length = i := by
  rw [List.length_drop]; omega

theorem decr_succ (i : Nat) : decr (i + 1) = some i := by simp [decr]

theorem rd_lt {line : Str} {i : Nat} (h : i < line.length) : rd line i = some line[i] := by
  simp [rd, h]

theorem rd_none_iff {line : Str} {i : Nat} : rd line i = none ↔ line.length ≤ i := by
  simp [rd]

/-- lift of a suffix-model result whose first component is "what is left" -/
def liftIdx (line : Str) {α : Type} : Except PErr (Str × α) → IOut (Nat × α)
  | .ok (r, v) => .ok (line.length - r.length, v)
  | .error e => .err e

attribute [simp] liftE liftIdx

theorem liftE_ne_panic {α : Type} (x : Except PErr α) : liftE x ≠ .panic := by
  cases x <;> simp

theorem liftIdx_ne_panic (line : Str) {α : Type} (x : Except PErr (Str × α)) :
    liftIdx line x ≠ .panic := by
  rcases x with e | ⟨r, v⟩ <;> simp

theorem liftIdx_ok_iff (line : Str) {α : Type} (x : Except PErr (Str × α))
    (hs : ∀ r v, x = .ok (r, v) → r <:+ line) (idx : Nat) (v : α) :
    liftIdx line x = .ok (idx, v) ↔ idx ≤ line.length ∧ x = .ok (line.drop idx, v) := by
  rcases x with e | ⟨r, w⟩
  · simp
  · have hsuf := hs r w rfl
    simp only [liftIdx, IOut.ok.injEq, Prod.mk.injEq, Except.ok.injEq]
    constructor
    · rintro ⟨rfl, rfl⟩
      exact ⟨Nat.sub_le _ _, (drop_length_sub hsuf).symm, rfl⟩
    · rintro ⟨hle, rfl, rfl⟩
      exact ⟨length_sub_drop line hle, rfl⟩

theorem liftIdx_err_iff (line : Str) {α : Type} (x : Except PErr (Str × α)) (e : PErr) :
    liftIdx line x = .err e ↔ x = .error e := by
  rcases x with e' | ⟨r, w⟩ <;> simp

theorem liftE_ok_iff {α : Type} (x : Except PErr α) (a : α) : liftE x = .ok a ↔ x = .ok a := by
  cases x <;> simp

theorem liftE_err_iff {α : Type} (x : Except PErr α) (e : PErr) : liftE x = .err e ↔ x = .error e := by
  cases x <;> simp

/-- One induction for every `for _i in index..end_index` loop against its suffix-form twin.
    The locals are `mk a i` (`i` = the index, `a` = the rest); `spec a l` is what the suffix
    form answers on the remaining text `l`, already carried over to the locals.  If the two agree
    on the empty text and one iteration of the body does what one unfolding of the suffix form
    does, the loop started with `index + iterations = end_index` computes `spec`. -/
theorem iFor_refines {σ α : Type} (line : Str) (body : σ → IStep σ) (mk : α → Nat → σ)
    (spec : α → Str → IOut σ) (hnil : ∀ a, spec a [] = .ok (mk a line.length))
    (hcons : ∀ a i (h : i < line.length),
      match body (mk a i) with
      | .next s' => ∃ a', s' = mk a' (i + 1) ∧
          spec a (line[i] :: line.drop (i + 1)) = spec a' (line.drop (i + 1))
      | .brk s' => spec a (line[i] :: line.drop (i + 1)) = .ok s'
      | .err e => spec a (line[i] :: line.drop (i + 1)) = .err e
      | .panic => False) :
    ∀ (n i : Nat) (a : α), i + n = line.length → iFor body n (mk a i) = spec a (line.drop i) := by
  intro n
  induction n with
  | zero =>
    intro i a h
    rw [List.drop_of_length_le (by omega), hnil, iFor, show i = line.length by omega]
  | succ n ih =>
    intro i a h
    have hi : i < line.length := by omega
    have hc := hcons a i hi
    rw [List.drop_eq_getElem_cons hi, iFor]
    split at hc
    · next s' hb => obtain ⟨a', rfl, hs⟩ := hc; rw [hb, hs]; exact ih (i + 1) a' (by omega)
    · next s' hb => rw [hb, hc]
    · next e hb => rw [hb, hc]
    · exact hc.elim

/-! ### "what is left" is a suffix of the input (suffix model) -/

theorem parseNextValue_suffix {fl : PVFlags} {l r : Str} {v : Option Str}
    (h : parseNextValue fl l = .ok (r, v)) : r <:+ l := by
  obtain ⟨_, _, hl, _⟩ := parseNextValue_ok h
  exact pvLoop_suffix hl

theorem findLabel_suffix {l r : Str} {v : Option Str} (h : findLabel l = .ok (r, v)) : r <:+ l := by
  fun_induction findLabel l with
  | case1 => cases h; exact List.suffix_refl _
  | case2 | case4 => cases h
  | case3 _ _ hp | case5 _ _ _ hp =>
    cases h; exact (parseNextValue_suffix hp).trans (List.suffix_cons _ _)
  | case6 => cases h; exact List.suffix_refl _
  | case7 _ _ _ _ ih => exact (ih h).trans (List.suffix_cons _ _)

theorem skipToEquals_suffix {l r : Str} {b : Bool} (h : skipToEquals l = (b, r)) : r <:+ l := by
  fun_induction skipToEquals l with
  | case1 => cases h; exact List.suffix_refl _
  | case2 => cases h; exact List.suffix_cons _ _
  | case3 _ _ _ ih => exact (ih h).trans (List.suffix_cons _ _)

theorem findOutputAndCommand_suffix {l r : Str} {x : Option Str × Option Str}
    (h : findOutputAndCommand l = .ok (r, x)) : r <:+ l := by
  revert h
  fun_cases findOutputAndCommand l
  case case1 | case3 => intro h; cases h
  case case2 _ hp | case6 _ _ hp _ _ => intro h; cases h; exact parseNextValue_suffix hp
  case case4 _ _ hp _ hk _ _ =>
    intro h; cases h
    exact (skipToEquals_suffix hk).trans (parseNextValue_suffix hp)
  case case5 _ _ hp _ hk _ _ hq =>
    intro h; cases h
    exact (parseNextValue_suffix hq).trans ((skipToEquals_suffix hk).trans (parseNextValue_suffix hp))

theorem ppCommand_suffix {l acc cmd r : Str} (h : ppCommand acc l = (cmd, r)) : r <:+ l := by
  fun_induction ppCommand acc l with
  | case1 => cases h; exact List.suffix_refl _
  | case2 _ _ _ ih | case4 _ _ _ _ ih => exact (ih h).trans (List.suffix_cons _ _)
  | case3 => cases h; exact List.suffix_cons _ _

/-! ### `parse_next_value` -/

/-- the index state that corresponds to a suffix-model state -/
def IPV.ofSt (st : PVSt) (index : Nat) (fe : Bool) : IPV :=
  { argument := st.arg, index := index, inArgument := st.inArg, usingQuotes := st.usingQuotes,
    inControl := st.inControl, foundEnd := fe, foundVariablePrefix := st.foundVar }

def liftPVStep (len i : Nat) : PVStep → IStep IPV
  | .cont st' => .next (IPV.ofSt st' (i + 1) false)
  | .brk st' r fe => .brk (IPV.ofSt st' (len - r.length) fe)
  | .err e => .err e

/-- one iteration: the index body does what the suffix step does -/
theorem ipvBody_refines (fl : PVFlags) (line : Str) (st : PVSt) (i : Nat) (c : Char) (rest : Str)
    (hc : rd line i = some c) (hrest : rest.length + (i + 1) = line.length) :
    ipvBody fl line line.length (IPV.ofSt st i false) =
      liftPVStep line.length i (pvStep fl st c rest) := by
  have e1 : line.length - rest.length = i + 1 := by omega
  have e2 : line.length - (rest.length + 1) = i := by omega
  fun_cases pvStep fl st c rest
  all_goals simp [ipvBody, IPV.ofSt, liftPVStep, decr_succ, *]
  -- left: the index body asks whether the character that ended the token is `#`, the suffix step
  -- does not; being neither a blank nor `=`, it is
  rename_i h h2
  exact fun hne => absurd (tokenEnd_hash h.2 h2) hne

theorem ipv_loop_refines (fl : PVFlags) (line : Str) : ∀ (n i : Nat) (st : PVSt),
    i + n = line.length →
    iFor (ipvBody fl line line.length) n (IPV.ofSt st i false) =
      match pvLoop fl st (line.drop i) with
      | .error e => .err e
      | .ok (st', r, fe) => .ok (IPV.ofSt st' (line.length - r.length) fe) := by
  refine iFor_refines line _ (fun st i => IPV.ofSt st i false)
    (fun st l => match pvLoop fl st l with
      | .error e => .err e
      | .ok (st', r, fe) => .ok (IPV.ofSt st' (line.length - r.length) fe))
    (fun st => rfl) (fun st i hi => ?_)
  rw [ipvBody_refines fl line st i line[i] (line.drop (i + 1)) (rd_lt hi)
    (by rw [List.length_drop]; omega), pvLoop]
  cases pvStep fl st line[i] (line.drop (i + 1)) with
  | cont st2 => exact ⟨st2, rfl, rfl⟩
  | brk st2 r fe => rfl
  | err e => rfl

theorem ipvFinish_refines (line : Str) (st : PVSt) (r : Str) (fe : Bool) :
    ipvFinish (IPV.ofSt st (line.length - r.length) fe) = liftIdx line (pvFinish st r fe) := by
  unfold ipvFinish pvFinish
  simp only [apply_ite (liftIdx line)]
  rfl

/-- `parse_next_value` is the loop followed by the finish, also from a start index at or beyond
    the end (no iteration) -/
theorem iParseNextValue_eq (fl : PVFlags) (line : Str) (start : Nat) :
    iParseNextValue fl line start =
      match iFor (ipvBody fl line line.length) (line.length - start) { index := start } with
      | .panic => .panic
      | .err e => .err e
      | .ok s => ipvFinish s := by
  by_cases h : line.length ≤ start
  · rw [Nat.sub_eq_zero_of_le h]; exact if_pos h
  · exact if_neg h

theorem iParseNextValue_beyond (fl : PVFlags) (line : Str) (start : Nat) (h : line.length ≤ start) :
    iParseNextValue fl line start = .ok (start, none) := by
  simp [iParseNextValue, h]

theorem iParseNextValue_refines (fl : PVFlags) (line : Str) (start : Nat) (h : start ≤ line.length) :
    iParseNextValue fl line start = liftIdx line (parseNextValue fl (line.drop start)) := by
  rw [iParseNextValue_eq, parseNextValue_eq,
    show ({ index := start } : IPV) = IPV.ofSt {} start false from rfl,
    ipv_loop_refines fl line _ start {} (by omega)]
  cases pvLoop fl {} (line.drop start) with
  | error e => rfl
  | ok x => exact ipvFinish_refines line x.1 x.2.1 x.2.2

end Duck
