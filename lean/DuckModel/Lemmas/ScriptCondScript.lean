/-
  `not <script command> …` as a command of a body (the script is run from its own source by the
  nested evaluator), and `if` on a plain word, on `not is_array X` and on `not is_empty X`.
-/
import DuckModel.Lemmas.ScriptCondLemmas
import DuckModel.Lemmas.ScriptStringLemmas

namespace Duck.ScriptRun
open Duck Duck.Alias Duck.Coll Duck.Spec Duck.Generated Duck.Reser

/-- `not <script command> vals…` as a COMMAND of a body (one rebuild / re-parse round), when the
    script's run continues or raises an error; of any other result (third arm) nothing is said -/
theorem runNot_script (F d : Nat) (is : List Instruction) (cmd : Str) (vals : List Str) (sc : Generated.ScriptCmd)
    (hc : cmdOK cmd = true) (hs : ∀ v ∈ vals, Safe v = true) (hp : positionOK vals = true)
    (hfs : findScript cmd = some sc) (line : Nat) (vars : Vars) (s : ScriptSt) :
    runFlowF (nestedOf (bodySem (F + 2) (d + 1)) (F + 2)) is 2 .notC (cmd :: vals) line vars s =
      match runScriptCmdF d (F + 2) cmd vals vars s with
      | (.continue v, vars', s') => (.continue (some (boolStr (!isTrue v))), vars', s')
      | (.error _, vars', s') => (flowErr, vars', s')
      | r => runFlowF (nestedOf (bodySem (F + 2) (d + 1)) (F + 2)) is 2 .notC (cmd :: vals) line vars s := by
  have hcmd : isCommand cmd = true := by simp [isCommand, hfs]
  cases hrun : runScriptCmdF d (F + 2) cmd vals vars s with
  | mk r rest =>
    obtain ⟨vars', s'⟩ := rest
    have hsem := (bodySem_script (F + 2) d (is ++ [condI cmd vals]) cmd sc hfs vals none
      ((is ++ [condI cmd vals]).length - 1) vars s).trans (congrArg some hrun)
    cases r with
    | «continue» v => exact runNot_of_cond _ _ cmd vals line vars s (evalCond_cmd F is cmd vals hcmd hc hs hp hsem)
    | error m =>
      simp only [runFlowF, runFlow, List.isEmpty_cons, Bool.false_eq_true, if_false, evalCond, hcmd, if_true,
        evalParse_ok cmd vals hc hs hp]
      rw [nested_cmd_error F is cmd vals hs hsem]
    | _ => rfl

/-- … and as the condition of an `if` -/
theorem evalCond_not_script (F d : Nat) (is : List Instruction) (cmd : Str) (vals : List Str) (sc : Generated.ScriptCmd)
    (hc : cmdOK cmd = true) (hsc : Safe cmd = true) (hs : ∀ v ∈ vals, Safe v = true)
    (hp1 : positionOK (cmd :: vals) = true) (hp : positionOK vals = true)
    (hfs : findScript cmd = some sc)
    (vars : Vars) (s : ScriptSt) (v : Option Str) (vars' : Vars) (s' : ScriptSt)
    (hrun : runScriptCmdF d (F + 2) cmd vals vars s = (.continue v, vars', s')) :
    evalCond (nestedOf (bodySem (F + 2) (d + 2)) (F + 2)) is ("not".toList :: cmd :: vals) vars s =
      (.ok (!isTrue v), vars', s') := by
  have hnot := isCommand_of_resolve rs_not
  have hs' : ∀ x ∈ cmd :: vals, Safe x = true := by
    intro x hx
    rcases List.mem_cons.mp hx with rfl | hx
    · exact hsc
    · exact hs x hx
  simp only [evalCond, hnot, if_true, evalParse_ok "not".toList (cmd :: vals) (by decide +kernel) hs' hp1]
  have hnested : nestedOf (bodySem (F + 2) (d + 2)) (F + 2) (is ++ [condI "not".toList (cmd :: vals)])
      ((is ++ [condI "not".toList (cmd :: vals)]).length - 1) vars s =
      (none, some (boolStr (!isTrue v)), vars', s') := by
    unfold nestedOf
    have hget : (is ++ [condI "not".toList (cmd :: vals)])[(is ++ [condI "not".toList (cmd :: vals)]).length - 1]? =
        some (condI "not".toList (cmd :: vals)) := getElem_last _ _
    have hflow : runFlowF (nestedOf (bodySem (F + 2) (d + 1)) (F + 2)) (is ++ [condI "not".toList (cmd :: vals)]) 2 .notC
        (cmd :: vals) ((is ++ [condI "not".toList (cmd :: vals)]).length - 1) vars s =
        (.continue (some (boolStr (!isTrue v))), vars', s') := by
      rw [runNot_script F d _ cmd vals sc hc hs hp hfs _ vars s, hrun]
    rw [eval_flow (fuel := F + 1) hget rfl rs_not (bind_ok vars (cmd :: vals) hs'), hflow]
    simp only [evalAfter]
    rw [eval_end _ _ F _ _ _ _ _ (by simp)]
    rfl
  rw [hnested]
  simp [isTrue_boolStr]

/-- a condition that is one word which is no command name: the word's truth value -/
theorem evalCond_bool (nested : Nested) (is : List Instruction) (b : Bool) (vars : Vars) (s : ScriptSt) :
    evalCond nested is [boolStr b] vars s = (.ok b, vars, s) := by
  have h2 : evalSlice [boolStr b] = .ok b := by cases b <;> rfl
  simp only [evalCond, isCommand_boolStr b, h2]
  rfl

/-- `if <word>` (no else branches) -/
theorem runIf_bool (nested : Nested) (is : List Instruction) (b : Bool) (line stop : Nat) (vars : Vars) (s : ScriptSt)
    (hfind : findCommands ifTables is (line + 1) = .ok ⟨[], stop⟩)
    (hc : IfCacheOK s.ifMeta (flowKey s line) stop) :
    runFlowF nested is 2 .ifC [boolStr b] line vars s =
      if b then (.continue none, vars, { ifSt s line stop with ifStack := ifEntry line stop s.ctx :: s.ifStack })
      else (.goTo none (.line (stop + 1)), vars, ifSt s line stop) := by
  rw [runIf_simple nested is 1 (boolStr b) [] line stop vars s hfind hc b vars (ifSt s line stop)
    (evalCond_bool nested is b vars (ifSt s line stop))]
  rfl

/-- `if not is_array X` on any line of any body (no else branches) -/
theorem runIf_not_is_array (F d : Nat) (is : List Instruction) (line stop : Nat) (s : ScriptSt) (vars : Vars) (X : Str)
    (hX : ArgOK X = true)
    (hfind : findCommands ifTables is (line + 1) = .ok ⟨[], stop⟩)
    (hcI : IfCacheOK s.ifMeta (flowKey s line) stop) :
    runFlowF (nestedOf (bodySem (F + 2) (d + 1)) (F + 2)) is 2 .ifC ["not".toList, "is_array".toList, X] line vars s =
      if !(match tget s.coll.tbl X with | some (.list _) => true | _ => false) then
        (.continue none, vars, { ifSt s line stop with ifStack := ifEntry line stop s.ctx :: s.ifStack })
      else (.goTo none (.line (stop + 1)), vars, ifSt s line stop) := by
  obtain ⟨h1, h2, h3⟩ := argOK_parts hX
  have hcond := evalCond_not_native F d is "is_array".toList [X] (.coll .isArray) (by decide +kernel) (by decide +kernel)
    (by intro v hv; simp at hv; subst hv; exact h1)
    (by simp [positionOK, h3]; decide) (by simp [positionOK, h2, h3])
    rs_is_array vars (ifSt s line stop) _ vars (ifSt s line stop) (run_isArray X vars (ifSt s line stop))
  rw [isTrue_boolStr] at hcond
  rw [runIf_simple _ is 1 "not".toList ["is_array".toList, X] line stop vars s hfind hcI _ vars (ifSt s line stop) hcond]
  rfl

/-- `if not is_empty X` (no else branches) -/
theorem runIf_not_is_empty (F d : Nat) (is : List Instruction) (line stop : Nat) (s : ScriptSt) (vars : Vars) (X : Str)
    (hX : ArgOK X = true)
    (hfind : findCommands ifTables is (line + 1) = .ok ⟨[], stop⟩)
    (hcI : IfCacheOK s.ifMeta (flowKey s line) stop) :
    runFlowF (nestedOf (bodySem (F + 2) (d + 1)) (F + 2)) is 2 .ifC ["not".toList, "is_empty".toList, X] line vars s =
      if X = [] then (.goTo none (.line (stop + 1)), vars, ifSt s line stop)
      else (.continue none, vars, { ifSt s line stop with ifStack := ifEntry line stop s.ctx :: s.ifStack }) := by
  obtain ⟨h1, h2, h3⟩ := argOK_parts hX
  have hcond := evalCond_not_native F d is "is_empty".toList [X] .isEmpty (by decide +kernel) (by decide +kernel)
    (by intro v hv; simp at hv; subst hv; exact h1)
    (by simp [positionOK, h3]; decide) (by simp [positionOK, h2, h3])
    rs_is_empty vars (ifSt s line stop) (some (boolStr (decide (X = [])))) vars (ifSt s line stop)
    (by simp only [runNative, runIsEmpty_one])
  rw [isTrue_boolStr] at hcond
  rw [runIf_simple _ is 1 "not".toList ["is_empty".toList, X] line stop vars s hfind hcI _ vars (ifSt s line stop) hcond]
  by_cases hx : X = []
  · simp [hx]
  · simp only [hx, decide_false, Bool.not_false, if_true, if_false]
    rfl

end Duck.ScriptRun
