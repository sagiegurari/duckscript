/-
  Characters and their code points: facts shared by the case tables, the properties format and the
  command line.
-/
import DuckModel.Chars

namespace Duck

theorem ne_of_toNat_ne {c k : Char} (h : c.toNat ≠ k.toNat) : c ≠ k := fun e => h (e ▸ rfl)

theorem toNat_ofNat {n : Nat} (h : n.isValidChar) : (Char.ofNat n).toNat = n := by
  simp [Char.ofNat, h, Char.ofNatAux, Char.toNat]

theorem asciiLowerChar_fixed_iff (c : Char) :
    asciiLowerChar c = c ↔ ¬ (65 ≤ c.toNat ∧ c.toNat ≤ 90) := by
  show (if 65 ≤ c.toNat ∧ c.toNat ≤ 90 then Char.ofNat (c.toNat + 32) else c) = c ↔ _
  by_cases h : 65 ≤ c.toNat ∧ c.toNat ≤ 90
  · simp only [h, and_self, if_true, not_true, iff_false]
    intro he
    have h1 := toNat_ofNat (n := c.toNat + 32) (Or.inl (by omega))
    rw [he] at h1
    omega
  · simp [h]

end Duck
