/-
  Helper lemmas for Props/C06Consumers.lean: the four condition-consuming cases of `runCmd`
  (`if`, `elseif`, `while`, `not`) written out as equations, and the facts that the block-meta
  lookups do not change which names are commands.
-/
import DuckModel.Sdk.Flow

namespace Duck
open Duck.Generated

/-! ### the four consumer cases of `runCmd`, as equations (definitional unfolding) -/

theorem runCmd_notC (nested : EvalFn)
    (endRec : Cmd → List Str → Option Str → Nat → Vars → Sdk → CmdResult × Vars × Sdk)
    (is : List Instruction) (args : List Str) (out : Option Str) (line : Nat) (vars : Vars) (s : Sdk) :
    runCmd nested endRec is .notC args out line vars s =
      if args.isEmpty then (errR, vars, s)
      else
        match evalCondition nested is args vars s with
        | (.error _, vars, s) => (errR, vars, s)
        | (.ok passed, vars, s) =>
          (.continue (some (if passed then "false".toList else "true".toList)), vars, s) := rfl

theorem runCmd_whileC (nested : EvalFn)
    (endRec : Cmd → List Str → Option Str → Nat → Vars → Sdk → CmdResult × Vars × Sdk)
    (is : List Instruction) (args : List Str) (out : Option Str) (line : Nat) (vars : Vars) (s : Sdk) :
    runCmd nested endRec is .whileC args out line vars s =
      if args.isEmpty then (errR, vars, s)
      else
        match whileMetaFor is s line with
        | .error r => (r, vars, s)
        | .ok (stop, s) =>
          match evalCondition nested is args vars s with
          | (.error _, vars, s) => (errR, vars, s)
          | (.ok passed, vars, s) =>
            if passed then
              (.continue none, vars,
                { s with whileStack := { start := line, stop := stop, ctx := s.lineCtx } :: s.whileStack })
            else (.goTo none (.line (stop + 1)), vars, s) := rfl

theorem runCmd_ifC (nested : EvalFn)
    (endRec : Cmd → List Str → Option Str → Nat → Vars → Sdk → CmdResult × Vars × Sdk)
    (is : List Instruction) (args : List Str) (out : Option Str) (line : Nat) (vars : Vars) (s : Sdk) :
    runCmd nested endRec is .ifC args out line vars s =
      if args.isEmpty then (errR, vars, s)
      else
        match ifMetaFor is s line with
        | .error r => (r, vars, s)
        | .ok ((stop, elses), s) =>
          match evalCondition nested is args vars s with
          | (.error _, vars, s) => (errR, vars, s)
          | (.ok passed, vars, s) =>
            if passed then
              let next := match elses with | [] => stop | e :: _ => e
              (.continue none, vars, { s with ifStack := { current := next, passed := true, elseIdx := 0, start := line, stop := stop, elses := elses, ctx := s.lineCtx } :: s.ifStack })
            else
              match elses with
              | [] => (.goTo none (.line (stop + 1)), vars, s)
              | e :: _ =>
                (.goTo none (.line e), vars, { s with ifStack := { current := e, passed := false, elseIdx := 0, start := line, stop := stop, elses := elses, ctx := s.lineCtx } :: s.ifStack }) := rfl

theorem runCmd_elseIf (nested : EvalFn)
    (endRec : Cmd → List Str → Option Str → Nat → Vars → Sdk → CmdResult × Vars × Sdk)
    (is : List Instruction) (args : List Str) (out : Option Str) (line : Nat) (vars : Vars) (s : Sdk) :
    runCmd nested endRec is .elseIf args out line vars s =
      if args.isEmpty then (errR, vars, s)
      else
        match popIf line s.lineCtx s.ifStack with
        | none => (errR, vars, { s with ifStack := [] })
        | some (ci, rest) =>
          let s := { s with ifStack := rest }
          if ci.passed then (.goTo none (.line (ci.stop + 1)), vars, s)
          else
            match evalCondition nested is args vars s with
            | (.error _, vars, s) => (errR, vars, s)
            | (.ok passed, vars, s) =>
              if passed then
                let next := if ci.elseIdx + 1 < ci.elses.length then ci.elses[ci.elseIdx + 1]?.getD 0 else ci.elses[0]?.getD 0
                (.continue none, vars, { s with ifStack := { ci with current := next, passed := true, ctx := s.lineCtx } :: s.ifStack })
              else if ci.elseIdx + 1 < ci.elses.length then
                let next := ci.elses[ci.elseIdx + 1]?.getD 0
                (.goTo none (.line next), vars, { s with ifStack := { ci with current := next, passed := false, elseIdx := ci.elseIdx + 1, ctx := s.lineCtx } :: s.ifStack })
              else (.goTo none (.line (ci.stop + 1)), vars, s) := rfl

theorem isEmpty_false_of_ne_nil {α : Type} {l : List α} (h : l ≠ []) : l.isEmpty = false := by
  cases l with
  | nil => exact absurd rfl h
  | cons _ _ => rfl

/-! ### which names are commands depends on the function table only -/

theorem resolveCmd_congr {s s' : Sdk} (h : s'.fns = s.fns) (name : Str) :
    resolveCmd s' name = resolveCmd s name := by
  unfold resolveCmd
  rw [h]

theorem whileMetaFor_fns {is : List Instruction} {s s1 : Sdk} {line stop : Nat}
    (h : whileMetaFor is s line = .ok (stop, s1)) : s1.fns = s.fns := by
  unfold whileMetaFor at h
  cases hg : s.whileMeta.get (lineKey s line) with
  | some m =>
    simp only [hg] at h
    cases h; rfl
  | none =>
    simp only [hg] at h
    cases hf : findCommands whileTables is (line + 1) with
    | ok p => simp only [hf] at h; cases h; rfl
    | error e => simp only [hf] at h; cases h

theorem ifMetaFor_fns {is : List Instruction} {s s1 : Sdk} {line : Nat} {m : Nat × List Nat}
    (h : ifMetaFor is s line = .ok (m, s1)) : s1.fns = s.fns := by
  unfold ifMetaFor at h
  cases hg : s.ifMeta.get (lineKey s line) with
  | some m' =>
    simp only [hg] at h
    cases h; rfl
  | none =>
    simp only [hg] at h
    cases hf : findCommands ifTables is (line + 1) with
    | ok p => simp only [hf] at h; cases h; rfl
    | error e => simp only [hf] at h; cases h

end Duck
