/-
  Simulation with functions — blocks and if chains, with both outcomes (normal / a
  `return` is propagating).
-/
import DuckModel.Lemmas.SimFnCall

namespace Duck
open Duck.Spec Duck.Generated Duck.Fn

/-- a block: its first statement, then the rest from the state the statement left (a propagating
    `return` ends the block) -/
theorem block_stepF (c : Ctx) (hc : CtxOK c) (fuel : Nat) (hS : StmtSimF c fuel) (hB : BlockSimF c fuel) :
    BlockSimF c (fuel + 1) := by
  intro b inFor lo s t o hwf hs hat hpre hsafe hex
  cases b with
  | nil =>
    simp only [execBlock] at hex
    subst hex
    simp only [Block.flatten, List.length_nil, Nat.add_zero]
    exact ⟨s, SimAt.refl hpre.cache hpre.rel⟩
  | cons st rest =>
    simp only [Block.wf, Block.fnFrag, Bool.and_eq_true] at hwf hs
    simp only [Block.flatten, List.length_append, ← Nat.add_assoc] at hat hpre ⊢
    simp only [execBlock] at hex
    simp only [fsafeBlock, Bool.and_eq_true] at hsafe
    have hA1 : ∀ x, Block.assignsF c.F.fa x (.cons st rest) = false → Stmt.assignsF c.F.fa x st = false :=
      fun _ h => (Bool.or_eq_false_iff.mp h).1
    have hA2 : ∀ x, Block.assignsF c.F.fa x (.cons st rest) = false → Block.assignsF c.F.fa x rest = false :=
      fun _ h => (Bool.or_eq_false_iff.mp h).2
    have S1 := hS st inFor lo s t _ hwf.1 hs.1 hat.left (hpre.sub (Nat.le_refl _) (by omega)) hsafe.1 rfl
    cases h1 : execStmt c.is fuel st t with
    | normal t1 =>
      rw [h1] at hex S1
      have hsafe2 := hsafe.2
      rw [h1] at hsafe2
      simp only at hex hsafe2
      obtain ⟨s1, hat1⟩ := S1
      have hpre1 : Pre c (lo + st.flatten.length) (lo + st.flatten.length + rest.flatten.length) s1 t1 :=
        hpre.after hc (hat1.core.sub (Nat.le_refl _) (Nat.le_add_right _ _) (fun _ h => h)) hat1.forS
          (by omega) (Nat.le_refl _)
      have S2 := hB rest inFor _ s1 t1 o hwf.2 hs.2 hat.right hpre1 hsafe2 hex
      exact OutAt.map S2 (by omega)
        fun _ _ _ hat2 => SimAt.seq hat1 hat2 (by omega) (by omega) (hA1 ·) (hA2 ·)
    | returning v t1 =>
      rw [h1] at hex S1
      simp only at hex
      subst hex
      obtain ⟨hif, s1, r, hat1, hr1, hr2, hret⟩ := S1
      exact ⟨hif, s1, r, hat1.sub (Nat.le_refl _) (by omega) (hA1 ·) hat1.steps, hr1, by omega, hret⟩
    | failed => rw [h1] at hex; simp only at hex; subst hex; trivial
    | outOfFuel => rw [h1] at hex; simp only at hex; subst hex; trivial

/-! ### if chains -/

/-- the else-lines phase of an if chain that starts on line `lo` and ends on line `stop`: the machine
    stands on the else-line `pos` (number `j` of the chain's else-lines `elses`) with the chain's
    own entry `own` — not passed yet — on top of the if stack, the end command registered for
    `stop`; it runs the rest of the chain like `execElifs` -/
def ElifsSimF (c : Ctx) (fuel : Nat) : Prop :=
  ∀ (es : Elifs) (kwElse : Option Str) (elseBody : Block) (kwEnd : Str) (inFor : Bool)
    (lo pos stop : Nat) (elses : List Nat) (j : Nat) (own : IfCall) (K : List IfCall) (s : Sdk)
    (t : TState) (o : TOut),
    es.wf = true → es.fnFrag c.F.names c.callable c.F.fa c.rets inFor = true →
    (match kwElse with | some k => isElseKw k && elseBody.wf | none => true) = true →
    elseBody.fnFrag c.F.names c.callable c.F.fa c.rets inFor = true → isEndIfKw kwEnd = true →
    At c.is pos (tailFlat es kwElse elseBody kwEnd) →
    stop = pos + es.flatten.length + (elseFlat kwElse elseBody).length →
    lo < pos →
    elses.drop j = elseOffsets.go pos es kwElse → elses.drop j ≠ [] →
    (∀ e ∈ elses, lo < e ∧ e < stop) →
    s.ifStack = own :: K → own.current = pos → own.passed = false → own.elseIdx = j →
    own.elses = elses → own.stop = stop → own.ctx = s.lineCtx →
    s.endTable.get (lineKey s stop) = some fullNameEndIf →
    Pre c pos (stop + 1) s t →
    fsafeElifs c.is fuel es kwElse elseBody t = true →
    execElifs c.is fuel es kwElse elseBody t = o →
    OutAt c.is (SimAtK c.is c.E c.F c.B lo pos (stop + 1)
      (fun x => Elifs.assignsF c.F.fa x es || Block.assignsF c.F.fa x elseBody) K s t) pos (stop + 1) inFor o

/-- a branch of the chain ran to its end with the chain's entry (passed) still on the stack below
    the branch's garbage: the next line is either an else-line, which leaves the chain, or the end -/
theorem branch_doneF (is : List Instruction) (names callable : List Str) (fa : Str → Str → Bool)
    (rets inFor : Bool) (es : Elifs) (kwElse : Option Str) (elseBody : Block)
    (kwEnd : Str) (B lo pos stop : Nat) (v : Vars) (s2 : Sdk) (G : List IfCall) (own : IfCall)
    (K : List IfCall)
    (hwf : es.wf = true) (hs : es.fnFrag names callable fa rets inFor = true)
    (hke : (match kwElse with | some k => isElseKw k && elseBody.wf | none => true) = true)
    (hkend : isEndIfKw kwEnd = true)
    (hat : At is pos (tailFlat es kwElse elseBody kwEnd))
    (hstop : stop = pos + es.flatten.length + (elseFlat kwElse elseBody).length)
    (hst : s2.ifStack = G ++ own :: K) (hB : B ≤ pos)
    (hG : ∀ e ∈ G, InR B lo pos e.current)
    (hp : own.passed = true) (hos : own.stop = stop) (hctx : own.ctx = s2.lineCtx)
    (hcur : elseOffsets.go pos es kwElse ≠ [] → own.current = pos)
    (hrange : lo ≤ own.current ∧ own.current < stop + 1)
    (hend : s2.endTable.get (lineKey s2 stop) = some fullNameEndIf) :
    ∃ s3, Steps is pos v s2 (stop + 1) v s3 ∧ coreOf s3 = coreOf s2 ∧
      GarbF IfCall.current B lo (stop + 1) K s3.ifStack ∧ s3.whileStack = s2.whileStack ∧
      s3.forStack = s2.forStack ∧ s3.fnStack = s2.fnStack ∧ s3.scopeStack = s2.scopeStack := by
  have hGne : ∀ e ∈ G, e.current ≠ pos := fun e he => (hG e he).ne_hi hB
  cases es with
  | nil =>
    cases kwElse with
    | none =>
      rw [tailFlat_nil_none] at hat
      have hps : stop = pos := by simp [hstop, elseFlat, Elifs.flatten]
      subst hps
      refine ⟨s2, step_endIf is stop v s2 _ kwEnd (At.head hat) hkend hend, rfl, ?_, rfl, rfl, rfl, rfl⟩
      refine ⟨G ++ [own], by simp [hst], fun e he => ?_⟩
      rcases List.mem_append.mp he with h | h
      · exact (hG e h).sub (Nat.le_refl _) (Nat.le_succ _)
      · simp at h; subst h; unfold InR; omega
    | some k =>
      rw [tailFlat_nil_some] at hat
      simp only [Bool.and_eq_true] at hke
      have hc := hcur (by simp [go_nil_some])
      have := step_else_passed is pos v s2 _ k G own K (At.head hat) hke.1 hst hc hctx hGne hp
      rw [hos] at this
      exact ⟨_, this, rfl, GarbF.refl _ _ _ _ _, rfl, rfl, rfl, rfl⟩
  | cons kw cond b rest =>
    rw [tailFlat_cons] at hat
    simp only [Elifs.wf, Elifs.fnFrag, Bool.and_eq_true] at hwf hs
    have hc := hcur (by simp [go_cons])
    have := step_elif_passed is pos v s2 _ kw cond G own K (At.head hat) hwf.1.1
      (condSimple2_bind_ne v hs.1.1.1) hst hc hctx hGne hp
    rw [hos] at this
    exact ⟨_, this, rfl, GarbF.refl _ _ _ _ _, rfl, rfl, rfl, rfl⟩

/-- the condition line of a branch (`h1`: it leaves the chain's entry `own`, passed, on the if stack),
    then the branch ran to its end (`h2`): on to the line after the chain -/
theorem SimAtK.afterBranch {is : List Instruction} {E : Nat → Prop} {F : FEnv} {B lo p b0 pos stop : Nat}
    {A A1 : Str → Bool} {own : IfCall} {K : List IfCall} {s s1 s2 : Sdk} {t ta t' : TState}
    {names callable : List Str} {fa : Str → Str → Bool} {rets inFor : Bool} {es : Elifs}
    {kwElse : Option Str} {elseBody : Block} {kwEnd : Str}
    (h1 : SimAtK is E F B lo p (stop + 1) A K s t ta s1 b0)
    (h2 : SimAt is E F B b0 pos A1 s1 ta t' s2 pos) (hst : s1.ifStack = own :: K)
    (hend : s1.endTable.get (lineKey s1 stop) = some fullNameEndIf) (hctx : own.ctx = s1.lineCtx)
    (hlo : lo ≤ p) (hp : p ≤ b0) (hb : b0 ≤ pos) (hA : ∀ x, A x = false → A1 x = false)
    (hwf : es.wf = true) (hs : es.fnFrag names callable fa rets inFor = true)
    (hke : (match kwElse with | some k => isElseKw k && elseBody.wf | none => true) = true)
    (hkend : isEndIfKw kwEnd = true) (hat : At is pos (tailFlat es kwElse elseBody kwEnd))
    (hstop : stop = pos + es.flatten.length + (elseFlat kwElse elseBody).length)
    (hB : B ≤ pos) (hpass : own.passed = true) (hos : own.stop = stop)
    (hcur : elseOffsets.go pos es kwElse ≠ [] → own.current = pos)
    (hrange : lo ≤ own.current ∧ own.current < stop + 1) :
    ∃ s3, SimAtK is E F B lo p (stop + 1) A K s t t' s3 (stop + 1) := by
  have h12 := h1.trans h2 hp (by omega) hlo hA
  obtain ⟨G, hG1, hG2⟩ := h2.ifS
  have hend2 : s2.endTable.get (lineKey s2 stop) = some fullNameEndIf := by
    rw [h2.core.frame.keep stop (by omega) (by omega)]
    exact hend
  obtain ⟨s3, hst3, hcore3, hif3, hwh3, hfor3, hfn3, hsc3⟩ :=
    branch_doneF is names callable fa rets inFor es kwElse elseBody kwEnd B lo pos stop t'.vars s2 G own K
      hwf hs hke hkend hat hstop (by rw [hG1, hst]) hB
      (fun e he => (hG2 e he).sub (by omega) (Nat.le_refl _)) hpass hos
      (hctx.trans h2.core.frame.ctx.symm) hcur hrange hend2
  exact ⟨s3, h12.steps.trans hst3, h12.core.core_right hcore3, hif3, hwh3 ▸ h12.whS,
    hfor3.trans h12.forS, hfn3.trans h12.fnS, hsc3.trans h12.scS⟩

theorem elifs_stepF (c : Ctx) (hc : CtxOK c) (fuel : Nat) (hB : BlockSimF c fuel) (hE : ElifsSimF c fuel) :
    ElifsSimF c (fuel + 1) := by
  intro es kwElse elseBody kwEnd inFor lo pos stop elses j own K s t o hwf hs hke hes hkend hat hstop hlo
    hdrop hne hrng hst hcur hp hidx hels hos hctx hend hpre hsafe hex
  have hBpos : c.B ≤ pos := hpre.bound
  cases es with
  | nil =>
    cases kwElse with
    | none => rw [go_nil_none] at hdrop; exact absurd hdrop hne
    | some k =>
      rw [tailFlat_nil_some] at hat
      simp only [Bool.and_eq_true] at hke
      simp only [execElifs, Option.isSome_some, if_true] at hex
      simp only [fsafeElifs, Option.isSome_some, if_true] at hsafe
      have hstopEq : pos + 1 + elseBody.flatten.length = stop := by
        simp [hstop, elseFlat, Elifs.flatten]; omega
      have hstep := step_else_run c.is pos t.vars s _ k [] own K (At.head hat) hke.1
        (by simpa using hst) hcur hctx (by simp) hp
      have hat' := At.tail hat
      have hpre1 : Pre c (pos + 1) (pos + 1 + elseBody.flatten.length) { s with ifStack := K } t :=
        (hpre.core (s' := { s with ifStack := K }) rfl rfl).sub (by omega) (by omega)
      have S := hB elseBody inFor (pos + 1) { s with ifStack := K } t o hke.2 hes hat'.left hpre1 hsafe hex
      have hA : ∀ x, (Elifs.assignsF c.F.fa x .nil || Block.assignsF c.F.fa x elseBody) = false →
          Block.assignsF c.F.fa x elseBody = false := fun _ h => h
      have hcore0 : SimCoreF c.is c.E c.F c.B pos (stop + 1)
          (fun x => Elifs.assignsF c.F.fa x .nil || Block.assignsF c.F.fa x elseBody) s t t
          { s with ifStack := K } := (SimCoreF.refl hpre.cache hpre.rel).core_right rfl
      have hP : ∀ t' s2 l, SimAt c.is c.E c.F c.B (pos + 1) (pos + 1 + elseBody.flatten.length) _
          { s with ifStack := K } t t' s2 l → SimAtK c.is c.E c.F c.B lo pos (stop + 1) _ K s t t' s2 l :=
        fun _ _ _ hat2 => SimAtK.prefix hstep hcore0 (GarbF.refl _ _ _ _ _) (GarbF.refl _ _ _ _ _)
          rfl rfl rfl hat2 (by omega) (by omega) (by omega) hA
      refine OutAt.imp S (by omega) (by omega) (fun t' s2 hat2 => ?_) hP
      have hend2 : s2.endTable.get (lineKey s2 stop) = some fullNameEndIf := by
        rw [hat2.core.frame.keep stop (by omega) (by omega)]
        exact hend
      have hiend := At.head hat'.right
      have hK := hP _ _ _ hat2
      rw [hstopEq] at hK hiend
      exact ⟨s2, hK.extend (step_endIf c.is stop t'.vars s2 _ kwEnd hiend hkend hend2)⟩
  | cons kw cond b rest =>
    rw [tailFlat_cons] at hat
    simp only [Elifs.wf, Elifs.fnFrag, Bool.and_eq_true] at hwf hs
    obtain ⟨⟨⟨hcs, hcnf⟩, hbs⟩, hrs⟩ := hs
    rw [go_cons] at hdrop
    obtain ⟨hjlt, hj, hdrop'⟩ := drop_cons_facts elses j pos _ hdrop
    have hstopEq : stop = pos + 1 + b.flatten.length + rest.flatten.length +
        (elseFlat kwElse elseBody).length := by
      simp [hstop, Elifs.flatten]; omega
    have hi := At.head hat
    have hat' := At.tail hat
    have hA1 : ∀ x, (Elifs.assignsF c.F.fa x (.cons kw cond b rest) || Block.assignsF c.F.fa x elseBody) = false →
        Block.assignsF c.F.fa x b = false := fun _ h => or3_left h
    have hA2 : ∀ x, (Elifs.assignsF c.F.fa x (.cons kw cond b rest) || Block.assignsF c.F.fa x elseBody) = false →
        (Elifs.assignsF c.F.fa x rest || Block.assignsF c.F.fa x elseBody) = false := fun _ h => or3_right h
    cases fuel with
    | zero =>
      simp only [execElifs, evalCond] at hex
      subst hex
      trivial
    | succ f =>
      simp only [execElifs] at hex
      simp only [fsafeElifs, Bool.and_eq_true] at hsafe
      obtain ⟨hcsafe, hsafe'⟩ := hsafe
      cases hec : evalCond c.is (f + 1) cond t with
      | none => rw [hec] at hex; simp only at hex; subst hex; trivial
      | some pr =>
        obtain ⟨bv, t1⟩ := pr
        rw [hec] at hex hsafe'
        obtain ⟨em, rfl, hv⟩ := cond_simF c.is c.E c.F hc.env f cond t t1 bv hcs hcnf hcsafe hpre.rel hec
        cases bv with
        | true =>
          simp only at hex hsafe'
          -- the branch is taken
          have hstep := step_elif_true c.is pos t.vars s _ kw cond [] own K em hi hwf.1.1
            (by simpa using hst) hcur hctx (by simp) hp hv
          have hnext : lo ≤ elifNext own ∧ elifNext own < stop + 1 := by
            have := hrng _ (hels ▸ elifNext_mem own (by rw [hels]; omega))
            omega
          have h1 : SimAtK c.is c.E c.F c.B lo pos (stop + 1)
              (fun x => Elifs.assignsF c.F.fa x (.cons kw cond b rest) || Block.assignsF c.F.fa x elseBody) K s t
              (withEm t em) _ (pos + 1) :=
            ⟨hstep, SimCoreF.condStep (hpre.cache.of_eq rfl rfl rfl rfl) hpre.rel rfl rfl rfl rfl rfl
                (fun _ _ => rfl),
              GarbF.push K _ (.inr hnext), GarbF.refl _ _ _ _ _, rfl, rfl, rfl⟩
          have S := hB b inFor (pos + 1) _ (withEm t em) o hwf.1.2 hbs hat'.left
            (hpre.after hc h1.core rfl (by omega) (by omega)) hsafe' hex
          refine OutAt.imp S (by omega) (by omega) (fun t' s2 hat2 => ?_)
            fun _ _ _ hat2 => h1.trans hat2 (by omega) (by omega) (by omega) hA1
          refine h1.afterBranch hat2 rfl hend rfl (by omega) (by omega) (by omega) hA1 hwf.2 hrs hke hkend
            hat'.right (by omega) (by omega) rfl hos (fun hgo => ?_) (by simpa using hnext)
          cases hg : elseOffsets.go (pos + 1 + b.flatten.length) rest kwElse with
          | nil => exact absurd hg hgo
          | cons a tl =>
            rw [hg, ← hels, ← hidx] at hdrop'
            exact (elifNext_of_drop hdrop').trans (go_head _ _ _ _ _ hg)
        | false =>
          simp only at hex hsafe'
          cases hg : elseOffsets.go (pos + 1 + b.flatten.length) rest kwElse with
          | nil =>
            -- no further else-line: leave the chain
            rw [hg] at hdrop'
            have hlast := drop_nil_facts elses (j + 1) hdrop'
            obtain ⟨rfl, rfl⟩ := go_nil_inv _ _ _ hg
            have hex' : o = .normal (withEm t em) := by
              rw [← hex]; simp
            subst hex'
            have hstep := step_elif_false_last c.is pos t.vars s _ kw cond [] own K em hi hwf.1.1
              (by simpa using hst) hcur hctx (by simp) hp hv
              (by rw [hels, hidx]; exact hlast)
            rw [hos] at hstep
            exact ⟨_, hstep,
              SimCoreF.condStep (hpre.cache.of_eq rfl rfl rfl rfl) hpre.rel rfl rfl rfl rfl rfl
                (fun _ _ => rfl),
              GarbF.refl _ _ _ _ _, GarbF.refl _ _ _ _ _, rfl, rfl, rfl⟩
          | cons a tl =>
            rw [hg] at hdrop'
            obtain ⟨h1, h2, _⟩ := drop_cons_facts elses (j + 1) a tl hdrop'
            have ha := go_head _ _ _ _ _ hg
            have hstep := step_elif_false_more c.is pos t.vars s _ kw cond [] own K em hi hwf.1.1
              (by simpa using hst) hcur hctx (by simp) hp hv
              (by rw [hels, hidx]; exact h1)
            have hnx : own.elses[own.elseIdx + 1]?.getD 0 = pos + 1 + b.flatten.length := by
              rw [hels, hidx, h2, ha]; rfl
            rw [hnx] at hstep
            have h1 : SimAtK c.is c.E c.F c.B lo pos (stop + 1)
                (fun x => Elifs.assignsF c.F.fa x (.cons kw cond b rest) || Block.assignsF c.F.fa x elseBody) K s t
                (withEm t em) _ (pos + 1 + b.flatten.length) :=
              ⟨hstep, SimCoreF.condStep (hpre.cache.of_eq rfl rfl rfl rfl) hpre.rel rfl rfl rfl rfl rfl
                  (fun _ _ => rfl),
                GarbF.push K _ (.inr ⟨by show lo ≤ pos + 1 + b.flatten.length; omega,
                  by show pos + 1 + b.flatten.length < stop + 1; omega⟩),
                GarbF.refl _ _ _ _ _, rfl, rfl, rfl⟩
            have S := hE rest kwElse elseBody kwEnd inFor lo (pos + 1 + b.flatten.length) stop elses (j + 1)
                { own with current := pos + 1 + b.flatten.length, passed := false,
                           elseIdx := own.elseIdx + 1, ctx := s.lineCtx }
                K
                { s with emitted := em,
                         ifStack := { own with current := pos + 1 + b.flatten.length, passed := false,
                                               elseIdx := own.elseIdx + 1, ctx := s.lineCtx } :: K }
                (withEm t em) o hwf.2 hrs hke hes hkend hat'.right (by omega) (by omega)
                (by rw [hdrop', hg]) (by rw [hdrop']; simp) hrng rfl rfl rfl
                (by simp only; rw [hidx]) hels hos rfl hend
                (hpre.after hc h1.core rfl (by omega) (by omega)) hsafe' hex
            exact OutAt.map S (by omega)
              fun _ _ _ hK => SimAtK.prefixK h1.steps h1.core h1.whS rfl rfl rfl hK (by omega) hA2

section
variable (names callable : List Str) (fa : Str → Str → Bool)

mutual
  theorem Stmt.noFn_of_fnFrag : ∀ (s : Stmt) (rets inFor : Bool),
      s.fnFrag names callable fa rets inFor = true → s.noFn = true
    | .line _, _, _, _ => rfl
    | .ifChain _ _ body elifs _ elseBody _, _, _, h => by
      simp only [Stmt.fnFrag, Bool.and_eq_true] at h
      simp only [Stmt.noFn, Bool.and_eq_true]
      exact ⟨⟨Block.noFn_of_fnFrag body _ _ h.1.1.2, Elifs.noFn_of_fnFrag elifs _ _ h.1.2⟩,
        Block.noFn_of_fnFrag elseBody _ _ h.2⟩
    | .whileLoop _ _ body _, _, _, h => by
      simp only [Stmt.fnFrag, Bool.and_eq_true] at h
      exact Block.noFn_of_fnFrag body _ _ h.2
    | .forIn _ _ _ body _, _, _, h => by
      simp only [Stmt.fnFrag, Bool.and_eq_true] at h
      exact Block.noFn_of_fnFrag body _ _ h.1.2
    | .fnDef _ _ _ _ _, _, _, h => by cases h
    | .ret _ _, _, _, _ => rfl
  theorem Block.noFn_of_fnFrag : ∀ (b : Block) (rets inFor : Bool),
      b.fnFrag names callable fa rets inFor = true → b.noFn = true
    | .nil, _, _, _ => rfl
    | .cons s rest, _, _, h => by
      simp only [Block.fnFrag, Bool.and_eq_true] at h
      simp only [Block.noFn, Bool.and_eq_true]
      exact ⟨Stmt.noFn_of_fnFrag s _ _ h.1, Block.noFn_of_fnFrag rest _ _ h.2⟩
  theorem Elifs.noFn_of_fnFrag : ∀ (e : Elifs) (rets inFor : Bool),
      e.fnFrag names callable fa rets inFor = true → e.noFn = true
    | .nil, _, _, _ => rfl
    | .cons _ _ body rest, _, _, h => by
      simp only [Elifs.fnFrag, Bool.and_eq_true] at h
      simp only [Elifs.noFn, Bool.and_eq_true]
      exact ⟨Block.noFn_of_fnFrag body _ _ h.1.2, Elifs.noFn_of_fnFrag rest _ _ h.2⟩
end

end

theorem stmt_ifF (c : Ctx) (hc : CtxOK c) (fuel : Nat) (hB : BlockSimF c fuel) (hE : ElifsSimF c fuel)
    (kwIf : Str) (cond : List Str) (body : Block) (elifs : Elifs) (kwElse : Option Str)
    (elseBody : Block) (kwEnd : Str) (inFor : Bool) (lo : Nat) (s : Sdk) (t : TState) (o : TOut)
    (hwf : (Stmt.ifChain kwIf cond body elifs kwElse elseBody kwEnd).wf = true)
    (hs : (Stmt.ifChain kwIf cond body elifs kwElse elseBody kwEnd).fnFrag c.F.names c.callable c.F.fa
      c.rets inFor = true)
    (hat : At c.is lo (Stmt.ifChain kwIf cond body elifs kwElse elseBody kwEnd).flatten)
    (hpre : Pre c lo (lo + (Stmt.ifChain kwIf cond body elifs kwElse elseBody kwEnd).flatten.length) s t)
    (hsafe : fsafeStmt c.is (fuel + 1) (.ifChain kwIf cond body elifs kwElse elseBody kwEnd) t = true)
    (hex : execStmt c.is (fuel + 1) (.ifChain kwIf cond body elifs kwElse elseBody kwEnd) t = o) :
    SimOut c.is c.E c.F c.B lo (lo + (Stmt.ifChain kwIf cond body elifs kwElse elseBody kwEnd).flatten.length)
      (fun x => Stmt.assignsF c.F.fa x (.ifChain kwIf cond body elifs kwElse elseBody kwEnd)) inFor s t o := by
  have hnf := Stmt.noFn_of_fnFrag _ _ _ _ _ _ hs
  have hscan := scan_if_at hat hwf hnf
  rw [flatten_if] at hat
  rw [hi_if] at hpre ⊢
  simp only [Stmt.wf, Stmt.fnFrag, Bool.and_eq_true] at hwf hs
  obtain ⟨⟨⟨⟨hkif, hbwf⟩, hewf⟩, hke⟩, hkend⟩ := hwf
  obtain ⟨⟨⟨⟨hcs, hcnf⟩, hbs⟩, hess⟩, hebs⟩ := hs
  have hi := At.head hat
  have hat' := At.tail hat
  generalize hstopdef : lo + 1 + body.flatten.length + elifs.flatten.length +
    (elseFlat kwElse elseBody).length = stop at hscan hpre ⊢
  have hBlo : c.B ≤ lo := hpre.bound
  have hA1 : ∀ x, Stmt.assignsF c.F.fa x (.ifChain kwIf cond body elifs kwElse elseBody kwEnd) = false →
      Block.assignsF c.F.fa x body = false := fun _ h => or3_left h
  have hA2 : ∀ x, Stmt.assignsF c.F.fa x (.ifChain kwIf cond body elifs kwElse elseBody kwEnd) = false →
      (Elifs.assignsF c.F.fa x elifs || Block.assignsF c.F.fa x elseBody) = false := fun _ h => or3_right h
  cases fuel with
  | zero => simp only [execStmt, evalCond] at hex; subst hex; trivial
  | succ f =>
    simp only [execStmt] at hex
    simp only [fsafeStmt, Bool.and_eq_true] at hsafe
    obtain ⟨hcsafe, hsafe'⟩ := hsafe
    cases hec : evalCond c.is (f + 1) cond t with
    | none => rw [hec] at hex; simp only at hex; subst hex; trivial
    | some pr =>
      obtain ⟨bv, t1⟩ := pr
      rw [hec] at hex hsafe'
      obtain ⟨em, rfl, hv⟩ := cond_simF c.is c.E c.F hc.env f cond t t1 bv hcs hcnf hcsafe hpre.rel hec
      cases bv with
      | true =>
        simp only at hex hsafe'
        obtain ⟨M, hstep1, hcache1⟩ := step_if_true c.is lo t.vars s _ kwIf cond _ stop em hi hkif
          hpre.cache hscan hv
        generalize hown : IfCall.mk (match elseOffsets.go (lo + 1 + body.flatten.length) elifs kwElse with
              | [] => stop | e :: _ => e) true 0 lo stop
              (elseOffsets.go (lo + 1 + body.flatten.length) elifs kwElse) s.lineCtx = own at hstep1
        have hocur : (elseOffsets.go (lo + 1 + body.flatten.length) elifs kwElse ≠ [] →
            own.current = lo + 1 + body.flatten.length) ∧
            (lo ≤ own.current ∧ own.current < stop + 1) := by
          subst hown
          simp only
          cases hg : elseOffsets.go (lo + 1 + body.flatten.length) elifs kwElse with
          | nil => simp; omega
          | cons a tl =>
            have := go_head _ _ _ _ _ hg
            subst this
            simp; omega
        have hop : own.passed = true := by subst hown; rfl
        have hos : own.stop = stop := by subst hown; rfl
        have hoc : own.ctx = s.lineCtx := by subst hown; rfl
        have h1 : SimAtK c.is c.E c.F c.B lo lo (stop + 1)
            (fun x => Stmt.assignsF c.F.fa x (.ifChain kwIf cond body elifs kwElse elseBody kwEnd)) s.ifStack s t
            (withEm t em) _ (lo + 1) :=
          ⟨hstep1,
            SimCoreF.opener stop fullNameEndIf (hcache1.of_eq rfl rfl rfl rfl) hpre.rel rfl rfl rfl rfl rfl rfl
              (by omega) (by omega),
            GarbF.push _ _ (.inr hocur.2), GarbF.refl _ _ _ _ _, rfl, rfl, rfl⟩
        have S := hB body inFor (lo + 1) _ (withEm t em) o hbwf hbs hat'.left
          (hpre.after hc h1.core rfl (by omega) (by omega)) hsafe' hex
        refine OutAt.imp S (by omega) (by omega) (fun t' s2 hat2 => ?_)
          fun _ _ _ hat2 => (h1.trans hat2 (by omega) (by omega) (Nat.le_refl _) hA1).toSimAt
        obtain ⟨s3, h3⟩ := h1.afterBranch hat2 rfl (KV.get_put_self _ _ _) hoc (Nat.le_refl _) (by omega)
          (by omega) hA1 hewf hess hke hkend hat'.right (by omega) (by omega) hop hos hocur.1 hocur.2
        exact ⟨s3, h3.toSimAt⟩
      | false =>
        simp only at hex hsafe'
        cases hg : elseOffsets.go (lo + 1 + body.flatten.length) elifs kwElse with
        | nil =>
          obtain ⟨rfl, rfl⟩ := go_nil_inv _ _ _ hg
          have hex' : o = .normal (withEm t em) := by
            rw [← hex]; simp [execElifs]
          subst hex'
          rw [hg] at hscan
          obtain ⟨M, hstep1, hcache1⟩ := step_if_false_nil c.is lo t.vars s _ kwIf cond stop em hi hkif
            hpre.cache hscan hv
          exact ⟨_, hstep1,
            SimCoreF.opener stop fullNameEndIf (hcache1.of_eq rfl rfl rfl rfl) hpre.rel rfl rfl rfl rfl rfl
              rfl (by omega) (by omega),
            GarbF.refl _ _ _ _ _, GarbF.refl _ _ _ _ _, rfl, rfl, rfl⟩
        | cons a tl =>
          have := go_head _ _ _ _ _ hg
          subst this
          rw [hg] at hscan
          obtain ⟨M, hstep1, hcache1⟩ := step_if_false_cons c.is lo t.vars s _ kwIf cond _ tl stop em hi
            hkif hpre.cache hscan hv
          have h1 : SimAt c.is c.E c.F c.B lo (stop + 1)
              (fun x => Stmt.assignsF c.F.fa x (.ifChain kwIf cond body elifs kwElse elseBody kwEnd)) s t
              (withEm t em) _ (lo + 1 + body.flatten.length) :=
            ⟨hstep1,
              SimCoreF.opener stop fullNameEndIf (hcache1.of_eq rfl rfl rfl rfl) hpre.rel rfl rfl rfl rfl rfl
                rfl (by omega) (by omega),
              GarbF.push _ _ (.inr ⟨by show lo ≤ lo + 1 + body.flatten.length; omega,
                by show lo + 1 + body.flatten.length < stop + 1; omega⟩),
              GarbF.refl _ _ _ _ _, rfl, rfl, rfl⟩
          have S := hE elifs kwElse elseBody kwEnd inFor lo (lo + 1 + body.flatten.length) stop
              ((lo + 1 + body.flatten.length) :: tl) 0 _ s.ifStack _ (withEm t em) o hewf hess hke hebs hkend
              hat'.right (by omega) (by omega) (by rw [List.drop_zero, hg]) (by simp)
              (by
                intro e he
                rw [← hg] at he
                have := go_range elseBody elifs _ kwElse e he
                omega)
              rfl rfl rfl rfl rfl rfl rfl (KV.get_put_self _ _ _)
              (hpre.afterAt hc h1 (by omega) (by omega)) hsafe' hex
          exact OutAt.map S (by omega)
            fun _ _ _ hK => (SimAtK.prefixK h1.steps h1.core h1.whS rfl rfl rfl hK (by omega) hA2).toSimAt

end Duck
