/-
  `array_contains` (std/collections/array_contains/script.ds) run from source, for every input:
  `for next_value in ${argument::1}` / `equals` / `if ${found}` (a hit stores the counter in
  `index` and UNSETS the handle variable `argument::1` - the next `for` reads an empty handle and
  leaves the loop) / `calc ${counter} + 1`.
  Exports `kc_call` (one call, for every budget from `7·cells + 12` on) with what it leaves,
  `KCallPost`; `kc_entry`, `kc_keys`.  Conventions: Lemmas/ScriptLoopShared.lean.
-/
import DuckModel.Lemmas.ScriptLoopShared
import DuckModel.Lemmas.ScriptCalcLemmas

namespace Duck.ScriptRun
open Duck Duck.Alias Duck.Coll Duck.Spec Duck.Generated Duck.Reser

attribute [local irreducible] tremove tinsert

def kScope : Str := "scope::array_contains".toList
def kArg1 : Str := "scope::array_contains::argument::1".toList
def kArg2 : Str := "scope::array_contains::argument::2".toList
def kIndex : Str := "scope::array_contains::index".toList
def kValue : Str := "scope::array_contains::value".toList
def kCounter : Str := "scope::array_contains::counter".toList
def kNext : Str := "scope::array_contains::next_value".toList
def kFound : Str := "scope::array_contains::found".toList

inductive KcVar | arg1 | arg2 | index | value | counter | next | found
deriving DecidableEq

@[reducible] def KcVar.name : KcVar → Str
  | .arg1 => kArg1 | .arg2 => kArg2 | .index => kIndex | .value => kValue | .counter => kCounter
  | .next => kNext | .found => kFound

def KcVar.all : List KcVar := [.arg1, .arg2, .index, .value, .counter, .next, .found]

def kcIs : List Instruction :=
  [emptyI 1,
   mkI 2 (some kIndex) "set" (some [[.lit "false".toList]]),
   mkI 3 (some kValue) "set" (some [[.var kArg2]]),
   emptyI 4,
   mkI 5 (some kCounter) "set" (some [[.lit "0".toList]]),
   mkI 6 none "for" (some [[.lit kNext], [.lit "in".toList], [.var kArg1]]),
   mkI 7 (some kFound) "equals" (some [[.var kNext], [.var kValue]]),
   emptyI 8,
   mkI 9 none "if" (some [[.var kFound]]),
   mkI 10 (some kIndex) "set" (some [[.var kCounter]]),
   mkI 11 (some kArg1) "set" none,
   mkI 12 none "end" none,
   emptyI 13,
   mkI 14 (some kCounter) "calc" (some [[.var kCounter], [.lit "+".toList], [.lit "1".toList]]),
   mkI 15 none "end" none,
   emptyI 16,
   mkI 17 none "set" (some [[.var kIndex]])]

def kKey (n : Nat) : Str := kScope ++ "::".toList ++ natToStr n

theorem kKey_eq (n : Nat) : kKey n = lineKey kScope n := rfl

theorem kc_table :
    parsesTo cmd_collections_array_contains.script kcIs = true ∧
    findsTo forTables kcIs (5 + 1) [] 14 = true ∧ findsTo ifTables kcIs (8 + 1) [] 11 = true ∧
    ((KcVar.all.map KcVar.name).Pairwise (· ≠ ·) ∧
      ∀ a ∈ KcVar.all, underPrefix kScope a.name = true ∧ ∀ o ∈ [], underPrefix o a.name = false) ∧
    (kKey 5 = "scope::array_contains::5".toList ∧ kKey 8 = "scope::array_contains::8".toList) ∧
    kArg1 = argKey kScope 1 ∧ kArg2 = argKey kScope 2 ∧ (LitOK kNext ∧ KeyOK kArg1) := by
  decide +kernel

theorem kc_parses : parseText cmd_collections_array_contains.script = .ok kcIs := parsesTo_eq kc_table.1
theorem kc_findIf : findCommands ifTables kcIs (8 + 1) = .ok ⟨[], 11⟩ := findsTo_eq kc_table.2.2.1
theorem kcVars : Names kScope [] KcVar.name :=
  Names.of_list _ _ _ KcVar.all (fun a => by cases a <;> decide) kc_table.2.2.2.1

theorem kNe (a b : KcVar) (h : a ≠ b := by decide) : a.name ≠ b.name := kcVars.ne h

theorem kc_keys : kKey 5 = "scope::array_contains::5".toList ∧ kKey 8 = "scope::array_contains::8".toList :=
  kc_table.2.2.2.2.1

theorem kArg1_eq : kArg1 = argKey kScope 1 := kc_table.2.2.2.2.2.1
theorem kArg2_eq : kArg2 = argKey kScope 2 := kc_table.2.2.2.2.2.2.1

/-- the argument templates of the lines 1, 2, 4, 6, 8, 9, 13, 16, in that order, are in the class
    the expansion lemmas cover -/
theorem kc_args :
    ArgsOK [[.lit "false".toList]] ∧ ArgsOK [[.var kArg2]] ∧ ArgsOK [[.lit "0".toList]] ∧
    ArgsOK [[.var kNext], [.var kValue]] ∧ ArgsOK [[.var kFound]] ∧ ArgsOK [[.var kCounter]] ∧
    ArgsOK [[.var kCounter], [.lit "+".toList], [.lit "1".toList]] ∧ ArgsOK [[.var kIndex]] := by
  decide +kernel

theorem kc_block : ForBlock kcIs 5 14 kNext kArg1 :=
  ⟨⟨_, rfl⟩, ⟨_, rfl⟩, kc_table.2.2.2.2.2.2.2, kNe .arg1 .next, findsTo_eq kc_table.2.1⟩

theorem kc_entry (depth fuel : Nat) (args : List Str) (vars : Vars) (st : ScriptSt) :
    runScriptCmdF depth fuel "array_contains".toList args vars st =
      aliasRun handleOps 2 (scriptBody (bodySem fuel depth kcIs) (fun _ => false) fuel kcIs) kScope args vars st :=
  runScriptCmdF_entry depth fuel _ _ _ (findScript_of_resolve rs_array_contains) kc_parses args vars st

/-- what every state of an `array_contains` body keeps true of the block-position caches and the
    `end` table, relative to the state `st0` the body started in: untouched outside the command's
    own prefix, the cached block ends of its two flow lines right -/
structure KInv (st0 : ScriptSt) (IM : KV (Nat × List Nat)) (FM : KV Nat) (ET : KV Str) : Prop where
  ifMeta : ∀ k, underPrefix kScope k = false → IM.get k = st0.ifMeta.get k
  forMeta : ∀ k, underPrefix kScope k = false → FM.get k = st0.forMeta.get k
  endTable : ∀ k, underPrefix kScope k = false → ET.get k = st0.endTable.get k
  c5 : CacheOK FM (kKey 5) 14
  c8 : IfCacheOK IM (kKey 8) 11

theorem KInv.frame {st0 : ScriptSt} {IM : KV (Nat × List Nat)} {FM : KV Nat} {ET : KV Str} (h : KInv st0 IM FM ET) :
    FlowFrame kScope st0 IM FM ET :=
  ⟨h.ifMeta, h.forMeta, h.endTable⟩

theorem KInv.afterIf {st0 : ScriptSt} {IM : KV (Nat × List Nat)} {FM : KV Nat} {ET : KV Str}
    (h : KInv st0 IM FM ET) : KInv st0 (ifMetaAfter IM (kKey 8) 11) FM (ET.put (kKey 11) fullNameEndIf) :=
  have f := h.frame.afterIf 8 11
  ⟨f.ifMeta, f.forMeta, f.endTable, h.c5, ifCacheOK_ifMetaAfter _ _ _ h.c8⟩

theorem KInv.afterFor {st0 : ScriptSt} {IM : KV (Nat × List Nat)} {FM : KV Nat} {ET : KV Str}
    (h : KInv st0 IM FM ET) : KInv st0 IM (forMetaAfter FM (kKey 5) 14) (ET.put (kKey 14) fullNameEndForIn) :=
  have f := h.frame.afterFor 5 14
  ⟨f.ifMeta, f.forMeta, f.endTable, cacheOK_forMetaAfter _ _ _ h.c5, h.c8⟩

/-- the variables of the body during the loop: value searched, counter, index (still `false`) -/
structure KVars (vars0 vars : Vars) (v : Str) (c : Nat) : Prop where
  value : vars.get kValue = some v
  counter : vars.get kCounter = some (natStr c)
  index : vars.get kIndex = some sFalse
  clr : clear kScope vars = clear kScope vars0

theorem KVars.set_other {vars0 vars : Vars} {v : Str} {c : Nat} (h : KVars vars0 vars v c) (k x : Str)
    (hu : underPrefix kScope k = true) (h1 : kValue ≠ k) (h2 : kCounter ≠ k) (h3 : kIndex ≠ k) :
    KVars vars0 (vars.set k x) v c := by
  refine ⟨?_, ?_, ?_, ?_⟩
  · rw [get_set, if_neg h1]; exact h.value
  · rw [get_set, if_neg h2]; exact h.counter
  · rw [get_set, if_neg h3]; exact h.index
  · rw [clear_set_under _ _ _ _ hu]; exact h.clr

/-! ### the blocks of the body -/

section blocks
variable {F d : Nat} {s : ScriptSt} {vars : Vars} {fo : Option Str}

/-- lines 6-8: `equals`, `if ${found}` -/
theorem kc_head {x v : Str} (hctx : s.ctx = kScope) (hvN : vars.get kNext = some x) (hvV : vars.get kValue = some v)
    (hc8 : IfCacheOK s.ifMeta (lineKey kScope 8) 11) :
    Steps F (d + 1) kcIs 3 ⟨6, fo, vars, s⟩
      ⟨if decide (x = v) then 9 else 12, none, vars.set kFound (boolStr (x = v)), ifStP s 8 11 (decide (x = v))⟩ := by
  refine Steps.step (Steps.native (vals := [x, v]) rfl rs_equals (bind_eq kc_args.2.2.2.1
    (by simp only [List.map, tmplValue_var, hvN, hvV, Option.getD_some])) rfl) ?_
  refine Steps.step (Steps.skip rfl) ?_
  exact Steps.if_word (b := decide (x = v)) rfl (bind_eq kc_args.2.2.2.2.1
    (by simp only [List.map, tmplValue_var, Vars.updateOutput]; rw [get_set, if_pos rfl]; rfl))
    kc_findIf hctx hc8

/-- lines 12-13: `calc ${counter} + 1` -/
theorem kc_count {c : Nat} (hvC : vars.get kCounter = some (natStr c)) (hc : c + 1 < Calc.two53) :
    Steps F d kcIs 2 ⟨12, fo, vars, s⟩ ⟨14, some (natStr (c + 1)), vars.set kCounter (natStr (c + 1)), s⟩ := by
  refine Steps.step (Steps.skip rfl) ?_
  refine Steps.step (Steps.native (vals := [natStr c, "+".toList, "1".toList]) rfl rs_calc (bind_eq kc_args.2.2.2.2.2.2.1
    (by simp only [List.map, tmplValue_var, tmplValue_lit, hvC, Option.getD_some]))
    (congrArg (·, vars, s) (runCalc_succ c hc))) ?_
  exact Steps.refl _

/-- lines 15-17: the result is `index` -/
theorem kc_tail {idx : Str} (h : vars.get kIndex = some idx) :
    Ends F d kcIs 3 ⟨15, fo, vars, s⟩ (.finished (some idx), vars, s) := by
  refine Ends.step (Steps.skip rfl) ?_
  refine Ends.step (Steps.native (vals := [idx]) rfl rs_set (bind_eq kc_args.2.2.2.2.2.2.2
    (by simp only [List.map, tmplValue_var, h, Option.getD_some])) rfl) ?_
  exact Ends.last rfl

/-- lines 0-4: `index`, `value`, `counter` are set -/
theorem kc_pre {v : Str} (hv2 : vars.get kArg2 = some v) :
    Steps F d kcIs 5 ⟨0, none, vars, s⟩
      ⟨5, some "0".toList, ((vars.set kIndex sFalse).set kValue v).set kCounter "0".toList, s⟩ := by
  refine Steps.step (Steps.skip rfl) ?_
  refine Steps.step (Steps.native (vals := [sFalse]) rfl rs_set (bind_eq kc_args.1 rfl) rfl) ?_
  refine Steps.step (Steps.native (vals := [v]) rfl rs_set (bind_eq kc_args.2.1
    (by simp only [List.map, tmplValue_var, Vars.updateOutput]; rw [get_set, if_neg (kNe .arg2 .index), hv2]; rfl)) rfl) ?_
  refine Steps.step (Steps.skip rfl) ?_
  refine Steps.step (Steps.native (vals := ["0".toList]) rfl rs_set (bind_eq kc_args.2.2.1 rfl) rfl) ?_
  exact Steps.refl _

end blocks

/-! ### the loop -/

/-- the answer: the index of the first cell equal to the value, counted from `c`, else `false` -/
def kcRes (v : Str) (xs : List Str) (c : Nat) : Str :=
  match indexOfStr v xs c with
  | some i => natStr i
  | none => sFalse

/-- what the loop (and the tail after it) leaves -/
structure KPost (st0 s s' : ScriptSt) (fs : List ForCall) (hit : Bool) (vars0 vars' : Vars) : Prop where
  inv : KInv st0 s'.ifMeta s'.forMeta s'.endTable
  forStack : s'.forStack = fs
  ifStack : s'.ifStack = (if hit then [ifEntry 8 11 kScope] else []) ++ s.ifStack
  coll : s'.coll = s.coll
  ctx : s'.ctx = s.ctx
  clr : clear kScope vars' = clear kScope vars0

/-- the script's invariant at the start of iteration `i`: no cell before it was equal to `v` -/
structure KIter (st0 s0 : ScriptSt) (vars0 : Vars) (v : Str) (L : List Item) (i : Nat) (vars : Vars) (s : ScriptSt) :
    Prop where
  vars : KVars vars0 vars v i
  ans : indexOfStr v (L.map Item.render) 0 = indexOfStr v ((L.drop i).map Item.render) i
  inv : KInv st0 s.ifMeta s.forMeta s.endTable
  coll : s.coll = s0.coll
  ifStack : s.ifStack = s0.ifStack
  ctx : s.ctx = s0.ctx

/-- the loop from its `for` line to the END OF THE BODY, over the cells `L` of the array `a` -/
theorem kc_loop (d : Nat) (st0 s : ScriptSt) (a v : Str) (L : List Item) (vars0 vars : Vars) (fo : Option Str)
    (hctx : s.ctx = kScope) (hstale : NoStaleFor kScope s.forStack) (hinv : KInv st0 s.ifMeta s.forMeta s.endTable)
    (hv1 : vars.get kArg1 = some a) (hL : tget s.coll.tbl a = some (.list L)) (hV : KVars vars0 vars v 0)
    (hE : ∀ l, tget s.coll.tbl [] ≠ some (.list l)) (hlen : L.length < Calc.two53) :
    ∃ r, (∀ G, Ends G (d + 1) kcIs (7 * L.length + 7) ⟨5, fo, vars, s⟩ r) ∧
      r.1 = .finished (some (kcRes v (L.map Item.render) 0)) ∧
      KPost st0 s r.2.2 s.forStack (indexOfStr v (L.map Item.render) 0).isSome vars0 r.2.1 := by
  refine kc_block.run_ends (KIter st0 s vars0 v L) 0 5 3 13 (by omega) ?_ ?_ ?_ ?_ hctx (popFor_noStale 5 kScope _ hstale)
    hinv.c5 (by rw [hv1]; rfl) hL ⟨hV, rfl, by rw [forSt_eq hctx]; exact hinv.afterFor, rfl, rfl, rfl⟩
  · exact fun i vars s y h => ⟨h.vars.set_other kNext y (kcVars.under .next) (kNe .value .next) (kNe .counter .next)
      (kNe .index .next), h.ans, h.inv, h.coll, h.ifStack, h.ctx⟩
  · exact fun i vars s st h => ⟨h.vars, h.ans, h.inv, h.coll, h.ifStack, h.ctx⟩
  · intro i x vars' s' fo' hx hS hfs hvN hJ
    have hc : i + 1 < Calc.two53 := by have := (List.getElem?_eq_some_iff.mp hx).1; omega
    have hans := hJ.ans
    rw [drop_of_getElem? hx] at hans
    have hhead := fun G => kc_head (F := G + 0) (d := d) (fo := fo') hS.ctx hvN hJ.vars.value hJ.inv.c8
    have hinvP : ∀ b, KInv st0 (ifStP s' 8 11 b).ifMeta (ifStP s' 8 11 b).forMeta (ifStP s' 8 11 b).endTable :=
      fun b => by rw [ifStP_eq hS.ctx]; exact hJ.inv.afterIf
    have he14 : ∀ b, (ifStP s' 8 11 b).endTable.get (lineKey kScope 14) = some fullNameEndForIn :=
      fun b => by rw [ifStP_eq hS.ctx]; exact (get_put_lineKey_ne _ _ (by omega)).trans hS.endT
    by_cases hb : x.render = v
    · -- a hit: `index` takes the counter, the handle variable is unset, the `for` line reads an empty handle
      left
      simp only [hb, decide_true, ↓reduceIte] at hhead
      simp only [List.map_cons, indexOfStr, hb, ↓reduceIte] at hans
      refine ⟨(.finished (some (natStr i)),
        (((vars'.set kFound (boolStr true)).set kIndex (natStr i)).erase kArg1).set kCounter (natStr (i + 1)),
        { ifStP s' 8 11 true with forStack := s.forStack }), fun G => ?_,
        by simp only [kcRes, hans], hinvP true, rfl, ?_, hJ.coll, hJ.ctx, ?_⟩
      · refine (hhead G).ends (b := 10) ?_
        refine Ends.step (Steps.native (vals := [natStr i]) rfl rs_set (bind_eq kc_args.2.2.2.2.2.1
          (by simp only [List.map, tmplValue_var]; rw [get_set, if_neg (kNe .counter .found), hJ.vars.counter]; rfl)) rfl) ?_
        refine Ends.step (Steps.native (vals := []) rfl rs_set rfl rfl) ?_
        refine Ends.step (Steps.end_if rfl hS.ctx (ifStP_endT hS.ctx 8 11 true)) ?_
        refine (kc_count (c := i) (by
          simp only [Vars.updateOutput]
          rw [get_erase, if_neg (kNe .counter .arg1), get_set, if_neg (kNe .counter .index), get_set,
            if_neg (kNe .counter .found)]
          exact hJ.vars.counter) hc).ends (b := 5) ?_
        have hback := kc_block.back (F := G + 0) (d := d) (fo := some (natStr (i + 1)))
          (vars := (((vars'.set kFound (boolStr true)).set kIndex (natStr i)).erase kArg1).set kCounter (natStr (i + 1)))
          (s := ifStP s' 8 11 true) hS.ctx (he14 true) hfs
        simp only [forNext] at hback
        rw [get_set, if_neg (kNe .arg1 .counter), get_erase, if_pos rfl, Option.getD_none,
          nextIteration_of_not_list hE (s := ifStP s' 8 11 true) (congrArg Coll.St.tbl hJ.coll)] at hback
        refine hback.ends (b := 3) (kc_tail ?_)
        rw [get_set, if_neg (kNe .index .counter), get_erase, if_neg (kNe .index .arg1), get_set, if_pos rfl]
      · rw [hans]
        show ifEntry 8 11 s'.ctx :: s'.ifStack = _
        rw [hS.ctx, hJ.ifStack]; rfl
      · rw [clear_set_under _ _ _ _ (kcVars.under .counter), clear_erase_under _ _ _ (kcVars.under .arg1),
          clear_set_under _ _ _ _ (kcVars.under .index), clear_set_under _ _ _ _ (kcVars.under .found)]
        exact hJ.vars.clr
    · right
      simp only [hb, decide_false, Bool.false_eq_true, ↓reduceIte] at hhead
      simp only [List.map_cons, indexOfStr, hb, ↓reduceIte] at hans
      have hV1 := hJ.vars.set_other kFound (boolStr false) (kcVars.under .found) (kNe .value .found) (kNe .counter .found)
        (kNe .index .found)
      refine ⟨_, _, _, fun G => (hhead G).trans (kc_count hV1.counter hc),
        ⟨hS.ctx, he14 false, ?_, hS.cells⟩, rfl, ⟨?_, ?_, ?_, ?_⟩, hans, hinvP false, hJ.coll, hJ.ifStack, hJ.ctx⟩
      · rw [get_set, if_neg (kNe .arg1 .counter), get_set, if_neg (kNe .arg1 .found)]; exact hS.handle
      · rw [get_set, if_neg (kNe .value .counter)]; exact hV1.value
      · rw [get_set, if_pos rfl]
      · rw [get_set, if_neg (kNe .index .counter)]; exact hV1.index
      · rw [clear_set_under _ _ _ _ (kcVars.under .counter)]; exact hV1.clr
  · intro vars' s' hS hfs hJ
    have hans := hJ.ans
    rw [List.drop_length] at hans
    exact ⟨_, fun G => kc_tail hJ.vars.index, by simp only [kcRes, hans]; rfl,
      by rw [hans]; exact ⟨hJ.inv, hfs, hJ.ifStack, hJ.coll, hJ.ctx, hJ.vars.clr⟩⟩

/-! ### the body and the call -/

/-- the answer of `array_contains a v` -/
def kcResT (t : Table) (a v : Str) : Str :=
  match tget t a with
  | some (.list l) => kcRes v (l.map Item.render) 0
  | _ => sFalse

/-- was the value found -/
def kcHit (t : Table) (a v : Str) : Bool :=
  match tget t a with
  | some (.list l) => (indexOfStr v (l.map Item.render) 0).isSome
  | _ => false

theorem kc_body (d : Nat) (s : ScriptSt) (vars : Vars) (a v : Str)
    (hctx : s.ctx = kScope) (hv1 : vars.get kArg1 = some a) (hv2 : vars.get kArg2 = some v)
    (hstale : NoStaleFor kScope s.forStack) (hinv : KInv s s.ifMeta s.forMeta s.endTable)
    (hE : ∀ l, tget s.coll.tbl [] ≠ some (.list l)) (hlen : arrLen s.coll.tbl a < Calc.two53) :
    ∃ r, (∀ G, Ends G (d + 1) kcIs (7 * arrLen s.coll.tbl a + 12) ⟨0, none, vars, s⟩ r) ∧
      r.1 = .finished (some (kcResT s.coll.tbl a v)) ∧ KPost s s r.2.2 s.forStack (kcHit s.coll.tbl a v) vars r.2.1 := by
  have hV : KVars vars (((vars.set kIndex sFalse).set kValue v).set kCounter "0".toList) v 0 :=
    ⟨by rw [get_set, if_neg (kNe .value .counter), get_set, if_pos rfl],
     by rw [get_set, if_pos rfl]; exact congrArg some natStr_zero.symm,
     by rw [get_set, if_neg (kNe .index .counter), get_set, if_neg (kNe .index .value), get_set, if_pos rfl],
     by rw [clear_set_under _ _ _ _ (kcVars.under .counter), clear_set_under _ _ _ _ (kcVars.under .value),
          clear_set_under _ _ _ _ (kcVars.under .index)]⟩
  have hv1' : (((vars.set kIndex sFalse).set kValue v).set kCounter "0".toList).get kArg1 = some a := by
    rw [get_set, if_neg (kNe .arg1 .counter), get_set, if_neg (kNe .arg1 .value), get_set, if_neg (kNe .arg1 .index), hv1]
  rcases list_or_not s.coll.tbl a with ⟨L, hL⟩ | hnl
  · obtain ⟨r, hrun, hres, hpost⟩ := kc_loop d s s a v L vars _ (some "0".toList) hctx hstale hinv hv1' hL hV hE
      (by simpa [arrLen, hL] using hlen)
    rw [show kcResT s.coll.tbl a v = kcRes v (L.map Item.render) 0 by unfold kcResT; rw [hL],
      show kcHit s.coll.tbl a v = (indexOfStr v (L.map Item.render) 0).isSome by unfold kcHit; rw [hL],
      show arrLen s.coll.tbl a = L.length by unfold arrLen; rw [hL]]
    exact ⟨r, fun G => ((kc_pre hv2).ends (hrun G)).mono (by omega), hres, hpost⟩
  · -- no array: the `for` line leaves the loop at once
    have henter := fun G => (kc_pre (F := G) (d := d + 1) (s := s) hv2).trans
      (kc_block.enter_pop (fo := some "0".toList) hctx (popFor_noStale 5 kScope _ hstale) hinv.c5)
    simp only [forNext, hv1', Option.getD_some, nextIteration_of_not_list hnl (s := forSt s 5 14) rfl] at henter
    rw [show kcResT s.coll.tbl a v = sFalse from match_list_of_not hnl _ _,
      show kcHit s.coll.tbl a v = false from match_list_of_not hnl _ _, arrLen_of_not_list hnl]
    exact ⟨_, fun G => ((henter G).ends (kc_tail hV.index)).mono (by omega), rfl,
      by rw [forSt_eq hctx]; exact hinv.afterFor, rfl, rfl, rfl, rfl, hV.clr⟩

/-- what one call leaves: the answer, the caller's table, the frame, the two cached block ends -/
structure KCallPost (st : ScriptSt) (vars : Vars) (a v : Str) (r : CmdResult × Vars × ScriptSt) : Prop where
  res : r.1 = .continue (some (kcResT st.coll.tbl a v))
  tbl : LookupEq r.2.2.coll.tbl st.coll.tbl
  frame : LoopFrame kScope 1 (clear kScope vars) (if kcHit st.coll.tbl a v then [ifEntry 8 11 kScope] else []) st r
  c5 : CacheOK r.2.2.forMeta (kKey 5) 14
  c8 : IfCacheOK r.2.2.ifMeta (kKey 8) 11

/-- one call with at least two arguments, uniformly in the instruction budget -/
theorem kc_call (depth : Nat) (a v : Str) (rest : List Str) (vars : Vars) (st : ScriptSt)
    (hfree : tget st.coll.tbl (Coll.handleName st.coll.next) = none)
    (hne : a ≠ Coll.handleName st.coll.next)
    (hstale : NoStaleFor kScope st.forStack)
    (hc5 : CacheOK st.forMeta (kKey 5) 14) (hc8 : IfCacheOK st.ifMeta (kKey 8) 11)
    (hE : ∀ l, tget st.coll.tbl [] ≠ some (.list l)) (hlen : arrLen st.coll.tbl a < Calc.two53) :
    ∃ r, (∀ k, runScriptCmdF (depth + 1) (k + 7 * arrLen st.coll.tbl a + 12) "array_contains".toList
            (a :: v :: rest) vars st = r) ∧
      KCallPost st vars a v r := by
  have hTa : tget (pubSt kScope (a :: v :: rest) st).coll.tbl a = tget st.coll.tbl a := tget_pubSt_ne kScope st _ hne
  have hal : arrLen (pubSt kScope (a :: v :: rest) st).coll.tbl a = arrLen st.coll.tbl a := by
    unfold arrLen; rw [hTa]
  obtain ⟨⟨br, vars', s'⟩, hrun, hres, hpost⟩ := kc_body depth (pubSt kScope (a :: v :: rest) st)
    (pubVars kScope (a :: v :: rest) vars st) a v rfl (kArg1_eq ▸ get_pubVars_arg1 ..) (kArg2_eq ▸ get_pubVars_arg2 ..) hstale
    ⟨fun _ _ => rfl, fun _ _ => rfl, fun _ _ => rfl, hc5, hc8⟩
    (fun l => by rw [tget_pubSt_ne kScope st _ (handleName_ne_nil _).symm]; exact hE l) (by rw [hal]; exact hlen)
  rw [hal] at hrun
  rw [show kcResT (pubSt kScope (a :: v :: rest) st).coll.tbl a v = kcResT st.coll.tbl a v by unfold kcResT; rw [hTa]] at hres
  rw [show kcHit (pubSt kScope (a :: v :: rest) st).coll.tbl a v = kcHit st.coll.tbl a v by unfold kcHit; rw [hTa]] at hpost
  simp only at hres hpost
  subst hres
  have hcall := runScriptCmdF_of_ends_clr (findScript_of_resolve rs_array_contains) kc_parses (F0 := 0) (vars := vars)
    (by show ¬ (a :: v :: rest).length < 2; simp) (by simp) (Nat.zero_le _) (Nat.le_refl _) hrun hpost.clr
  refine ⟨_, fun k => by rw [Nat.add_assoc]; exact hcall k, rfl, lookupEq_unpublish kScope st _ (T := s'.coll.tbl) hfree (fun k _ => by rw [hpost.coll]),
    ⟨rfl, ?_, rfl, ?_, hpost.forStack, hpost.inv.ifMeta, hpost.inv.forMeta, hpost.inv.endTable⟩, hpost.inv.c5, hpost.inv.c8⟩
  · show s'.coll.next = _
    rw [hpost.coll]; rfl
  · show s'.ifStack = _
    rw [hpost.ifStack]; rfl

end Duck.ScriptRun
