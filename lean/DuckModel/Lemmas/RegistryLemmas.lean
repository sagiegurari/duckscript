/-
  The registry model (Registry.lean): lookup equations of the association lists (`KV`); `strLt` is
  a strict total order and `sortStrs` sorts by it, with a result that depends on the elements
  only; `setOk` / `removeOk` and the case forms of `Reg.set` / `Reg.remove`; the invariant `InvP`
  and induction over histories (`Reg.run_induction`).
-/
import DuckModel.Registry

namespace Duck

namespace KV
variable {α : Type}

@[simp] theorem get_nil (k : Str) : get ([] : KV α) k = none := rfl

theorem get_cons (k' : Str) (v : α) (rest : KV α) (k : Str) :
    get ((k', v) :: rest) k = if k' = k then some v else get rest k := rfl

/-- a filter that decides by the key alone keeps or drops all entries of a key together -/
theorem get_filter_key (q : Str → Bool) (l : KV α) (k : Str) :
    get (l.filter (fun kv => q kv.1)) k = if q k = true then get l k else none := by
  induction l with
  | nil => simp
  | cons p rest ih =>
    obtain ⟨a, v⟩ := p
    rw [List.filter_cons, get_cons]
    -- the head is kept or dropped; it is the key looked up or not
    by_cases hq : q a = true <;> by_cases e : a = k <;> simp_all [get_cons]

theorem get_erase (m : KV α) (k k' : Str) :
    get (erase m k) k' = if k' = k then none else get m k' := by
  unfold erase
  rw [get_filter_key (fun a => decide (a ≠ k))]
  by_cases h : k' = k <;> simp [h]

theorem get_put (m : KV α) (k : Str) (v : α) (k' : Str) :
    get (put m k v) k' = if k' = k then some v else get m k' := by
  unfold put
  rw [get_cons, get_erase]
  by_cases h : k = k'
  · subst h; simp
  · have : ¬ k' = k := fun e => h e.symm
    simp [h, this]

theorem containsKey_put (m : KV α) (k : Str) (v : α) (k' : Str) :
    (m.put k v).containsKey k' = if k' = k then true else m.containsKey k' := by
  unfold containsKey
  rw [get_put]
  split <;> rfl

theorem containsKey_erase (m : KV α) (k k' : Str) :
    (m.erase k).containsKey k' = if k' = k then false else m.containsKey k' := by
  unfold containsKey
  rw [get_erase]
  split <;> rfl

theorem get_isSome_iff_mem (m : KV α) (k : Str) :
    (get m k).isSome = true ↔ k ∈ m.map (·.1) := by
  induction m with
  | nil => simp
  | cons p rest ih =>
    obtain ⟨a, v⟩ := p
    rw [get_cons]
    by_cases h : a = k
    · simp [h]
    · have : ¬ k = a := fun e => h e.symm
      simp [h, this, ih]

/-- the alias insertion loop of `Commands::set` -/
theorem get_foldl_put (as : List Str) (n : α) (m0 : KV α) (k : Str) :
    get (as.foldl (fun m a => m.put a n) m0) k = if k ∈ as then some n else get m0 k := by
  induction as generalizing m0 with
  | nil => simp
  | cons a as ih =>
    rw [List.foldl_cons, ih, get_put]
    by_cases h1 : k ∈ as
    · simp [h1]
    · by_cases h2 : k = a
      · simp [h2]
      · simp [h1, h2]

/-- the alias removal loop of `Commands::remove` -/
theorem get_foldl_erase [DecidableEq α] (as : List Str) (n : α) (m0 : KV α) (k : Str) :
    get (as.foldl (fun m a => if m.get a = some n then m.erase a else m) m0) k =
      if k ∈ as ∧ get m0 k = some n then none else get m0 k := by
  induction as generalizing m0 with
  | nil => simp
  | cons a as ih =>
    rw [List.foldl_cons, ih]
    by_cases h0 : get m0 a = some n
    · simp only [h0, if_true, get_erase]
      by_cases h2 : k = a
      · subst h2; simp [h0]
      · simp [h2]
    · simp only [h0, if_false]
      by_cases h2 : k = a
      · subst h2; simp [h0]
      · simp [h2]

end KV

namespace Reg

/-! ### `strLt` is a strict total order -/

theorem strLt_irrefl (a : Str) : strLt a a = false := by
  induction a with
  | nil => rfl
  | cons x xs ih => simp [strLt, ih]

theorem strLt_asymm (a b : Str) (h : strLt a b = true) : strLt b a = false := by
  induction a generalizing b with
  | nil => cases b <;> simp_all [strLt]
  | cons x xs ih =>
    cases b with
    | nil => simp [strLt] at h
    | cons y ys =>
      simp only [strLt] at h ⊢
      split at h
      · have : ¬ y.toNat < x.toNat := by omega
        simp [*]
      · split at h
        · simp at h
        · rename_i h1 h2
          simp [h1, h2, ih ys h]

/-- `≤` (i.e. `¬ >`) is transitive -/
theorem strLe_trans (x y z : Str) (h1 : strLt y x = false) (h2 : strLt z y = false) :
    strLt z x = false := by
  induction x generalizing y z with
  | nil => cases z <;> rfl
  | cons a xs ih =>
    cases y with
    | nil => simp [strLt] at h1
    | cons b ys =>
      cases z with
      | nil => simp [strLt] at h2
      | cons c zs =>
        simp only [strLt] at h1 h2 ⊢
        have hba : ¬ b.toNat < a.toNat := fun h => by simp [h] at h1
        have hcb : ¬ c.toNat < b.toNat := fun h => by simp [h] at h2
        have hca : ¬ c.toNat < a.toNat := by omega
        by_cases hac : a.toNat < c.toNat
        · simp [hca, hac]
        · have hab : ¬ a.toNat < b.toNat := by omega
          have hbc : ¬ b.toNat < c.toNat := by omega
          simp only [hba, hab, hcb, hbc, if_false] at h1 h2
          simp [hca, hac, ih ys zs h1 h2]

/-! ### insertion sort -/

theorem mem_insertSorted (x y : Str) (l : List Str) :
    y ∈ insertSorted x l ↔ y = x ∨ y ∈ l := by
  induction l with
  | nil => simp [insertSorted]
  | cons z zs ih =>
    unfold insertSorted
    split
    · simp only [List.mem_cons, ih]
      constructor
      · rintro (h | h | h) <;> simp [h]
      · rintro (h | h | h) <;> simp [h]
    · simp

theorem mem_sortStrs (y : Str) (l : List Str) : y ∈ sortStrs l ↔ y ∈ l := by
  induction l with
  | nil => simp [sortStrs]
  | cons z zs ih =>
    have : sortStrs (z :: zs) = insertSorted z (sortStrs zs) := rfl
    rw [this, mem_insertSorted, ih]
    simp

theorem pairwise_insertSorted (x : Str) (l : List Str)
    (h : l.Pairwise (fun a b => strLt b a = false)) :
    (insertSorted x l).Pairwise (fun a b => strLt b a = false) := by
  induction l with
  | nil => simp [insertSorted]
  | cons z zs ih =>
    rw [List.pairwise_cons] at h
    unfold insertSorted
    split
    · rename_i hzx
      rw [List.pairwise_cons]
      refine ⟨?_, ih h.2⟩
      intro w hw
      rw [mem_insertSorted] at hw
      rcases hw with hw | hw
      · subst hw; exact strLt_asymm _ _ hzx
      · exact h.1 w hw
    · rename_i hzx
      have hzx' : strLt z x = false := by simpa using hzx
      rw [List.pairwise_cons]
      refine ⟨?_, List.pairwise_cons.mpr h⟩
      intro w hw
      rcases List.mem_cons.mp hw with hw | hw
      · subst hw; exact hzx'
      · exact strLe_trans x z w hzx' (h.1 w hw)

theorem pairwise_sortStrs (l : List Str) :
    (sortStrs l).Pairwise (fun a b => strLt b a = false) := by
  induction l with
  | nil => simp [sortStrs]
  | cons z zs ih => exact pairwise_insertSorted z _ ih

/-! ### sorting: the result depends on the elements only, not on their order -/

theorem strLt_antisymm (a b : Str) (h1 : strLt a b = false) (h2 : strLt b a = false) : a = b := by
  induction a generalizing b with
  | nil => cases b with
    | nil => rfl
    | cons y ys => simp [strLt] at h1
  | cons x xs ih =>
    cases b with
    | nil => simp [strLt] at h2
    | cons y ys =>
      simp only [strLt] at h1 h2
      by_cases hxy : x.toNat < y.toNat
      · simp [hxy] at h1
      · by_cases hyx : y.toNat < x.toNat
        · simp [hyx] at h2
        · simp only [hxy, hyx, if_false] at h1 h2
          have hx : x = y := Char.toNat_inj.mp (by omega)
          rw [hx, ih ys h1 h2]

theorem perm_insertSorted (x : Str) (l : List Str) : (insertSorted x l).Perm (x :: l) := by
  induction l with
  | nil => exact List.Perm.refl _
  | cons y ys ih =>
    unfold insertSorted
    split
    · exact ((List.Perm.cons y ih).trans (List.Perm.swap x y ys))
    · exact List.Perm.refl _

theorem perm_sortStrs (l : List Str) : (sortStrs l).Perm l := by
  induction l with
  | nil => exact List.Perm.refl _
  | cons z zs ih =>
    have : sortStrs (z :: zs) = insertSorted z (sortStrs zs) := rfl
    rw [this]
    exact (perm_insertSorted z _).trans (List.Perm.cons z ih)

theorem sortStrs_perm {l₁ l₂ : List Str} (h : l₁.Perm l₂) : sortStrs l₁ = sortStrs l₂ := by
  refine List.Perm.eq_of_pairwise (le := fun a b => strLt b a = false) ?_
    (pairwise_sortStrs l₁) (pairwise_sortStrs l₂)
    ((perm_sortStrs l₁).trans (h.trans (perm_sortStrs l₂).symm))
  intro a b _ _ hab hba
  exact strLt_antisymm a b hba hab

/-! ### case analysis of `set` / `remove` -/

theorem get_eq (r : Reg) (n : Str) : r.get n = r.commands.get (r.resolve n) := rfl

theorem resolve_of_alias_none {r : Reg} {n : Str} (h : r.aliases.get n = none) : r.resolve n = n := by
  simp [Reg.resolve, h]

theorem resolve_of_alias_some {r : Reg} {a m : Str} (h : r.aliases.get a = some m) :
    r.resolve a = m := by
  simp [Reg.resolve, h]

/-- the registry produced by an accepted `set` -/
def setOk (r : Reg) (c : CmdSpec) : Reg :=
  { commands := r.commands.put c.name c,
    aliases := c.aliases.foldl (fun m a => m.put a c.name) (r.aliases.erase c.name) }

/-- the registry produced by a successful `remove` of the command `c` stored under `k` -/
def removeOk (r : Reg) (k : Str) (c : CmdSpec) : Reg :=
  { commands := r.commands.erase k,
    aliases := c.aliases.foldl
      (fun m a => if m.get a = some c.name then m.erase a else m) r.aliases }

theorem set_cases (r : Reg) (c : CmdSpec) :
    (((r.commands.get c.name).isSome = true ∨
        ∃ a ∈ c.aliases, (r.aliases.get a).isSome = true) ∧ r.set c = (r, false)) ∨
    ((r.commands.get c.name = none ∧ ∀ a ∈ c.aliases, r.aliases.get a = none) ∧
      r.set c = (r.setOk c, true)) := by
  by_cases h1 : r.commands.containsKey c.name = true
  · left
    refine ⟨Or.inl (by simpa [KV.containsKey] using h1), by simp [set, h1]⟩
  · by_cases h2 : (c.aliases.any fun a => r.aliases.containsKey a) = true
    · left
      refine ⟨Or.inr (by simpa [KV.containsKey] using h2), by simp [set, h2]⟩
    · right
      refine ⟨⟨by simpa [KV.containsKey] using h1, ?_⟩, by simp [set, setOk, h1, h2]⟩
      intro a ha
      simp only [List.any_eq_true, KV.containsKey, not_exists, not_and] at h2
      simpa using h2 a ha

theorem remove_none (r : Reg) (n : Str) (h : r.commands.get (r.resolve n) = none) :
    r.remove n = (r, false) := by
  simp [remove, h]

theorem remove_some (r : Reg) (n : Str) (c : CmdSpec)
    (h : r.commands.get (r.resolve n) = some c) :
    r.remove n = (r.removeOk (r.resolve n) c, true) := by
  simp [remove, removeOk, h]

theorem setOk_aliases_get (r : Reg) (c : CmdSpec) (a : Str) :
    (r.setOk c).aliases.get a =
      if a ∈ c.aliases then some c.name else if a = c.name then none else r.aliases.get a := by
  simp [setOk, KV.get_foldl_put, KV.get_erase]

theorem setOk_commands_get (r : Reg) (c : CmdSpec) (m : Str) :
    (r.setOk c).commands.get m = if m = c.name then some c else r.commands.get m := by
  simp [setOk, KV.get_put]

/-- an accepted registration does not disturb the lookup of any other name -/
theorem setOk_get_other (r : Reg) (c : CmdSpec) (n : Str) (hn : n ≠ c.name) (ha : n ∉ c.aliases)
    (hr : r.resolve n ≠ c.name) : (r.setOk c).get n = r.get n := by
  have hal : (r.setOk c).aliases.get n = r.aliases.get n := by
    simp [setOk_aliases_get, ha, hn]
  have hres : (r.setOk c).resolve n = r.resolve n := by
    simp [Reg.resolve, hal]
  simp only [Reg.get, hres, setOk_commands_get, hr, if_false]

/-- the new name and every new alias resolve to the new name (a command that lists its own
    name as an alias is found through the alias table, which points back at its name) -/
theorem setOk_resolve_of_mem (r : Reg) (c : CmdSpec) {a : Str} (h : a ∈ c.aliases ∨ a = c.name) :
    (r.setOk c).resolve a = c.name := by
  unfold Reg.resolve
  rw [setOk_aliases_get]
  by_cases hm : a ∈ c.aliases
  · simp [hm]
  · have ha : a = c.name := h.resolve_left hm
    subst ha
    simp [hm]

theorem removeOk_aliases_get (r : Reg) (k : Str) (c : CmdSpec) (a : Str) :
    (r.removeOk k c).aliases.get a =
      if a ∈ c.aliases ∧ r.aliases.get a = some c.name then none else r.aliases.get a := by
  simp only [removeOk, KV.get_foldl_erase]

theorem removeOk_commands_get (r : Reg) (k : Str) (c : CmdSpec) (m : Str) :
    (r.removeOk k c).commands.get m = if m = k then none else r.commands.get m := by
  simp [removeOk, KV.get_erase]

/-! ### the invariant (same body as `Reg.Inv` in Props/C15.lean) -/

def InvP (r : Reg) : Prop :=
  (∀ a m, r.aliases.get a = some m → ∃ c, r.commands.get m = some c ∧ a ∈ c.aliases) ∧
  (∀ m c, r.commands.get m = some c → c.name = m)

theorem invP_empty : InvP {} := by
  constructor
  · intro a m h; simp at h
  · intro m c h; simp at h

theorem invP_setOk (r : Reg) (c : CmdSpec) (h : r.InvP)
    (hn : r.commands.get c.name = none) : (r.setOk c).InvP := by
  obtain ⟨h1, h2⟩ := h
  constructor
  · intro a m ham
    rw [setOk_aliases_get] at ham
    by_cases ha : a ∈ c.aliases
    · simp only [ha, if_true, Option.some.injEq] at ham
      subst ham
      exact ⟨c, by simp [setOk_commands_get], ha⟩
    · simp only [ha, if_false] at ham
      by_cases hac : a = c.name
      · simp [hac] at ham
      · simp only [hac, if_false] at ham
        obtain ⟨c', hc', hac'⟩ := h1 a m ham
        have hm : m ≠ c.name := by
          intro e; subst e; rw [hn] at hc'; cases hc'
        exact ⟨c', by simp [setOk_commands_get, hm, hc'], hac'⟩
  · intro m c' hm
    rw [setOk_commands_get] at hm
    by_cases e : m = c.name
    · simp only [e, if_true, Option.some.injEq] at hm
      subst hm; exact e.symm
    · simp only [e, if_false] at hm
      exact h2 m c' hm

theorem invP_removeOk (r : Reg) (k : Str) (c : CmdSpec) (h : r.InvP)
    (hk : r.commands.get k = some c) : (r.removeOk k c).InvP := by
  obtain ⟨h1, h2⟩ := h
  have hck : c.name = k := h2 k c hk
  constructor
  · intro a m ham
    rw [removeOk_aliases_get] at ham
    split at ham
    · cases ham
    · rename_i hcond
      obtain ⟨c', hc', hac'⟩ := h1 a m ham
      have hm : m ≠ k := by
        intro e
        subst e
        rw [hk] at hc'
        cases hc'
        exact hcond ⟨hac', by rw [ham, hck]⟩
      exact ⟨c', by simp [removeOk_commands_get, hm, hc'], hac'⟩
  · intro m c' hm
    rw [removeOk_commands_get] at hm
    split at hm
    · cases hm
    · exact h2 m c' hm

theorem invP_set (r : Reg) (c : CmdSpec) (h : r.InvP) : (r.set c).1.InvP := by
  rcases set_cases r c with ⟨_, e⟩ | ⟨⟨hn, _⟩, e⟩
  · rw [e]; exact h
  · rw [e]; exact invP_setOk r c h hn

theorem invP_remove (r : Reg) (n : Str) (h : r.InvP) : (r.remove n).1.InvP := by
  cases hk : r.commands.get (r.resolve n) with
  | none => rw [remove_none r n hk]; exact h
  | some c => rw [remove_some r n c hk]; exact invP_removeOk r _ c h hk

/-- what `set` and `remove` preserve is preserved by every operation, hence by every history -/
theorem apply_induction {P : Reg → Prop} (hset : ∀ r c, P r → P (r.set c).1)
    (hrem : ∀ r n, P r → P (r.remove n).1) (r : Reg) (op : RegOp) (h : P r) : P (r.apply op).1 := by
  cases op with
  | set c => exact hset r c h
  | remove n => exact hrem r n h
  | get _ | «exists» _ | names => exact h

theorem run_induction {P : Reg → Prop} (hset : ∀ r c, P r → P (r.set c).1)
    (hrem : ∀ r n, P r → P (r.remove n).1) (r : Reg) (ops : List RegOp) (h : P r) :
    P (Reg.run r ops).1 := by
  induction ops generalizing r with
  | nil => exact h
  | cons op ops ih => exact ih _ (apply_induction hset hrem r op h)

theorem invP_run (r : Reg) (ops : List RegOp) (h : r.InvP) : (Reg.run r ops).1.InvP :=
  run_induction invP_set invP_remove r ops h

end Reg

end Duck
