/-
  The label table of the runner model: `labelTable` maps a label to the last line carrying it.
-/
import DuckModel.Runner
import DuckModel.Spec.Machine

namespace Duck
open Duck.Spec

/-- computable version of `HasLabel` -/
def labelOf (i : Instruction) : Option Str :=
  match i.ty with
  | .script si => si.label
  | _ => none

theorem hasLabel_iff (i : Instruction) (l : Str) : HasLabel i l ↔ labelOf i = some l := by
  unfold HasLabel labelOf
  constructor
  · rintro ⟨si, h1, h2⟩; simp [h1, h2]
  · intro h
    split at h
    · next si hs => exact ⟨si, hs, h⟩
    · simp at h

theorem labelTable_go_cons (i : Instruction) (rest : List Instruction) (n : Nat)
    (acc : List (Str × Nat)) :
    labelTable.go (i :: rest) n acc =
      labelTable.go rest (n + 1)
        (match labelOf i with
         | some l => (l, n) :: acc.filter (fun p => p.1 ≠ l)
         | none => acc) := by
  obtain ⟨mi, ty⟩ := i
  unfold labelOf
  rw [labelTable.go]
  cases ty with
  | empty => rfl
  | preProcess _ _ => rfl
  | script si =>
    obtain ⟨lab, o, c, a⟩ := si
    cases lab <;> rfl

theorem lookupLabel_cons (k : Str) (v : Nat) (rest : List (Str × Nat)) (l : Str) :
    lookupLabel ((k, v) :: rest) l = if k = l then some v else lookupLabel rest l := by
  rw [lookupLabel]

theorem lookupLabel_filter_ne (acc : List (Str × Nat)) (l l' : Str) (h : l' ≠ l) :
    lookupLabel (acc.filter (fun p => p.1 ≠ l')) l = lookupLabel acc l := by
  induction acc with
  | nil => rfl
  | cons p rest ih =>
    obtain ⟨k, v⟩ := p
    rw [List.filter_cons]
    split
    · rw [lookupLabel_cons, lookupLabel_cons, ih]
    · next hd =>
      have hk : k = l' := by simpa using hd
      subst hk
      rw [ih, lookupLabel_cons, if_neg h]

theorem noLabelLine_nil (l : Str) : NoLabelLine [] l := by
  intro k i h; simp at h

theorem noLabelLine_cons (i : Instruction) (rest : List Instruction) (l : Str) :
    NoLabelLine (i :: rest) l ↔ ¬ HasLabel i l ∧ NoLabelLine rest l := by
  constructor
  · intro h
    exact ⟨h 0 i (by simp), fun k j hj => h (k + 1) j (by simpa using hj)⟩
  · rintro ⟨h0, hr⟩ k j hj
    cases k with
    | zero => simp at hj; subst hj; exact h0
    | succ k => exact hr k j (by simpa using hj)

theorem not_isLabelLine_nil (l : Str) (k : Nat) : ¬ IsLabelLine [] l k := by
  rintro ⟨⟨i, h, _⟩, _⟩; simp at h

theorem isLabelLine_cons (i : Instruction) (rest : List Instruction) (l : Str) (k : Nat) :
    IsLabelLine (i :: rest) l k ↔
      (∃ k', k = k' + 1 ∧ IsLabelLine rest l k') ∨ (k = 0 ∧ HasLabel i l ∧ NoLabelLine rest l) := by
  constructor
  · rintro ⟨⟨j, hj, hl⟩, hlast⟩
    cases k with
    | zero =>
      right
      simp at hj; subst hj
      exact ⟨rfl, hl, fun k' i' hi' => hlast (k' + 1) i' (by omega) (by simpa using hi')⟩
    | succ k =>
      left
      refine ⟨k, rfl, ⟨j, by simpa using hj, hl⟩, fun k' i' hk' hi' => ?_⟩
      exact hlast (k' + 1) i' (by omega) (by simpa using hi')
  · rintro (⟨k', rfl, ⟨j, hj, hl⟩, hlast⟩ | ⟨rfl, hl, hno⟩)
    · refine ⟨⟨j, by simpa using hj, hl⟩, fun k'' i' hk hi' => ?_⟩
      cases k'' with
      | zero => omega
      | succ k'' => exact hlast k'' i' (by omega) (by simpa using hi')
    · refine ⟨⟨i, by simp, hl⟩, fun k'' i' hk hi' => ?_⟩
      cases k'' with
      | zero => omega
      | succ k'' => exact hno k'' i' (by simpa using hi')

/-- one instruction's effect on the table, as a lookup sees it -/
theorem lookupLabel_step (i : Instruction) (n : Nat) (acc : List (Str × Nat)) (l : Str) :
    lookupLabel (match labelOf i with
      | some l' => (l', n) :: acc.filter (fun p => p.1 ≠ l')
      | none => acc) l = if labelOf i = some l then some n else lookupLabel acc l := by
  cases labelOf i with
  | none => simp
  | some l' =>
    show lookupLabel ((l', n) :: acc.filter (fun p => p.1 ≠ l')) l = _
    rw [lookupLabel_cons]
    by_cases hll : l' = l
    · simp [hll]
    · rw [if_neg hll, lookupLabel_filter_ne _ _ _ hll, if_neg (by simpa using hll)]

theorem lookup_go_some (is : List Instruction) (l : Str) :
    ∀ (n : Nat) (acc : List (Str × Nat)) (k : Nat),
    lookupLabel (labelTable.go is n acc) l = some k ↔
      (∃ j, k = n + j ∧ IsLabelLine is l j) ∨ (NoLabelLine is l ∧ lookupLabel acc l = some k) := by
  induction is with
  | nil =>
    intro n acc k
    simp [labelTable.go, not_isLabelLine_nil, noLabelLine_nil]
  | cons i rest ih =>
    intro n acc k
    rw [labelTable_go_cons, ih, noLabelLine_cons, lookupLabel_step, hasLabel_iff]
    have tail : ∀ j, IsLabelLine rest l j → IsLabelLine (i :: rest) l (j + 1) :=
      fun j hj => (isLabelLine_cons ..).2 (.inl ⟨j, rfl, hj⟩)
    by_cases hl : labelOf i = some l
    · simp only [hl, if_true, not_true, false_and, or_false]
      constructor
      · rintro (⟨j, rfl, hj⟩ | ⟨hno, hk⟩)
        · exact ⟨j + 1, by omega, tail j hj⟩
        · exact ⟨0, by simp at hk; omega,
            (isLabelLine_cons ..).2 (.inr ⟨rfl, (hasLabel_iff i l).2 hl, hno⟩)⟩
      · rintro ⟨j, rfl, hj⟩
        rcases (isLabelLine_cons ..).1 hj with ⟨j', rfl, hj'⟩ | ⟨rfl, _, hno⟩
        · exact .inl ⟨j', by omega, hj'⟩
        · exact .inr ⟨hno, by simp⟩
    · simp only [hl, if_false, not_false_eq_true, true_and]
      constructor
      · rintro (⟨j, rfl, hj⟩ | h)
        · exact .inl ⟨j + 1, by omega, tail j hj⟩
        · exact .inr h
      · rintro (⟨j, rfl, hj⟩ | h)
        · rcases (isLabelLine_cons ..).1 hj with ⟨j', rfl, hj'⟩ | ⟨_, h, _⟩
          · exact .inl ⟨j', by omega, hj'⟩
          · exact absurd ((hasLabel_iff i l).1 h) hl
        · exact .inr h

theorem lookup_go_none (is : List Instruction) (l : Str) :
    ∀ (n : Nat) (acc : List (Str × Nat)),
    lookupLabel (labelTable.go is n acc) l = none ↔
      (NoLabelLine is l ∧ lookupLabel acc l = none) := by
  induction is with
  | nil =>
    intro n acc
    simp [labelTable.go, noLabelLine_nil]
  | cons i rest ih =>
    intro n acc
    rw [labelTable_go_cons, ih, noLabelLine_cons, lookupLabel_step, hasLabel_iff]
    by_cases hl : labelOf i = some l <;> simp [hl]

theorem lookup_labelTable_some (is : List Instruction) (l : Str) (k : Nat) :
    lookupLabel (labelTable is) l = some k ↔ IsLabelLine is l k := by
  unfold labelTable
  rw [lookup_go_some]
  simp [lookupLabel]

theorem lookup_labelTable_none (is : List Instruction) (l : Str) :
    lookupLabel (labelTable is) l = none ↔ NoLabelLine is l := by
  unfold labelTable
  rw [lookup_go_none]
  simp [lookupLabel]

end Duck
