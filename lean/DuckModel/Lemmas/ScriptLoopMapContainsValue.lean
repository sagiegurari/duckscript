/-
  `map_contains_value` (std/collections/map_contains_value/script.ds) run from source, for every
  input: `not map_is_empty …` (a SCRIPT command inside a command condition), `if ${not_empty}`,
  `map_keys`, the loop `for item in ${key_array_handle}` / `map_get` / `equals` / `if ${found}` /
  `release` (the early exit: the released key array has no next cell), the tail; the wrapper
  around the body and what one call leaves (`McvCallPost`), uniformly in the instruction budget.
  Exports `mcv_call` with `McvCallPost`; `any_hitB_eq`, `mem_sortStr`, `mcv_entry`, `mcv_keys`.
  Conventions: Lemmas/ScriptLoopShared.lean.
-/
import DuckModel.Lemmas.ScriptLoopShared

namespace Duck.ScriptRun
open Duck Duck.Alias Duck.Coll Duck.Spec Duck.Generated Duck.Reser

attribute [local irreducible] tremove tinsert

def mScope : Str := "scope::map_contains_value".toList
def mieScope : Str := "scope::map_is_empty".toList
def mArg1 : Str := "scope::map_contains_value::argument::1".toList
def mArg2 : Str := "scope::map_contains_value::argument::2".toList
def mFound : Str := "scope::map_contains_value::found".toList
def mNotEmpty : Str := "scope::map_contains_value::not_empty".toList
def mValue : Str := "scope::map_contains_value::value".toList
def mKH : Str := "scope::map_contains_value::key_array_handle".toList
def mItem : Str := "scope::map_contains_value::item".toList
def mNext : Str := "scope::map_contains_value::next_value".toList

inductive McvVar | arg1 | arg2 | found | notEmpty | value | kH | item | next
deriving DecidableEq

@[reducible] def McvVar.name : McvVar → Str
  | .arg1 => mArg1 | .arg2 => mArg2 | .found => mFound | .notEmpty => mNotEmpty | .value => mValue
  | .kH => mKH | .item => mItem | .next => mNext

def McvVar.all : List McvVar := [.arg1, .arg2, .found, .notEmpty, .value, .kH, .item, .next]

def mcvIs : List Instruction :=
  [emptyI 1,
   mkI 2 (some mFound) "set" (some [[.lit "false".toList]]),
   mkI 3 (some mNotEmpty) "not" (some [[.lit "map_is_empty".toList], [.var mArg1]]),
   emptyI 4,
   mkI 5 none "if" (some [[.var mNotEmpty]]),
   mkI 6 (some mValue) "set" (some [[.var mArg2]]),
   mkI 7 (some mKH) "map_keys" (some [[.var mArg1]]),
   emptyI 8,
   mkI 9 none "for" (some [[.lit mItem], [.lit "in".toList], [.var mKH]]),
   mkI 10 (some mNext) "map_get" (some [[.var mArg1], [.var mItem]]),
   mkI 11 (some mFound) "equals" (some [[.var mNext], [.var mValue]]),
   emptyI 12,
   mkI 13 none "if" (some [[.var mFound]]),
   mkI 14 none "release" (some [[.var mKH]]),
   mkI 15 none "end" none,
   mkI 16 none "end" none,
   mkI 17 none "end" none,
   emptyI 18,
   mkI 19 none "release" (some [[.var mKH]]),
   mkI 20 none "set" (some [[.var mFound]])]

def mKey (n : Nat) : Str := mScope ++ "::".toList ++ natToStr n

theorem mKey_eq (n : Nat) : mKey n = lineKey mScope n := rfl

theorem mcv_table :
    parsesTo cmd_collections_map_contains_value.script mcvIs = true ∧
    findsTo ifTables mcvIs (4 + 1) [] 16 = true ∧ findsTo forTables mcvIs (8 + 1) [] 15 = true ∧
    findsTo ifTables mcvIs (12 + 1) [] 14 = true ∧
    ((McvVar.all.map McvVar.name).Pairwise (· ≠ ·) ∧
      ∀ a ∈ McvVar.all, underPrefix mScope a.name = true ∧ ∀ o ∈ [mieScope], underPrefix o a.name = false) ∧
    (mKey 4 = "scope::map_contains_value::4".toList ∧ mKey 12 = "scope::map_contains_value::12".toList ∧
      mKey 8 = "scope::map_contains_value::8".toList) ∧
    mArg1 = argKey mScope 1 ∧ mArg2 = argKey mScope 2 ∧ mKH ≠ argsKey mScope ∧
    mKH = mScope ++ ':' :: ':' :: 'k' :: "ey_array_handle".toList ∧ (LitOK mItem ∧ KeyOK mKH) := by
  decide +kernel

theorem mcv_parses : parseText cmd_collections_map_contains_value.script = .ok mcvIs := parsesTo_eq mcv_table.1
theorem mcv_findIf4 : findCommands ifTables mcvIs (4 + 1) = .ok ⟨[], 16⟩ := findsTo_eq mcv_table.2.1
theorem mcv_findFor : findCommands forTables mcvIs (8 + 1) = .ok ⟨[], 15⟩ := findsTo_eq mcv_table.2.2.1
theorem mcv_findIf12 : findCommands ifTables mcvIs (12 + 1) = .ok ⟨[], 14⟩ := findsTo_eq mcv_table.2.2.2.1
theorem mcvVars : Names mScope [mieScope] McvVar.name :=
  Names.of_list _ _ _ McvVar.all (fun a => by cases a <;> decide) mcv_table.2.2.2.2.1

theorem mNe (a b : McvVar) (h : a ≠ b := by decide) : a.name ≠ b.name := mcvVars.ne h

theorem mOut (a : McvVar) : underPrefix mieScope a.name = false := mcvVars.outside _ (.head _) a

theorem mcv_keys : mKey 4 = "scope::map_contains_value::4".toList ∧ mKey 12 = "scope::map_contains_value::12".toList ∧
    mKey 8 = "scope::map_contains_value::8".toList :=
  mcv_table.2.2.2.2.2.1

theorem mArg1_eq : mArg1 = argKey mScope 1 := mcv_table.2.2.2.2.2.2.1
theorem mArg2_eq : mArg2 = argKey mScope 2 := mcv_table.2.2.2.2.2.2.2.1

/-- `key_array_handle` is none of the variables the wrapper publishes -/
theorem get_pubVars_mKH (args : List Str) (vars : Vars) (st : ScriptSt) :
    Vars.get (pubVars mScope args vars st) mKH = vars.get mKH :=
  get_pubVars_other mScope vars st args mKH mcv_table.2.2.2.2.2.2.2.2.1
    (ne_argKey mScope mKH _ 'k' (by decide) mcv_table.2.2.2.2.2.2.2.2.2.1)

/-- the argument templates of the lines 1, 2, 4, 5, 6, 9, 10, 12 (and 19), 13 (and 18), in that
    order, are in the class the expansion lemmas cover -/
theorem mcv_args :
    ArgsOK [[.lit "false".toList]] ∧ ArgsOK [[.lit "map_is_empty".toList], [.var mArg1]] ∧ ArgsOK [[.var mNotEmpty]] ∧
    ArgsOK [[.var mArg2]] ∧ ArgsOK [[.var mArg1]] ∧ ArgsOK [[.var mArg1], [.var mItem]] ∧
    ArgsOK [[.var mNext], [.var mValue]] ∧ ArgsOK [[.var mFound]] ∧ ArgsOK [[.var mKH]] := by
  decide +kernel

theorem mcv_block : ForBlock mcvIs 8 15 mItem mKH :=
  ⟨⟨_, rfl⟩, ⟨_, rfl⟩, mcv_table.2.2.2.2.2.2.2.2.2.2, mNe .kH .item, mcv_findFor⟩

theorem mcv_entry (depth fuel : Nat) (args : List Str) (vars : Vars) (st : ScriptSt) :
    runScriptCmdF depth fuel "map_contains_value".toList args vars st =
      aliasRun handleOps 2 (scriptBody (bodySem fuel depth mcvIs) (fun _ => false) fuel mcvIs) mScope args vars st :=
  runScriptCmdF_entry depth fuel _ _ _ (findScript_of_resolve rs_map_contains_value) mcv_parses args vars st

/-- does the key `k` of the map `m` carry the value `v` -/
def hitB (m : List (Str × Item)) (v : Str) (k : Str) : Bool := decide ((mget m k).map Item.render = some v)

/-! ### sorting keeps the elements -/

theorem mem_insertSorted (x y : Str) (l : List Str) : y ∈ insertSorted x l ↔ y = x ∨ y ∈ l := by
  induction l with
  | nil => simp [insertSorted]
  | cons z r ih =>
    unfold insertSorted
    by_cases h : strLe x z = true
    · simp [h]
    · simp only [h, if_false, Bool.false_eq_true, List.mem_cons, ih]
      constructor
      · rintro (h1 | h1 | h1) <;> simp [h1]
      · rintro (h1 | h1 | h1) <;> simp [h1]

theorem mem_sortStr (y : Str) (l : List Str) : y ∈ sortStr l ↔ y ∈ l := by
  induction l with
  | nil => simp [sortStr]
  | cons x r ih => simp [sortStr, mem_insertSorted, ih]

theorem length_insertSorted (x : Str) (l : List Str) : (insertSorted x l).length = l.length + 1 := by
  induction l with
  | nil => rfl
  | cons z r ih =>
    unfold insertSorted
    by_cases h : strLe x z = true
    · simp [h]
    · simp [h, ih]

theorem length_sortStr (l : List Str) : (sortStr l).length = l.length := by
  induction l with
  | nil => rfl
  | cons x r ih => simp [sortStr, length_insertSorted, ih]

theorem mget_isSome_of_mem (m : List (Str × Item)) (k : Str) (h : k ∈ m.map Prod.fst) : (mget m k).isSome = true := by
  induction m with
  | nil => simp at h
  | cons p r ih =>
    obtain ⟨k', w⟩ := p
    simp only [mget]
    by_cases e : k' = k
    · simp [e]
    · simp only [e, if_false]
      apply ih
      simp only [List.map_cons, List.mem_cons] at h
      rcases h with h | h
      · exact absurd h.symm e
      · exact h

theorem mget_of_mem_nodup (m : List (Str × Item)) (hn : (m.map Prod.fst).Nodup) (kv : Str × Item) (h : kv ∈ m) :
    mget m kv.1 = some kv.2 := by
  induction m with
  | nil => simp at h
  | cons p r ih =>
    obtain ⟨k', w⟩ := p
    simp only [List.map_cons, List.nodup_cons] at hn
    simp only [mget]
    rcases List.mem_cons.mp h with h | h
    · subst h; simp
    · have hne : k' ≠ kv.1 := by
        intro e
        apply hn.1
        rw [e]
        exact List.mem_map.mpr ⟨kv, h, rfl⟩
      simp only [hne, if_false]
      exact ih hn.2 h

/-- the ANSWER does not depend on the order of the keys: over ANY list with the elements of the
    map's keys (the ascending one the model's `map_keys` makes, the hash order of the code), "some
    key carries the value" is "the value occurs among the map's values" -/
theorem any_hitB_eq (m : List (Str × Item)) (hn : (m.map Prod.fst).Nodup) (v : Str) (K : List Str)
    (hK : ∀ k, k ∈ K ↔ k ∈ m.map Prod.fst) :
    K.any (hitB m v) = (m.map fun kv => kv.2.render).contains v := by
  rw [Bool.eq_iff_iff]
  simp only [List.any_eq_true, List.contains_iff_mem, List.mem_map, hitB, decide_eq_true_eq]
  constructor
  · rintro ⟨k, hk, hv⟩
    obtain ⟨kv, hkv, rfl⟩ := List.mem_map.mp ((hK k).mp hk)
    rw [mget_of_mem_nodup m hn kv hkv] at hv
    exact ⟨kv, hkv, by simpa using hv⟩
  · rintro ⟨kv, hkv, hv⟩
    refine ⟨kv.1, (hK kv.1).mpr (List.mem_map.mpr ⟨kv, hkv, rfl⟩), ?_⟩
    rw [mget_of_mem_nodup m hn kv hkv]
    simp [hv]

/-! ### the invariant of the flow-control state; the variables during the loop -/

/-- what every state of a `map_contains_value` body keeps true of the block-position caches and
    the `end` table, relative to the state `st0` the body started in: untouched outside the
    command's own prefix, the cached block ends of its three flow lines right -/
structure MInv (st0 : ScriptSt) (IM : KV (Nat × List Nat)) (FM : KV Nat) (ET : KV Str) : Prop where
  ifMeta : ∀ k, underPrefix mScope k = false → IM.get k = st0.ifMeta.get k
  forMeta : ∀ k, underPrefix mScope k = false → FM.get k = st0.forMeta.get k
  endTable : ∀ k, underPrefix mScope k = false → ET.get k = st0.endTable.get k
  c4 : IfCacheOK IM (mKey 4) 16
  c12 : IfCacheOK IM (mKey 12) 14
  c8 : CacheOK FM (mKey 8) 15

theorem MInv.frame {st0 : ScriptSt} {IM : KV (Nat × List Nat)} {FM : KV Nat} {ET : KV Str} (h : MInv st0 IM FM ET) :
    FlowFrame mScope st0 IM FM ET :=
  ⟨h.ifMeta, h.forMeta, h.endTable⟩

theorem MInv.afterIf {st0 : ScriptSt} {IM : KV (Nat × List Nat)} {FM : KV Nat} {ET : KV Str} (h : MInv st0 IM FM ET)
    (line stop : Nat) (hl : line = 4 ∧ stop = 16 ∨ line = 12 ∧ stop = 14) :
    MInv st0 (ifMetaAfter IM (mKey line) stop) FM (ET.put (mKey stop) fullNameEndIf) :=
  have f := h.frame.afterIf line stop
  ⟨f.ifMeta, f.forMeta, f.endTable, ifCacheOK_after h.c4 (by omega), ifCacheOK_after h.c12 (by omega), h.c8⟩

theorem MInv.afterFor {st0 : ScriptSt} {IM : KV (Nat × List Nat)} {FM : KV Nat} {ET : KV Str} (h : MInv st0 IM FM ET) :
    MInv st0 IM (forMetaAfter FM (mKey 8) 15) (ET.put (mKey 15) fullNameEndForIn) :=
  have f := h.frame.afterFor 8 15
  ⟨f.ifMeta, f.forMeta, f.endTable, h.c4, h.c12, cacheOK_forMetaAfter _ _ _ h.c8⟩

/-- the variables of the body during the loop: the map, the value searched, the handle of the key array -/
structure MVars (vars0 vars : Vars) (a v hK : Str) : Prop where
  arg1 : vars.get mArg1 = some a
  value : vars.get mValue = some v
  kh : vars.get mKH = some hK
  clr : clear mScope vars = clear mScope vars0

theorem MVars.set_other {vars0 vars : Vars} {a v hK : Str} (h : MVars vars0 vars a v hK) (k x : Str)
    (hu : underPrefix mScope k = true) (h1 : mArg1 ≠ k) (h2 : mValue ≠ k) (h3 : mKH ≠ k) :
    MVars vars0 (vars.set k x) a v hK := by
  refine ⟨?_, ?_, ?_, ?_⟩
  · rw [get_set, if_neg h1]; exact h.arg1
  · rw [get_set, if_neg h2]; exact h.value
  · rw [get_set, if_neg h3]; exact h.kh
  · rw [clear_set_under _ _ _ _ hu]; exact h.clr

/-! ### the blocks of the loop and the tail -/

/-- the state after lines 9-12 of an iteration: `map_get` took the map out and put it back, the
    inner `if` looked its block up (and pushed its entry when the value was found) -/
def mcvAfterIf (s : ScriptSt) (a : Str) (m : List (Str × Item)) (b : Bool) : ScriptSt :=
  { s with coll := { tbl := tinsert (tremove s.coll.tbl a) a (.map m), next := s.coll.next },
           ifMeta := ifMetaAfter s.ifMeta (mKey 12) 14,
           endTable := s.endTable.put (mKey 14) fullNameEndIf,
           ifStack := if b then ifEntry 12 14 mScope :: s.ifStack else s.ifStack }

/-- the state after a hit released the key array -/
def mcvRelSt (s : ScriptSt) (a hK : Str) (m : List (Str × Item)) : ScriptSt :=
  { mcvAfterIf s a m true with coll := { tbl := tremove (mcvAfterIf s a m true).coll.tbl hK, next := s.coll.next } }

section blocks
variable {F d : Nat} {s : ScriptSt} {vars : Vars} {fo : Option Str}

/-- lines 9-12: `map_get`, `equals`, `if ${found}` -/
theorem mcv_head {a x v : Str} {m : List (Str × Item)} {it : Item} (hctx : s.ctx = mScope)
    (hT : tget s.coll.tbl a = some (.map m)) (hit : mget m x = some it)
    (hv1 : vars.get mArg1 = some a) (hvI : vars.get mItem = some x) (hvV : vars.get mValue = some v)
    (hc12 : IfCacheOK s.ifMeta (mKey 12) 14) :
    Steps F (d + 1) mcvIs 4 ⟨9, fo, vars, s⟩
      ⟨if decide (it.render = v) then 13 else 15, none,
        (vars.set mNext it.render).set mFound (boolStr (it.render = v)), mcvAfterIf s a m (decide (it.render = v))⟩ := by
  have hget := run_mapGet a x m vars s hT
  rw [hit, Option.map_some] at hget
  rw [show mcvAfterIf s a m (decide (it.render = v)) =
    ifStP { s with coll := { tbl := tinsert (tremove s.coll.tbl a) a (.map m), next := s.coll.next } } 12 14
      (decide (it.render = v)) from
    (ifStP_eq (s := { s with coll := { tbl := tinsert (tremove s.coll.tbl a) a (.map m), next := s.coll.next } })
      hctx 12 14 _).symm]
  refine Steps.step (Steps.native (vals := [a, x]) rfl rs_map_get (bind_eq mcv_args.2.2.2.2.2.1
    (by simp only [List.map, tmplValue_var, hv1, hvI, Option.getD_some])) hget) ?_
  refine Steps.step (Steps.native (vals := [it.render, v]) rfl rs_equals (bind_eq mcv_args.2.2.2.2.2.2.1
    (by simp only [List.map, tmplValue_var, Vars.updateOutput]
        rw [get_set, if_pos rfl, get_set, if_neg (mNe .value .next), hvV]; rfl)) rfl) ?_
  refine Steps.step (Steps.skip rfl) ?_
  exact Steps.if_word (b := decide (it.render = v)) rfl (bind_eq mcv_args.2.2.2.2.2.2.2.1
    (by simp only [List.map, tmplValue_var, Vars.updateOutput]; rw [get_set, if_pos rfl]; rfl)) mcv_findIf12 hctx hc12

/-- lines 17-19: `release ${key_array_handle}` (whatever that variable holds), `set ${found}` -/
theorem mcv_tail17 {fnd kh : Str} (hfound : vars.get mFound = some fnd) (hkh : (vars.get mKH).getD [] = kh) :
    Ends F d mcvIs 4 ⟨17, fo, vars, s⟩ (.finished (some fnd), vars,
      { s with coll := { tbl := tremove s.coll.tbl kh, next := s.coll.next } }) := by
  subst hkh
  refine Ends.step (Steps.skip rfl) ?_
  refine Ends.step (Steps.native (vals := [(vars.get mKH).getD []]) rfl rs_release (bind_eq mcv_args.2.2.2.2.2.2.2.2
    (by simp only [List.map, tmplValue_var])) (run_release _ vars s)) ?_
  refine Ends.step (Steps.native (vals := [fnd]) rfl rs_set (bind_eq mcv_args.2.2.2.2.2.2.2.1
    (by simp only [List.map, tmplValue_var, Vars.updateOutput, hfound, Option.getD_some])) rfl) ?_
  exact Ends.last rfl

/-- line 16 (`end` of the outer `if`) and the tail -/
theorem mcv_tail16 {fnd kh : Str} (hctx : s.ctx = mScope) (hfound : vars.get mFound = some fnd)
    (hkh : (vars.get mKH).getD [] = kh) (he16 : s.endTable.get (mKey 16) = some fullNameEndIf) :
    Ends F (d + 1) mcvIs 5 ⟨16, fo, vars, s⟩ (.finished (some fnd), vars,
      { s with coll := { tbl := tremove s.coll.tbl kh, next := s.coll.next } }) :=
  Ends.step (Steps.end_if rfl hctx he16) (mcv_tail17 hfound hkh)

end blocks

/-! ### the loop -/

/-- what the loop (and the tail after it) leaves -/
structure MLoopPost (st0 s s' : ScriptSt) (T0 : Table) (hK : Str) (fs : List ForCall) (found : Bool)
    (vars0 vars' : Vars) : Prop where
  ctx : s'.ctx = mScope
  inv : MInv st0 s'.ifMeta s'.forMeta s'.endTable
  forStack : s'.forStack = fs
  ifStack : s'.ifStack = (if found then [ifEntry 12 14 mScope] else []) ++ s.ifStack
  next : s'.coll.next = s.coll.next
  gone : tget s'.coll.tbl hK = none
  other : ∀ k, k ≠ hK → tget s'.coll.tbl k = tget T0 k
  clr : clear mScope vars' = clear mScope vars0

/-- the script's invariant at the start of iteration `i`: no key before it carried the value
    (`o` is the answer over all keys), the table reads like `T0` -/
structure MIter (st0 s0 : ScriptSt) (vars0 : Vars) (a v hK : Str) (m : List (Str × Item)) (K : List Str) (T0 : Table)
    (o : Bool) (i0 i : Nat) (vars : Vars) (s : ScriptSt) : Prop where
  mv : MVars vars0 vars a v hK
  ans : o = (K.drop i).any (hitB m v)
  inv : MInv st0 s.ifMeta s.forMeta s.endTable
  e16 : s.endTable.get (mKey 16) = some fullNameEndIf
  tbl : LookupEq s.coll.tbl T0
  next : s.coll.next = s0.coll.next
  ifStack : s.ifStack = s0.ifStack
  found : i0 < i → vars.get mFound = some (boolStr false)

section loop
variable {d : Nat} {st0 s0 : ScriptSt} {a v hK : Str} {m : List (Str × Item)} {K : List Str} {T0 : Table}
  {fs : List ForCall} {vars0 : Vars} {o : Bool} {i0 : Nat}

theorem MIter.setItem {i : Nat} {vars : Vars} {s : ScriptSt} (h : MIter st0 s0 vars0 a v hK m K T0 o i0 i vars s) (y : Str) :
    MIter st0 s0 vars0 a v hK m K T0 o i0 i (vars.set mItem y) s :=
  ⟨h.mv.set_other mItem y (mcvVars.under .item) (mNe .arg1 .item) (mNe .value .item) (mNe .kH .item), h.ans, h.inv, h.e16,
    h.tbl, h.next, h.ifStack, fun hi => by rw [get_set, if_neg (mNe .found .item)]; exact h.found hi⟩

theorem MIter.setStack {i : Nat} {vars : Vars} {s : ScriptSt} (h : MIter st0 s0 vars0 a v hK m K T0 o i0 i vars s) (st : List ForCall) :
    MIter st0 s0 vars0 a v hK m K T0 o i0 i vars { s with forStack := st } :=
  ⟨h.mv, h.ans, h.inv, h.e16, h.tbl, h.next, h.ifStack, h.found⟩

/-- one iteration: a key that carries the value ends the body, any other leads to the `end` line -/
theorem mcv_step (hT0a : tget T0 a = some (.map m)) (hKm : ∀ k ∈ K, (mget m k).isSome = true)
    (i : Nat) (x : Item) (vars : Vars) (s : ScriptSt) (fo : Option Str) (hx : (K.map Item.str)[i]? = some x)
    (hS : LoopSt mScope 15 mKH hK (K.map .str) vars s) (hfs : s.forStack = ⟨i + 1, 8, 15, mScope⟩ :: fs)
    (hvI : vars.get mItem = some x.render) (hJ : MIter st0 s0 vars0 a v hK m K T0 o i0 i vars s) :
    (∃ r, (∀ G, Ends (G + 0) (d + 1) mcvIs 13 ⟨8 + 1, fo, vars, s⟩ r) ∧
      r.1 = .finished (some (boolStr o)) ∧ MLoopPost st0 s0 r.2.2 T0 hK fs o vars0 r.2.1) ∨
    ∃ fo' vars' s', (∀ G, Steps (G + 0) (d + 1) mcvIs 4 ⟨8 + 1, fo, vars, s⟩ ⟨15, fo', vars', s'⟩) ∧
      LoopSt mScope 15 mKH hK (K.map .str) vars' s' ∧ s'.forStack = s.forStack ∧ MIter st0 s0 vars0 a v hK m K T0 o i0 (i + 1) vars' s' := by
  obtain ⟨k, hk, hkm, rfl⟩ := getElem?_map_str hx
  obtain ⟨it, hit⟩ := Option.isSome_iff_exists.mp (hKm k hkm)
  have hans := hJ.ans
  rw [drop_of_getElem? hk, List.any_cons, show hitB m v k = decide (it.render = v) by simp [hitB, hit]] at hans
  have hTa : tget s.coll.tbl a = some (.map m) := by rw [hJ.tbl a]; exact hT0a
  have hhead := fun G => mcv_head (F := G + 0) (d := d) (fo := fo) hS.ctx hTa hit hJ.mv.arg1 hvI hJ.mv.value hJ.inv.c12
  have hV1 : ∀ b, MVars vars0 ((vars.set mNext it.render).set mFound (boolStr b)) a v hK := fun b =>
    (hJ.mv.set_other mNext _ (mcvVars.under .next) (mNe .arg1 .next) (mNe .value .next) (mNe .kH .next)).set_other
      mFound _ (mcvVars.under .found) (mNe .arg1 .found) (mNe .value .found) (mNe .kH .found)
  have he : ∀ n, n ≠ 14 → ∀ w, s.endTable.get (lineKey mScope n) = some w →
      (s.endTable.put (lineKey mScope 14) fullNameEndIf).get (lineKey mScope n) = some w := by
    intro n hn w h; rw [get_put_lineKey_ne _ _ hn]; exact h
  have hre : ∀ k', tget (tinsert (tremove s.coll.tbl a) a (.map m)) k' = tget T0 k' := by
    intro k'; rw [lookupEq_reinsert s.coll.tbl a _ hTa k', hJ.tbl k']
  by_cases hb : it.render = v
  · -- a hit: the key array is released, its next cell does not exist, the tail
    left
    simp only [hb, decide_true, ↓reduceIte, Bool.true_or] at hhead hans hV1
    have hback := fun G => mcv_block.back (F := G + 0) (d := d) (fo := none)
      (vars := (vars.set mNext v).set mFound (boolStr true)) (s := mcvRelSt s a hK m)
      (i := i + 1) (fs := fs) hS.ctx (he 15 (by omega) _ hS.endT) hfs
    -- the key array is released: the `for` line finds no next cell
    have hgone : ∀ l, tget (mcvRelSt s a hK m).coll.tbl hK ≠ some (.list l) := fun l => by
      show tget (tremove _ hK) hK ≠ _
      rw [tget_tremove, if_pos rfl]; nofun
    simp only [(hV1 true).kh, Option.getD_some, forNext, nextIteration_of_not_list hgone (s := mcvRelSt s a hK m) rfl] at hback
    refine ⟨(.finished (some (boolStr true)), (vars.set mNext v).set mFound (boolStr true),
      { mcvRelSt s a hK m with
        coll := { tbl := tremove (mcvRelSt s a hK m).coll.tbl hK, next := s.coll.next }, forStack := fs }),
      fun G => ?_, ?_, ?_⟩
    · refine (hhead G).ends (b := 9) ?_
      refine Ends.step (Steps.native (vals := [hK]) rfl rs_release (bind_eq mcv_args.2.2.2.2.2.2.2.2
        (by simp only [List.map, tmplValue_var, (hV1 true).kh, Option.getD_some])) (run_release hK _ (mcvAfterIf s a m true))) ?_
      refine Ends.step (Steps.end_if rfl hS.ctx (get_put_lineKey_self _ _ _)) ?_
      refine (hback G).ends (b := 5) ?_
      exact mcv_tail16 hS.ctx (by rw [get_set, if_pos rfl]) (by rw [(hV1 true).kh]; rfl) (he 16 (by omega) _ hJ.e16)
    · rw [hans]
    · rw [hans]
      refine ⟨hS.ctx, hJ.inv.afterIf 12 14 (.inr ⟨rfl, rfl⟩), rfl, congrArg _ hJ.ifStack, hJ.next, ?_, ?_, (hV1 true).clr⟩
      · show tget (tremove _ hK) hK = none
        rw [tget_tremove, if_pos rfl]
      · intro k' hk'
        show tget (tremove (tremove _ hK) hK) k' = _
        rw [tget_tremove, if_neg hk', tget_tremove, if_neg hk']
        exact hre k'
  · right
    simp only [hb, decide_false, Bool.false_eq_true, ↓reduceIte, Bool.false_or] at hhead hans
    refine ⟨_, _, _, hhead, ⟨hS.ctx, he 15 (by omega) _ hS.endT, by rw [(hV1 false).kh]; rfl, ?_⟩, rfl, hV1 false, hans,
      hJ.inv.afterIf 12 14 (.inr ⟨rfl, rfl⟩), he 16 (by omega) _ hJ.e16, hre, hJ.next, hJ.ifStack, fun _ => by rw [get_set, if_pos rfl]⟩
    show tget (tinsert (tremove s.coll.tbl a) a (.map m)) hK = _
    rw [lookupEq_reinsert s.coll.tbl a _ hTa hK]; exact hS.cells

/-- behind the loop: no key carried the value -/
theorem mcv_exit (hi0 : i0 < K.length) (vars : Vars) (s : ScriptSt) (hS : LoopSt mScope 15 mKH hK (K.map .str) vars s)
    (hfs : s.forStack = fs) (hJ : MIter st0 s0 vars0 a v hK m K T0 o i0 (K.map Item.str).length vars s) :
    ∃ r, (∀ G, Ends (G + 0) (d + 1) mcvIs 5 ⟨15 + 1, none, vars, s⟩ r) ∧
      r.1 = .finished (some (boolStr o)) ∧ MLoopPost st0 s0 r.2.2 T0 hK fs o vars0 r.2.1 := by
  have hans := hJ.ans
  rw [show (K.map Item.str).length = K.length by simp, List.drop_length] at hans
  have hpos : i0 < (K.map Item.str).length := by simpa using hi0
  rw [hans]
  refine ⟨_, fun G => mcv_tail16 hS.ctx (hJ.found hpos) hS.handle hJ.e16, rfl, hS.ctx, hJ.inv, hfs,
    hJ.ifStack, hJ.next, ?_, ?_, hJ.mv.clr⟩
  · show tget (tremove _ hK) hK = none
    rw [tget_tremove, if_pos rfl]
  · intro k' hk'
    show tget (tremove _ hK) k' = _
    rw [tget_tremove, if_neg hk']; exact hJ.tbl k'


end loop

/-- the loop: from the body line with the current key in `item` and the entry at the next
    iteration to the END OF THE BODY, within `6·(keys left) + 13` instructions -/
theorem mcv_loop (d : Nat) (st0 : ScriptSt) (a v hK : Str) (m : List (Str × Item)) (K : List Str) (T0 : Table)
    (fs : List ForCall) (vars0 : Vars)
    (hT0a : tget T0 a = some (.map m)) (hT0K : tget T0 hK = some (.list (K.map .str)))
    (hKm : ∀ k ∈ K, (mget m k).isSome = true) :
    ∀ (rem pre : List Str) (x : Str) (s : ScriptSt) (vars : Vars) (poll : Nat) (fo : Option Str),
      K = pre ++ x :: rem → s.ctx = mScope → MInv st0 s.ifMeta s.forMeta s.endTable →
      s.endTable.get (mKey 15) = some fullNameEndForIn → s.endTable.get (mKey 16) = some fullNameEndIf →
      s.forStack = ⟨pre.length + 1, 8, 15, mScope⟩ :: fs → LookupEq s.coll.tbl T0 →
      MVars vars0 vars a v hK → vars.get mItem = some x →
      ∃ vars' s',
        (∀ F fuel, evalInstructions (bodySem F (d + 1) mcvIs) (fun _ => false) mcvIs (fuel + 6 * rem.length + 13) 9 poll fo vars s =
          some (.finished (some (boolStr ((x :: rem).any (hitB m v)))), vars', s')) ∧
        MLoopPost st0 s s' T0 hK fs ((x :: rem).any (hitB m v)) vars0 vars' := by
  intro rem pre x s vars poll fo hK' hctx hinv he15 he16 hfs hT hV hvI
  obtain ⟨⟨br, vars', s'⟩, hrun, hres, hpost⟩ := mcv_block.loop (d := d) (fs := fs)
    (MIter st0 s vars0 a v hK m K T0 ((x :: rem).any (hitB m v)) pre.length) 0 4 5 13 (by omega)
    (fun _ _ _ y h => h.setItem y) (fun _ _ _ st h => h.setStack st) (mcv_step hT0a hKm) (mcv_exit (by rw [hK']; simp))
    rem.length pre.length (.str x) vars s fo (by rw [hK']; simp; omega) (by rw [hK']; simp)
    ⟨hctx, he15, by rw [hV.kh]; rfl, by rw [hT hK]; exact hT0K⟩ hfs hvI
    ⟨hV, by rw [hK']; simp, hinv, he16, hT, rfl, rfl, fun h => absurd h (Nat.lt_irrefl _)⟩
  simp only at hres
  subst hres
  exact ⟨vars', s', fun F fuel => by rw [Nat.add_assoc]; exact (hrun F).eval fuel poll, hpost⟩

/-! ### `map_is_empty`, nested; the lines before the loop -/

theorem mie_run (d G : Nat) (X : Str) (vars : Vars) (s : ScriptSt)
    (hfree : tget s.coll.tbl (Coll.handleName s.coll.next) = none) :
    runScriptCmdF d (G + 2 + 2) "map_is_empty".toList [X] vars s =
      (match (tget s.coll.tbl X).bind mieLen with
        | some n => .continue (some (boolStr (n = 0)))
        | none => .error (collErrMsg .mapSize (pubSt mieScope [X] s).coll.tbl [X]),
       clear mieScope vars, mieSt s X) :=
  isEmptyScript_run mapIsEmpty_sizeScript d G X vars s (bind_len_pub _ X [] s mieLen hfree (Or.inr fun _ => rfl))

/-- line 2 as a flow command -/
theorem mcv_not (G d : Nat) (s : ScriptSt) (vars : Vars) (a : Str) (hX : ArgOK a = true)
    (hfree : tget s.coll.tbl (Coll.handleName s.coll.next) = none) :
    runFlowF (nestedOf (bodySem (G + 2 + 2) (d + 1)) (G + 2 + 2)) mcvIs 2 .notC ["map_is_empty".toList, a] 2 vars s =
      match (tget s.coll.tbl a).bind mieLen with
      | some n => (.continue (some (boolStr (!decide (n = 0)))), clear mieScope vars, mieSt s a)
      | none => (flowErr, clear mieScope vars, mieSt s a) := by
  obtain ⟨h1, h2, h3⟩ := argOK_parts hX
  rw [runNot_script (G + 2) d mcvIs "map_is_empty".toList [a] cmd_collections_map_is_empty (by decide +kernel)
    (by intro v hv; simp at hv; subst hv; exact h1) (by simp [positionOK, h2, h3]) (findScript_of_resolve rs_map_is_empty) 2 vars s,
    mie_run d G a vars s hfree]
  cases (tget s.coll.tbl a).bind mieLen with
  | none => rfl
  | some n => simp only [isTrue_boolStr]

/-- the variables after line 2 -/
def mcvVars2 (vars : Vars) (ne : Bool) : Vars :=
  (clear mieScope (vars.set mFound sFalse)).set mNotEmpty (boolStr ne)

theorem get_mcvVars2 (vars : Vars) (ne : Bool) (k : Str) (hk : k ≠ mNotEmpty) (hu : underPrefix mieScope k = false) :
    (mcvVars2 vars ne).get k = (vars.set mFound sFalse).get k := by
  unfold mcvVars2
  rw [get_set, if_neg hk, get_clear, hu]
  rfl

theorem clear_mcvVars2 (vars : Vars) (ne : Bool) :
    clear mScope (mcvVars2 vars ne) = clear mScope (clear mieScope vars) := by
  unfold mcvVars2
  rw [clear_set_under _ _ _ _ (mcvVars.under .notEmpty), clear_comm, clear_set_under _ _ _ _ (mcvVars.under .found), clear_comm]

section pre
variable {G d : Nat} {s : ScriptSt} {vars : Vars} {a : Str}

/-- lines 0-1 and the `not` line, as far as `map_is_empty` answers -/
theorem mcv_pre_not (hX : ArgOK a = true) (hv : vars.get mArg1 = some a)
    (hfree : tget s.coll.tbl (Coll.handleName s.coll.next) = none) :
    (∀ n, (tget s.coll.tbl a).bind mieLen = some n →
      Steps (G + 2 + 2) (d + 1 + 1) mcvIs 4 ⟨0, none, vars, s⟩
        ⟨4, some (boolStr (!decide (n = 0))), mcvVars2 vars (!decide (n = 0)), mieSt s a⟩) ∧
    ((tget s.coll.tbl a).bind mieLen = none →
      Ends (G + 2 + 2) (d + 1 + 1) mcvIs 3 ⟨0, none, vars, s⟩
        (.error (msg "flow control error"), clear mieScope (vars.set mFound sFalse), mieSt s a)) := by
  have hnot := mcv_not G d s (vars.set mFound sFalse) a hX hfree
  have hb : bind (vars.set mFound sFalse) ((some [[Seg.lit "map_is_empty".toList], [Seg.var mArg1]]).map fun a =>
      a.map renderTemplate) = ["map_is_empty".toList, a] :=
    bind_eq mcv_args.2.1 (by
      simp only [List.map, tmplValue_var, tmplValue_lit]; rw [get_set, if_neg (mNe .arg1 .found), hv]; rfl)
  have h01 : Steps (G + 2 + 2) (d + 1 + 1) mcvIs 2 ⟨0, none, vars, s⟩ ⟨2, some sFalse, vars.set mFound sFalse, s⟩ := by
    refine Steps.step (Steps.skip rfl) ?_
    refine Steps.step (Steps.native (vals := [sFalse]) rfl rs_set (bind_eq mcv_args.1 rfl) rfl) ?_
    exact Steps.refl _
  constructor
  · intro n hm
    rw [hm] at hnot
    refine h01.trans (b := 2) ?_
    refine Steps.step (Steps.flow rfl rs_not hb hnot) ?_
    refine Steps.step (Steps.skip rfl) ?_
    exact Steps.refl _
  · intro hnm
    rw [hnm] at hnot
    exact h01.ends (b := 1) (Ends.flow_error rfl rs_not hb hnot)

end pre

/-- the state at the `for` line: the outer `if` passed, `map_keys` put the key array `K` -/
def mcvKeysSt (s : ScriptSt) (a : Str) (K : List Str) : ScriptSt :=
  { ifStP (mieSt s a) 4 16 true with
    coll := { tbl := tinsert (ifStP (mieSt s a) 4 16 true).coll.tbl (Coll.handleName (ifStP (mieSt s a) 4 16 true).coll.next)
                       (.list (K.map .str)),
              next := (ifStP (mieSt s a) 4 16 true).coll.next + 1 } }

def mcvVars8 (vars : Vars) (v hK : Str) : Vars :=
  ((mcvVars2 vars true).set mValue v).set mKH hK

/-- lines 4-7 for a non-empty map: `if` passes, `value`, `map_keys` -/
theorem mcv_pre_loop {F d : Nat} {s : ScriptSt} {vars : Vars} {a v : Str} {m : List (Str × Item)}
    {fo : Option Str} (hctx : s.ctx = mScope) (hv1 : vars.get mArg1 = some a) (hv2 : vars.get mArg2 = some v)
    (hfree : tget s.coll.tbl (Coll.handleName s.coll.next) = none)
    (hT : tget s.coll.tbl a = some (.map m)) (hc4 : IfCacheOK s.ifMeta (mKey 4) 16) :
    Steps F (d + 1) mcvIs 4 ⟨4, fo, mcvVars2 vars true, mieSt s a⟩
      ⟨8, some (Coll.handleName (s.coll.next + 1)), mcvVars8 vars v (Coll.handleName (s.coll.next + 1)),
        mcvKeysSt s a (sortStr (m.map Prod.fst))⟩ := by
  have hT3 : tget (ifStP (mieSt s a) 4 16 true).coll.tbl a = some (.map m) := (tget_mieSt s a a hfree).trans hT
  refine Steps.step (Steps.if_word (b := true) rfl (bind_eq mcv_args.2.2.1
    (by simp only [List.map, tmplValue_var, mcvVars2]; rw [get_set, if_pos rfl]; rfl)) mcv_findIf4 hctx hc4) ?_
  refine Steps.step (Steps.native (vals := [v]) rfl rs_set (bind_eq mcv_args.2.2.2.1
    (by simp only [List.map, tmplValue_var]
        rw [get_mcvVars2 vars true mArg2 (mNe .arg2 .notEmpty) (mOut .arg2), get_set, if_neg (mNe .arg2 .found), hv2]
        rfl)) rfl) ?_
  refine Steps.step (Steps.native (vals := [a]) rfl rs_map_keys (bind_eq mcv_args.2.2.2.2.1
    (by simp only [List.map, tmplValue_var, Vars.updateOutput]
        rw [get_set, if_neg (mNe .arg1 .value), get_mcvVars2 vars true mArg1 (mNe .arg1 .notEmpty) (mOut .arg1), get_set,
          if_neg (mNe .arg1 .found), hv1]
        rfl)) (run_mapKeys a m _ _ hT3)) ?_
  refine Steps.step (Steps.skip rfl) ?_
  exact Steps.refl _

/-! ### the three ways a body ends -/

/-- what a body leaves, relative to the state `s` and the variables `vars` it started from -/
structure MBodyPost (h0 : Str) (s s' : ScriptSt) (vars vars' : Vars) (alloc : Nat) (pushed : List IfCall) : Prop where
  inv : MInv s s'.ifMeta s'.forMeta s'.endTable
  forStack : s'.forStack = s.forStack
  ifStack : s'.ifStack = pushed ++ s.ifStack
  next : s'.coll.next = s.coll.next + alloc
  tbl : ∀ k, k ≠ h0 → tget s'.coll.tbl k = tget s.coll.tbl k
  clr : clear mScope vars' = clear mScope (clear mieScope vars)

theorem mcv_post_err (h0 : Str) (s : ScriptSt) (vars : Vars) (a : Str)
    (hfree : tget s.coll.tbl (Coll.handleName s.coll.next) = none) (hinv : MInv s s.ifMeta s.forMeta s.endTable) :
    MBodyPost h0 s (mieSt s a) vars (clear mieScope (vars.set mFound sFalse)) 1 [] := by
  refine ⟨hinv, rfl, rfl, rfl, fun k _ => tget_mieSt s a k hfree, ?_⟩
  rw [clear_comm, clear_set_under _ _ _ _ (mcvVars.under .found), clear_comm]

/-- the state an empty map leaves -/
def mcvEmptySt (s : ScriptSt) (a kh : Str) : ScriptSt :=
  { s with coll := { tbl := tremove (mieSt s a).coll.tbl kh, next := s.coll.next + 1 },
           ifMeta := ifMetaAfter s.ifMeta (mKey 4) 16,
           endTable := s.endTable.put (mKey 16) fullNameEndIf }

/-- the argument names an empty map: `if ${not_empty}` jumps behind its block, the tail releases
    whatever `key_array_handle` holds -/
theorem mcv_body_empty (G d : Nat) (s : ScriptSt) (vars : Vars) (a : Str) (hX : ArgOK a = true)
    (hctx : s.ctx = mScope)
    (hv : vars.get mArg1 = some a) (hfree : tget s.coll.tbl (Coll.handleName s.coll.next) = none)
    (hT : tget s.coll.tbl a = some (.map [])) (hc4 : IfCacheOK s.ifMeta (mKey 4) 16) :
    Ends (G + 2 + 2) (d + 2) mcvIs 9 ⟨0, none, vars, s⟩
      (.finished (some sFalse), mcvVars2 vars false, mcvEmptySt s a ((vars.get mKH).getD [])) := by
  have hm : (tget s.coll.tbl a).bind mieLen = some 0 := by rw [hT]; rfl
  have h := ((mcv_pre_not (G := G) (d := d) hX hv hfree).1 0 hm).ends (b := 5)
    (Ends.step (Steps.if_word (b := false) rfl (bind_eq mcv_args.2.2.1
        (by simp only [List.map, tmplValue_var, mcvVars2]; rw [get_set, if_pos rfl]; rfl)) mcv_findIf4 hctx hc4)
      (mcv_tail17 (fnd := sFalse) (kh := (vars.get mKH).getD [])
        (by rw [get_mcvVars2 vars _ mFound (mNe .found .notEmpty) (mOut .found), get_set, if_pos rfl])
        (by rw [get_mcvVars2 vars _ mKH (mNe .kH .notEmpty) (mOut .kH), get_set, if_neg (mNe .kH .found)])))
  rw [ifStP_eq (s := mieSt s a) hctx] at h
  exact h

theorem mcv_post_empty (h0 : Str) (s : ScriptSt) (vars : Vars) (a kh : Str)
    (hfree : tget s.coll.tbl (Coll.handleName s.coll.next) = none) (hinv : MInv s s.ifMeta s.forMeta s.endTable)
    (hkh : kh ≠ h0 → tget s.coll.tbl kh = none) :
    MBodyPost h0 s (mcvEmptySt s a kh) vars (mcvVars2 vars false) 1 [] := by
  refine ⟨hinv.afterIf 4 16 (.inl ⟨rfl, rfl⟩), rfl, rfl, rfl, ?_, clear_mcvVars2 vars false⟩
  intro k hk0
  show tget (tremove (mieSt s a).coll.tbl kh) k = _
  rw [tget_tremove, tget_mieSt s a k hfree]
  by_cases e : k = kh
  · rw [if_pos e, e, hkh (fun e' => hk0 (e.trans e'))]
  · rw [if_neg e]

/-- the argument names a map with entries: the loop over its keys -/
theorem mcv_body_loop (h0 : Str) (d : Nat) (s : ScriptSt) (vars : Vars) (a v : Str) (m : List (Str × Item)) (hX : ArgOK a = true)
    (hctx : s.ctx = mScope) (hv1 : vars.get mArg1 = some a) (hv2 : vars.get mArg2 = some v)
    (hfree : tget s.coll.tbl (Coll.handleName s.coll.next) = none)
    (hfree1 : tget s.coll.tbl (Coll.handleName (s.coll.next + 1)) = none)
    (hT : tget s.coll.tbl a = some (.map m)) (hne : m ≠ [])
    (hstale : NoStaleFor mScope s.forStack) (hinv : MInv s s.ifMeta s.forMeta s.endTable) :
    ∃ vars' s',
      (∀ G, Ends (G + 2 + 2) (d + 2) mcvIs (6 * m.length + 16) ⟨0, none, vars, s⟩
        (.finished (some (boolStr ((sortStr (m.map Prod.fst)).any (hitB m v)))), vars', s')) ∧
      MBodyPost h0 s s' vars vars' 2
        ((if (sortStr (m.map Prod.fst)).any (hitB m v) then [ifEntry 12 14 mScope] else []) ++ [ifEntry 4 16 mScope]) := by
  have hlen : (sortStr (m.map Prod.fst)).length = m.length := by rw [length_sortStr, List.length_map]
  have hpre := fun G => mcv_pre_loop (F := G + 2 + 2) (d := d + 1) (fo := some (boolStr true)) (v := v) hctx hv1 hv2 hfree hT hinv.c4
  have hKm := fun k (hk : k ∈ sortStr (m.map Prod.fst)) => mget_isSome_of_mem m k ((mem_sortStr _ _).mp hk)
  generalize sortStr (m.map Prod.fst) = K at hlen hpre hKm ⊢
  have hTa : tget (mcvKeysSt s a K).coll.tbl a = some (.map m) := by
    show tget (tinsert (mieSt s a).coll.tbl (Coll.handleName (s.coll.next + 1)) _) a = _
    rw [tget_tinsert, if_neg (by intro e; rw [e, hfree1] at hT; cases hT), tget_mieSt s a a hfree, hT]
  have hV : MVars (clear mieScope vars) (mcvVars8 vars v (Coll.handleName (s.coll.next + 1))) a v
      (Coll.handleName (s.coll.next + 1)) := by
    refine ⟨?_, ?_, ?_, ?_⟩ <;> unfold mcvVars8
    · rw [get_set, if_neg (mNe .arg1 .kH), get_set, if_neg (mNe .arg1 .value),
        get_mcvVars2 vars true mArg1 (mNe .arg1 .notEmpty) (mOut .arg1), get_set, if_neg (mNe .arg1 .found), hv1]
    · rw [get_set, if_neg (mNe .value .kH), get_set, if_pos rfl]
    · rw [get_set, if_pos rfl]
    · rw [clear_set_under _ _ _ _ (mcvVars.under .kH), clear_set_under _ _ _ _ (mcvVars.under .value), clear_mcvVars2]
  have hinv8 : MInv s (mcvKeysSt s a K).ifMeta s.forMeta (mcvKeysSt s a K).endTable := by
    unfold mcvKeysSt; rw [ifStP_eq (s := mieSt s a) hctx]; exact hinv.afterIf 4 16 (.inl ⟨rfl, rfl⟩)
  obtain ⟨⟨br, vars', s'⟩, hrun, hres, hpost⟩ := mcv_block.run_ends (d := d + 1) (s := mcvKeysSt s a K)
    (fo := some (Coll.handleName (s.coll.next + 1)))
    (MIter s (mcvKeysSt s a K) (clear mieScope vars) a v (Coll.handleName (s.coll.next + 1)) m K
      (mcvKeysSt s a K).coll.tbl (K.any (hitB m v)) 0) 0 4 5 13 (by omega)
    (fun _ _ _ y h => h.setItem y) (fun _ _ _ st h => h.setStack st) (mcv_step hTa hKm)
    (mcv_exit (by have := List.length_pos_iff.mpr hne; omega))
    hctx (popFor_noStale 8 mScope _ hstale) hinv.c8 (by rw [hV.kh]; rfl)
    (by show tget (tinsert _ _ _) _ = _; rw [tget_tinsert]; exact if_pos rfl)
    ⟨hV, rfl, by rw [forSt_eq (s := mcvKeysSt s a _) hctx]; exact hinv8.afterFor,
      by rw [forSt_eq (s := mcvKeysSt s a _) hctx]
         exact (get_put_lineKey_ne _ _ (by omega)).trans (ifStP_endT (s := mieSt s a) hctx 4 16 true),
      fun _ => rfl, rfl, rfl, fun h => absurd h (Nat.lt_irrefl 0)⟩
  simp only at hres
  subst hres
  refine ⟨vars', s', ?_, ?_⟩
  · intro G
    have hm : (tget s.coll.tbl a).bind mieLen = some m.length := by rw [hT]; rfl
    have hnz : (!decide (m.length = 0)) = true := by
      cases m with
      | nil => exact absurd rfl hne
      | cons p r => simp
    have h48 := ((mcv_pre_not (G := G) (d := d) hX hv1 hfree).1 m.length hm).trans (b := 4) (by rw [hnz]; exact hpre G)
    exact (h48.ends (hrun (G + 2 + 2))).mono (by rw [List.length_map]; omega)
  · refine ⟨hpost.inv, hpost.forStack, ?_, ?_, ?_, hpost.clr⟩
    · rw [hpost.ifStack]; simp [mcvKeysSt, ifStP, mieSt, hctx]
    · rw [hpost.next]; rfl
    · intro k _
      by_cases e : k = Coll.handleName (s.coll.next + 1)
      · rw [e, hpost.gone, hfree1]
      · rw [hpost.other k e]
        show tget (tinsert (mieSt s a).coll.tbl (Coll.handleName (s.coll.next + 1)) _) k = _
        rw [tget_tinsert, if_neg e, tget_mieSt s a k hfree]

/-! ### the call -/

/-- number of entries of the map named by `a` (0 when `a` names no map) -/
def mapLen (t : Table) (a : Str) : Nat :=
  match tget t a with
  | some (.map m) => m.length
  | _ => 0

/-- the answer of `map_contains_value a v` run from source -/
def mcvRes (t : Table) (a v : Str) : CmdResult :=
  match tget t a with
  | some (.map m) => .continue (some (boolStr ((sortStr (m.map Prod.fst)).any (hitB m v))))
  | _ => .error (msg "flow control error")

/-- allocator names drawn: the argument array, the argument array of the nested `map_is_empty`,
    the key array (only for a map with entries) -/
def mcvAlloc (t : Table) (a : Str) : Nat :=
  match tget t a with
  | some (.map (_ :: _)) => 3
  | _ => 2

/-- the if-call entries that stay on the if call stack (`end_if` never pops): the outer block's
    for a map with entries, the inner block's when the value was found -/
def mcvPushed (t : Table) (a v : Str) : List IfCall :=
  match tget t a with
  | some (.map (p :: r)) =>
    (if (sortStr ((p :: r).map Prod.fst)).any (hitB (p :: r) v) then [ifEntry 12 14 mScope] else []) ++ [ifEntry 4 16 mScope]
  | _ => []

/-- what one call leaves: the answer, the caller's table, the frame, the three cached block ends -/
structure McvCallPost (st : ScriptSt) (vars : Vars) (a v : Str) (r : CmdResult × Vars × ScriptSt) : Prop where
  res : r.1 = mcvRes st.coll.tbl a v
  tbl : LookupEq r.2.2.coll.tbl st.coll.tbl
  frame : LoopFrame mScope (mcvAlloc st.coll.tbl a) (clear mScope (clear mieScope vars)) (mcvPushed st.coll.tbl a v) st r
  c4 : IfCacheOK r.2.2.ifMeta (mKey 4) 16
  c12 : IfCacheOK r.2.2.ifMeta (mKey 12) 14
  c8 : CacheOK r.2.2.forMeta (mKey 8) 15

theorem mcv_alias_post (st : ScriptSt) (vars : Vars) (a v : Str) (rest : List Str)
    (hfree : tget st.coll.tbl (Coll.handleName st.coll.next) = none)
    (br : BodyResult) (vars' : Vars) (s' : ScriptSt) (alloc : Nat) (pushed : List IfCall)
    (hpost : MBodyPost (Coll.handleName st.coll.next) (pubSt mScope (a :: v :: rest) st) s'
      (pubVars mScope (a :: v :: rest) vars st) vars' alloc pushed)
    (hres : resultOf br = mcvRes st.coll.tbl a v) (halloc : alloc + 1 = mcvAlloc st.coll.tbl a)
    (hpushed : pushed = mcvPushed st.coll.tbl a v) :
    McvCallPost st vars a v
      (resultOf br, clear mScope vars',
        { s' with coll := { tbl := tremove s'.coll.tbl (Coll.handleName st.coll.next), next := s'.coll.next },
                  ctx := st.ctx }) := by
  have hclr : clear mScope vars' = clear mScope (clear mieScope vars) := by
    rw [hpost.clr, clear_comm, clear_pubVars, clear_comm]
  refine ⟨hres, ?_, ⟨hclr, ?_, rfl, ?_, hpost.forStack, hpost.inv.ifMeta, hpost.inv.forMeta, hpost.inv.endTable⟩,
    hpost.inv.c4, hpost.inv.c12, hpost.inv.c8⟩
  · exact lookupEq_unpublish mScope st _ hfree hpost.tbl
  · show s'.coll.next = _
    rw [hpost.next, ← halloc]
    show st.coll.next + 1 + alloc = _
    omega
  · show s'.ifStack = _
    rw [hpost.ifStack, hpushed]; rfl

theorem mcv_alias_len (vars vars' : Vars) (st : ScriptSt) (args : List Str)
    (hclr : clear mScope vars' = clear mScope (clear mieScope (pubVars mScope args vars st))) :
    (clear mScope vars').length ≤ vars.length := by
  rw [hclr, clear_comm, clear_pubVars]
  exact Nat.le_trans (clear_length_le _ _) (clear_length_le _ _)


/-- the wrapper around a body that ends within the budget -/
theorem mcv_wrap (depth : Nat) (a v : Str) (rest : List Str) (vars : Vars) (st : ScriptSt) {br : BodyResult} {vars' : Vars}
    {s' : ScriptSt} {n : Nat} (hn : n ≤ 6 * mapLen st.coll.tbl a + 16)
    (hrun : ∀ G, Ends (G + 2 + 2) (depth + 2) mcvIs n
      ⟨0, none, pubVars mScope (a :: v :: rest) vars st, pubSt mScope (a :: v :: rest) st⟩ (br, vars', s'))
    (hclr : clear mScope vars' = clear mScope (clear mieScope (pubVars mScope (a :: v :: rest) vars st))) (k : Nat) :
    runScriptCmdF (depth + 2) (k + 6 * mapLen st.coll.tbl a + 16) "map_contains_value".toList (a :: v :: rest) vars st =
      (resultOf br, clear mScope vars',
        { s' with coll := { tbl := tremove s'.coll.tbl (Coll.handleName st.coll.next), next := s'.coll.next },
                  ctx := st.ctx }) := by
  rw [Nat.add_assoc]
  exact runScriptCmdF_of_ends (findScript_of_resolve rs_map_contains_value) mcv_parses (F0 := 2 + 2)
    (by show ¬ (a :: v :: rest).length < 2; simp) (by simp) (by omega) hn hrun (mcv_alias_len vars _ st _ hclr) k

section call
variable (depth : Nat) (a v : Str) (rest : List Str) (vars : Vars) (st : ScriptSt)
  (hfree : tget st.coll.tbl (Coll.handleName st.coll.next) = none)
  (hfree1 : tget st.coll.tbl (Coll.handleName (st.coll.next + 1)) = none)
  (hok : ArgOK a = true)
  (hc4 : IfCacheOK st.ifMeta (mKey 4) 16) (hc12 : IfCacheOK st.ifMeta (mKey 12) 14)
  (hc8 : CacheOK st.forMeta (mKey 8) 15)
include hfree hfree1 hok hc4 hc12 hc8

omit hfree hok in
theorem mcv_pub_facts :
    Vars.get (pubVars mScope (a :: v :: rest) vars st) mArg1 = some a ∧
    Vars.get (pubVars mScope (a :: v :: rest) vars st) mArg2 = some v ∧
    (Vars.get (pubVars mScope (a :: v :: rest) vars st) mKH).getD [] = (vars.get mKH).getD [] ∧
    tget (pubSt mScope (a :: v :: rest) st).coll.tbl (Coll.handleName (pubSt mScope (a :: v :: rest) st).coll.next) = none ∧
    MInv (pubSt mScope (a :: v :: rest) st) (pubSt mScope (a :: v :: rest) st).ifMeta
      (pubSt mScope (a :: v :: rest) st).forMeta (pubSt mScope (a :: v :: rest) st).endTable := by
  exact ⟨mArg1_eq ▸ get_pubVars_arg1 .., mArg2_eq ▸ get_pubVars_arg2 .., congrArg (·.getD []) (get_pubVars_mKH _ vars st),
    tget_pubSt_next mScope st _ hfree1, ⟨fun _ _ => rfl, fun _ _ => rfl, fun _ _ => rfl, hc4, hc12, hc8⟩⟩

/-- the argument names no map -/
theorem mcv_call_err (hnm : ∀ m, tget st.coll.tbl a ≠ some (.map m)) :
    ∃ r, (∀ k, runScriptCmdF (depth + 2) (k + 6 * mapLen st.coll.tbl a + 16) "map_contains_value".toList
            (a :: v :: rest) vars st = r) ∧
      McvCallPost st vars a v r := by
  obtain ⟨ha1, _, _, hfreeS, hinv⟩ := mcv_pub_facts a v rest vars st hfree1 hc4 hc12 hc8
  have hnm' : (tget (pubSt mScope (a :: v :: rest) st).coll.tbl a).bind mieLen = none := by
    simp only [pubSt, tget_tinsert]
    by_cases e : a = Coll.handleName st.coll.next
    · simp [e, mieLen]
    · rw [if_neg e]
      cases hv : tget st.coll.tbl a with
      | none => rfl
      | some w =>
        cases w with
        | map m => exact absurd hv (hnm m)
        | _ => rfl
  -- the three descriptions of the call's outcome, for a name that names no map
  have h3 : resultOf (.error (msg "flow control error")) = mcvRes st.coll.tbl a v ∧ 1 + 1 = mcvAlloc st.coll.tbl a ∧
      [] = mcvPushed st.coll.tbl a v := by
    unfold mcvRes mcvAlloc mcvPushed
    cases hv : tget st.coll.tbl a with
    | none => exact ⟨rfl, rfl, rfl⟩
    | some w =>
      cases w with
      | map m => exact absurd hv (hnm m)
      | _ => exact ⟨rfl, rfl, rfl⟩
  have hpost := mcv_post_err (Coll.handleName st.coll.next) (pubSt mScope (a :: v :: rest) st)
    (pubVars mScope (a :: v :: rest) vars st) a hfreeS hinv
  exact ⟨_, mcv_wrap depth a v rest vars st (by omega) (fun G => (mcv_pre_not (G := G) (d := depth) hok ha1 hfreeS).2 hnm')
    hpost.clr, mcv_alias_post st vars a v rest hfree _ _ _ 1 [] hpost h3.1 h3.2.1 h3.2.2⟩

/-- the argument names an empty map -/
theorem mcv_call_empty (hv : tget st.coll.tbl a = some (.map []))
    (hkh : tget st.coll.tbl ((vars.get mKH).getD []) = none) :
    ∃ r, (∀ k, runScriptCmdF (depth + 2) (k + 6 * mapLen st.coll.tbl a + 16) "map_contains_value".toList
            (a :: v :: rest) vars st = r) ∧
      McvCallPost st vars a v r := by
  obtain ⟨ha1, _, hkh', hfreeS, hinv⟩ := mcv_pub_facts a v rest vars st hfree1 hc4 hc12 hc8
  have hT : tget (pubSt mScope (a :: v :: rest) st).coll.tbl a = some (.map []) :=
    (tget_pubSt_ne mScope st _ (by intro e; rw [e, hfree] at hv; cases hv)).trans hv
  have hpost := mcv_post_empty (Coll.handleName st.coll.next) (pubSt mScope (a :: v :: rest) st)
    (pubVars mScope (a :: v :: rest) vars st) a ((Vars.get (pubVars mScope (a :: v :: rest) vars st) mKH).getD [])
    hfreeS hinv
    (by rw [hkh']; exact fun e => (tget_pubSt_ne mScope st _ e).trans hkh)
  exact ⟨_, mcv_wrap depth a v rest vars st (by omega) (fun G => mcv_body_empty G depth _ _ a hok rfl ha1 hfreeS hT hc4) hpost.clr,
    mcv_alias_post st vars a v rest hfree (.finished (some sFalse)) _ _ 1 [] hpost
      (by simp [mcvRes, hv, resultOf, sortStr, boolStr]) (by simp [mcvAlloc, hv]) (by simp [mcvPushed, hv])⟩

/-- the argument names a map with entries -/
theorem mcv_call_loop (hfree2 : tget st.coll.tbl (Coll.handleName (st.coll.next + 2)) = none)
    (hstale : NoStaleFor mScope st.forStack)
    (p : Str × Item) (m : List (Str × Item)) (hv : tget st.coll.tbl a = some (.map (p :: m))) :
    ∃ r, (∀ k, runScriptCmdF (depth + 2) (k + 6 * mapLen st.coll.tbl a + 16) "map_contains_value".toList
            (a :: v :: rest) vars st = r) ∧
      McvCallPost st vars a v r := by
  obtain ⟨ha1, ha2, _, hfreeS, hinv⟩ := mcv_pub_facts a v rest vars st hfree1 hc4 hc12 hc8
  have hT : tget (pubSt mScope (a :: v :: rest) st).coll.tbl a = some (.map (p :: m)) :=
    (tget_pubSt_ne mScope st _ (by intro e; rw [e, hfree] at hv; cases hv)).trans hv
  obtain ⟨vars', s', hrun, hpost⟩ := mcv_body_loop (Coll.handleName st.coll.next) depth (pubSt mScope (a :: v :: rest) st)
    (pubVars mScope (a :: v :: rest) vars st) a v (p :: m) hok rfl ha1 ha2 hfreeS
    ((tget_pubSt_ne mScope st _ (handleName_ne (show st.coll.next + 1 + 1 ≠ st.coll.next by omega))).trans hfree2) hT (by simp) hstale hinv
  refine ⟨_, mcv_wrap depth a v rest vars st (by simp [mapLen, hv]) hrun hpost.clr, mcv_alias_post st vars a v rest hfree
    (.finished (some (boolStr ((sortStr ((p :: m).map Prod.fst)).any (hitB (p :: m) v))))) vars' s' 2 _ hpost
    (by unfold mcvRes; rw [hv]; rfl) (by unfold mcvAlloc; rw [hv]) (by unfold mcvPushed; rw [hv])⟩

end call

/-- one call with at least two arguments, uniformly in the instruction budget: every budget of
    at least `6·(entries of the map) + 16` instructions gives the same run `r` -/
theorem mcv_call (depth : Nat) (a v : Str) (rest : List Str) (vars : Vars) (st : ScriptSt)
    (hfree : tget st.coll.tbl (Coll.handleName st.coll.next) = none)
    (hfree1 : tget st.coll.tbl (Coll.handleName (st.coll.next + 1)) = none)
    (hfree2 : tget st.coll.tbl (Coll.handleName (st.coll.next + 2)) = none)
    (hok : ArgOK a = true)
    (hstale : NoStaleFor mScope st.forStack)
    (hc4 : IfCacheOK st.ifMeta (mKey 4) 16) (hc12 : IfCacheOK st.ifMeta (mKey 12) 14)
    (hc8 : CacheOK st.forMeta (mKey 8) 15)
    (hkh : tget st.coll.tbl ((vars.get mKH).getD []) = none) :
    ∃ r, (∀ k, runScriptCmdF (depth + 2) (k + 6 * mapLen st.coll.tbl a + 16) "map_contains_value".toList
            (a :: v :: rest) vars st = r) ∧
      McvCallPost st vars a v r := by
  by_cases hm : ∃ m, tget st.coll.tbl a = some (.map m)
  · obtain ⟨m, hv⟩ := hm
    cases m with
    | nil => exact mcv_call_empty depth a v rest vars st hfree hfree1 hok hc4 hc12 hc8 hv hkh
    | cons p m => exact mcv_call_loop depth a v rest vars st hfree hfree1 hok hc4 hc12 hc8 hfree2 hstale p m hv
  · exact mcv_call_err depth a v rest vars st hfree hfree1 hok hc4 hc12 hc8 (fun m e => hm ⟨m, e⟩)

end Duck.ScriptRun
