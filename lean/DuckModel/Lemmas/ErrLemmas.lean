/-
  Lemmas for the malformed-line classes of C08 (the classes themselves: Props/C08Core.lean): what
  trimming leaves of an escaped text, a quote where a name is expected, a backslash inside a name,
  and a malformed quoted argument after a well-formed command (`junk_after_command`).
-/
import DuckModel.Lemmas.RenderLemmas

namespace Duck
open Duck.Spec

theorem escChar_cases (c : Char) :
    (∀ x ∈ escChar c, isWs x = false) ∨ (escChar c = [c] ∧ isWs c = true) := by
  rcases escChar_shape c with h | ⟨d, h, hd⟩
  · cases hw : isWs c with
    | true => exact Or.inr ⟨h, rfl⟩
    | false => left; rw [h]; simpa using hw
  · left; rw [h]; simpa using ⟨by decide, hd⟩

/-- trimming the end of an escaped text plus white space leaves an escaped text -/
theorem trimEnd_escape (s trail : Str) (ht : ∀ x ∈ trail, isWs x = true) :
    ∃ s1, trimEnd (escape s ++ trail) = escape s1 := by
  induction s with
  | nil => exact ⟨[], by simp [escape_nil, trimEnd_ws trail ht]⟩
  | cons c t ih =>
    obtain ⟨s1, hs1⟩ := ih
    rw [escape_cons, List.append_assoc]
    rcases escChar_cases c with h | ⟨he, hw⟩
    · exact ⟨c :: s1, by rw [trimEnd_append_nonws _ _ h, hs1, escape_cons]⟩
    · rw [he, List.singleton_append, trimEnd_cons_ws c _ hw, hs1]
      by_cases hn : escape s1 = []
      · exact ⟨[], by simp [hn, escape_nil]⟩
      · exact ⟨c :: s1, by simp [hn, escape_cons, he]⟩

/-! ### quotes where a name is expected -/

theorem parseNextValue_quote_err (fl : PVFlags) (h : fl.allowQuotes = false) (r : Str) :
    parseNextValue fl ('"' :: r) = .error .invalidQuotesLocation := by
  rw [parseNextValue_eq, pvLoop]
  simp [pvStep, h]

theorem quote_starts_label (rest : Str) :
    parseLine (':' :: '"' :: rest) = .error .invalidQuotesLocation := by
  have e : trim (':' :: '"' :: rest) = ':' :: '"' :: trimEnd rest := by
    simpa using trim_mid [] ':' [] '"' rest (by simp) (by decide) (by decide)
  rw [parseLine_of_trim_cmd _ _ _ e (by decide) (by decide)]
  exact parseCommandLine_error_of_label (parseNextValue_quote_err nameFlags rfl _)

/-! ### a backslash inside a name -/

theorem parseNextValue_tok_backslash (fl : PVFlags) (h1 : fl.controlAsChar = false)
    (h2 : fl.allowControl = false) (nm r : Str) (h : ∀ x ∈ nm, TokChar fl x)
    (hq : nm.head? ≠ some '"') :
    parseNextValue fl (nm ++ '\\' :: r) = .error .invalidControlLocation := by
  cases nm with
  | nil =>
    rw [parseNextValue_eq, List.nil_append, pvLoop]
    simp [pvStep, h1, h2]
  | cons c t =>
    rw [parseNextValue_eq, pvLoop_tok fl c t _ h (by simpa using hq), pvLoop]
    simp [pvStep, h1, h2]

/-- without its hypothesis `hlabel` the statement of `C08_backslash_in_name` is false in the model:
    with `lead = []`, `p = [':', '"']`, `rest = []` the line is `:"\` and the parser reports the
    quote first. -/
theorem backslash_in_name_counterexample :
    ¬ (∀ (lead p rest : Str), (∀ c ∈ lead, isWs c = true) →
      (p ≠ [] ∧ (∀ c ∈ p, isWs c = false ∧ c ≠ '#' ∧ c ≠ '\\' ∧ c ≠ '=') ∧ p.head? ≠ some '"' ∧
        p.head? ≠ some '!') →
      parseLine (lead ++ p ++ '\\' :: rest) = .error .invalidControlLocation) := by
  intro h
  have h1 := h [] [':', '"'] [] (by simp) (by decide)
  have h2 := quote_starts_label ['\\']
  simp only [List.nil_append, List.cons_append] at h1
  rw [h2] at h1
  cases h1

/-! ### malformed quoted argument after a well-formed command -/

theorem parseArgsLoop_unterminated (k : Nat) (s : Str) :
    parseArgsLoop false (' ' :: (spaces k ++ '"' :: escape s)) = .error .missingEndQuotes := by
  apply parseArgsLoop_error
  rw [← List.cons_append, ← spaces_succ, parseNextValue_spaces, parseNextValue_eq, pvLoop_open_quote]
  have := pvLoop_escape true s [] [] (Or.inl rfl)
  simp only [List.append_nil, List.nil_append] at this
  rw [this]
  simp [pvLoop, pvFinish]

theorem parseArgsLoop_bad_escape (k : Nat) (s : Str) (c : Char) (rest : Str)
    (hbad : c ≠ '\\' ∧ c ≠ '"' ∧ c ≠ 'n' ∧ c ≠ 'r' ∧ c ≠ 't' ∧ c ≠ '$') :
    parseArgsLoop false (' ' :: (spaces k ++ '"' :: (escape s ++ '\\' :: c :: rest))) =
      .error .controlWithoutValidValue := by
  obtain ⟨h1, h2, h3, h4, h5, h6⟩ := hbad
  apply parseArgsLoop_error
  rw [← List.cons_append, ← spaces_succ, parseNextValue_spaces, parseNextValue_eq, pvLoop_open_quote,
    pvLoop_escape true _ _ _ (Or.inl rfl)]
  simp [pvLoop, pvStep, argFlags, h1, h2, h3, h4, h5, h6]

/-- a well-formed command followed by blanks and then text whose last visible character is `d`:
    the line fails with whatever the argument loop says about that text (which starts with a
    double quote once its trailing blanks are gone) -/
theorem junk_after_command (ch : Choices) (i : ScriptInstr) (hi : InstrOK i) (hc : ChoicesOK ch)
    (hcmd : i.command ≠ none) (hnc : ch.comment = none) (k : Nat) (p : Str) (d : Char) (rest q : Str)
    (hd : isWs d = false) (hq : p ++ d :: trimEnd rest = '"' :: q) (e : PErr)
    (herr : parseArgsLoop false (' ' :: (spaces k ++ '"' :: q)) = .error e) :
    parseLine (ch.lead ++ renderBody ch i ++ spaces (k + 1) ++ p ++ d :: rest) = .error e := by
  obtain ⟨label, output, command, args⟩ := i
  cases command with
  | none => exact absurd rfl hcmd
  | some c =>
    have hcc := hi.command c rfl
    obtain ⟨x, r, hshape, hws, hh, hb⟩ :=
      first_char_cmd label ch.afterLabel output ch.eqBefore ch.eqAfter c hi.label hi.output hcc
    have hlead : ∀ c ∈ ch.lead, isWs c = true := fun c h => (hc.lead c h).1
    have e0 : ch.lead ++ renderBody ch ⟨label, output, some c, args⟩ ++ spaces (k + 1) ++ p ++
          d :: rest =
        ch.lead ++ x :: ((r ++ renderArgs ch.args 0 (args.getD []) ++ spaces (k + 1) ++ p) ++
          d :: rest) := by
      rw [renderBody_cmd, hnc, hshape]; simp [renderComment]
    rw [e0, parseLine_of_trim_cmd _ _ _ (trim_mid ch.lead x _ d _ hlead hws hd) hh hb]
    have e1 : x :: ((r ++ renderArgs ch.args 0 (args.getD []) ++ spaces (k + 1) ++ p) ++
          d :: trimEnd rest) =
        lblPart label ch.afterLabel ++ (outPart output ch.eqBefore ch.eqAfter ++
          (c ++ (renderArgs ch.args 0 (args.getD []) ++ ' ' :: (spaces k ++ '"' :: q)))) := by
      rw [hshape, ← hq]; simp [spaces_succ]
    rw [e1]
    exact parseCommandLine_cmd_err _ _ _ _ _ c _ _ _ _ hi.label hi.output hcc
      (noEqAhead_spaces k (noEqAhead_cons '"' _ (by decide) (by decide))) herr

end Duck
