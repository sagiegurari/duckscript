/-
  The reader of binary64 literals (`parseLit`, Sdk/F64.lean) against the concrete syntax of
  Spec/F64Grammar.lean: it accepts every well-formed literal with its denotation and nothing else;
  integer literals are literals with exponent 0; the two commands on read literals.
-/
import DuckModel.Sdk.F64
import DuckModel.Spec.F64Order
import DuckModel.Spec.F64Grammar
import DuckModel.Sdk.Strings
import DuckModel.Lemmas.CharCodeLemmas

namespace Duck.F64

/-! ### integer literals (what `str::parse::<i64>` accepts) are `f64` literals with exponent 0 -/

/-- a run of digits followed by a non-digit (or nothing) is cut exactly there -/
theorem span_digits (l rest : List Char) (hall : l.all isDigit = true)
    (hrest : ∀ c r, rest = c :: r → isDigit c = false) :
    (l ++ rest).takeWhile isDigit = l ∧ (l ++ rest).dropWhile isDigit = rest := by
  induction l with
  | nil =>
    cases rest with
    | nil => simp
    | cons c r => simp [hrest c r rfl]
  | cons c r ih =>
    simp only [List.all_cons, Bool.and_eq_true] at hall
    simp [hall.1, ih hall.2]

theorem foldl_digits_lt (l : List Char) (hall : l.all isDigit = true) (acc : Nat) :
    l.foldl (fun acc c => acc * 10 + (c.toNat - 48)) acc < (acc + 1) * 10 ^ l.length := by
  induction l generalizing acc with
  | nil => simp
  | cons c r ih =>
    simp only [List.all_cons, Bool.and_eq_true] at hall
    have hc : c.toNat - 48 ≤ 9 := by
      have := hall.1
      simp only [isDigit, Bool.and_eq_true, decide_eq_true_eq] at this
      omega
    have := ih hall.2 (acc * 10 + (c.toNat - 48))
    simp only [List.foldl_cons, List.length_cons]
    calc _ < (acc * 10 + (c.toNat - 48) + 1) * 10 ^ r.length := this
      _ ≤ ((acc + 1) * 10) * 10 ^ r.length := Nat.mul_le_mul_right _ (by omega)
      _ = (acc + 1) * 10 ^ (r.length + 1) := by rw [Nat.pow_succ, Nat.mul_assoc, Nat.mul_comm 10]

theorem digitsVal_lt (l : List Char) (hall : l.all isDigit = true) : digitsVal l < 10 ^ l.length := by
  have := foldl_digits_lt l hall 0
  simpa [digitsVal] using this

theorem parseLit_digits (c : Char) (r : List Char) (neg : Bool) (l : List Char) (hne : l ≠ [])
    (hall : l.all isDigit = true) (hl : l = (if c = '-' ∨ c = '+' then r else c :: r))
    (hneg : neg = decide (c = '-')) :
    parseLit (c :: r) = some (.dec neg (digitsVal l) 0) := by
  obtain ⟨htw, hdw⟩ := span_digits l [] hall nofun
  rw [List.append_nil] at htw hdw
  unfold parseLit parseBody
  simp only [← hl, htw, hdw]
  rw [if_neg hne]
  have : ¬ (l.length + 0 = 0) := by
    have := List.length_pos_iff.mpr hne
    omega
  simp [hneg, hne]

theorem parseDigits_some {l : Str} {n : Nat} (h : Strings.parseDigits l = some n) :
    l ≠ [] ∧ l.all isDigit = true ∧ n = digitsVal l := by
  unfold Strings.parseDigits at h
  split at h
  · rename_i hc; cases h; exact ⟨hc.1, hc.2, rfl⟩
  · cases h

theorem parseLit_of_parseInt {s : Str} {v : Int} (h : Strings.parseInt s = some v) :
    ∃ neg n, parseLit s = some (.dec neg n 0) ∧ sgn neg n = v ∧ n < 10 ^ s.length := by
  cases s with
  | nil => simp [Strings.parseInt] at h
  | cons c r =>
    -- the digits `l` read after the sign `neg`
    have key : ∀ (neg : Bool) (l : Str) (n : Nat), l = (if c = '-' ∨ c = '+' then r else c :: r) →
        neg = decide (c = '-') → Strings.parseDigits l = some n →
        ∃ neg' n', parseLit (c :: r) = some (.dec neg' n' 0) ∧ sgn neg' n' = sgn neg n ∧
          n' < 10 ^ (c :: r).length := by
      intro neg l n hl hneg hd
      obtain ⟨hne, hall, rfl⟩ := parseDigits_some hd
      refine ⟨neg, _, parseLit_digits c r neg l hne hall hl hneg, rfl,
        Nat.lt_of_lt_of_le (digitsVal_lt l hall) (Nat.pow_le_pow_right (by decide) ?_)⟩
      rw [hl]; split <;> simp
    simp only [Strings.parseInt] at h
    split at h
    · rename_i hp; subst hp
      obtain ⟨n, hd, rfl⟩ := Option.map_eq_some_iff.mp h
      exact key false r n (by simp) (by decide) hd
    · split at h
      · rename_i hm; subst hm
        obtain ⟨n, hd, rfl⟩ := Option.map_eq_some_iff.mp h
        exact key true r n (by simp) (by decide) hd
      · rename_i hp hm
        obtain ⟨n, hd, rfl⟩ := Option.map_eq_some_iff.mp h
        exact key false (c :: r) n (by simp [hp, hm]) (by simp [hm]) hd

/-! ### the two commands on what the reader returns -/

open Duck.Strings in
theorem compare_parsed {a b : Str} {la lb : Lit} (ha : parseLit a = some la) (hb : parseLit b = some lb) :
    lessThan [a, b] = .bool (F64.lt la.toF64 lb.toF64) ∧
    greaterThan [a, b] = .bool (F64.lt lb.toF64 la.toF64) := by
  simp [lessThan, greaterThan, compareWith, parseF64, ha, hb, F64.gt]

open Duck.Strings in
theorem compare_unparsed {a b : Str} (h : parseLit a = none ∨ parseLit b = none) :
    lessThan [a, b] = .err ∧ greaterThan [a, b] = .err := by
  rcases h with h | h
  · simp [lessThan, greaterThan, compareWith, parseF64, h]
  · cases ha : parseLit a <;> simp [lessThan, greaterThan, compareWith, parseF64, h, ha]

/-! ### the reader accepts every well-formed literal and returns its denotation -/

theorem decVal_eq (l : List Char) : decVal l = digitsVal l := by
  unfold decVal digitsVal
  have : ∀ acc, l.foldl (fun acc c => 10 * acc + (c.toNat - '0'.toNat)) acc =
      l.foldl (fun acc c => acc * 10 + (c.toNat - 48)) acc := by
    induction l with
    | nil => intro acc; rfl
    | cons c r ih => intro acc; simp only [List.foldl_cons]; rw [Nat.mul_comm 10 acc]; exact ih _
  exact this 0

theorem digit_ne {c : Char} (h : isDigit c = true) : c ≠ '-' ∧ c ≠ '+' ∧ c ≠ '.' ∧ c ≠ 'e' ∧ c ≠ 'E' := by
  refine ⟨?_, ?_, ?_, ?_, ?_⟩ <;> (intro hc; subst hc; revert h; decide)

/-- the exponent part, as the reader sees it after the mantissa -/
theorem expText_head (c : NumCst) : ∀ x r, c.expText = x :: r → isDigit x = false ∧ x ≠ '.' := by
  intro x r h
  unfold NumCst.expText at h
  cases hx : c.exp with
  | none => rw [hx] at h; simp [expTextOf] at h
  | some t =>
    obtain ⟨up, es, ed⟩ := t
    rw [hx] at h
    cases up <;> simp [expTextOf] at h <;> (obtain ⟨rfl, _⟩ := h; exact ⟨by decide, by decide⟩)

/-- the sign of the exponent, as `parseBody` splits it off -/
def expSign (r3 : List Char) : Bool × List Char :=
  match r3 with
  | x :: r' => if x = '-' then (true, r') else if x = '+' then (false, r') else (false, r3)
  | [] => (false, r3)

/-- what `parseBody` makes of the text after the mantissa: nothing, or `e|E [+-] digits+` -/
def expTail (neg : Bool) (mant k : Nat) (t : List Char) : Option Lit :=
  match t with
  | [] => some (.dec neg mant (-(k : Int)))
  | e :: r3 =>
    if e = 'e' ∨ e = 'E' then
      let sg := expSign r3
      if sg.2 ≠ [] ∧ sg.2.all isDigit = true then
        let ev : Int := digitsVal sg.2
        some (.dec neg mant ((if sg.1 then -ev else ev) - (k : Int)))
      else none
    else none

/-- the fraction digits and what follows them, as `parseBody` splits the text after the integer digits -/
def fracSplit (r0 : List Char) : List Char × List Char :=
  match r0 with
  | d :: r1 => if d = '.' then (r1.takeWhile isDigit, r1.dropWhile isDigit) else ([], r0)
  | [] => ([], [])

theorem parseBody_eq (neg : Bool) (body : Str) : parseBody neg body =
    if body = [] then none
    else
      let fp := fracSplit (body.dropWhile isDigit)
      if (body.takeWhile isDigit).length + fp.1.length = 0 then parseInfNan neg body
      else expTail neg (digitsVal (body.takeWhile isDigit ++ fp.1)) fp.1.length fp.2 := rfl

theorem all_isDec {l : List Char} : l.all isDec = true ↔ l.all isDigit = true := Iff.rfl

/-- a written exponent is well formed: digits are required (the fourth conjunct of `NumCst.WF`,
    named so that the lemmas about the exponent part can speak of it alone) -/
def ExpWF (ex : Option (Bool × Option Bool × List Char)) : Prop :=
  ∀ up es ed, ex = some (up, es, ed) → ed ≠ [] ∧ ed.all isDec = true

theorem expSign_signText (es : Option Bool) {d : Char} (ds : List Char) (hd : isDigit d = true) :
    expSign (signText es ++ d :: ds) = (es == some true, d :: ds) := by
  obtain ⟨n1, n2, _⟩ := digit_ne hd
  rcases es with _ | _ | _ <;> simp [expSign, signText, n1, n2]

theorem expSign_spec (r3 : List Char) :
    ∃ es, r3 = signText es ++ (expSign r3).2 ∧ (expSign r3).1 = (es == some true) := by
  unfold expSign
  split
  · split
    · exact ⟨some true, by simp [signText, *], rfl⟩
    · split
      · exact ⟨some false, by simp [signText, *], rfl⟩
      · exact ⟨none, rfl, rfl⟩
  · exact ⟨none, rfl, rfl⟩

/-- the exponent part the reader accepts is exactly a well-formed written exponent -/
theorem expTail_eq_some (neg : Bool) (mant k : Nat) (t : List Char) (l : Lit) :
    expTail neg mant k t = some l ↔
      ∃ ex, ExpWF ex ∧ t = expTextOf ex ∧ l = .dec neg mant (expValOf ex - (k : Int)) := by
  constructor
  · intro h
    unfold expTail at h
    split at h
    · exact ⟨none, by simp [ExpWF], rfl, by cases h; simp [expValOf]⟩
    · rename_i e r3
      split at h
      · rename_i he
        obtain ⟨es, hr, hs⟩ := expSign_spec r3
        simp only [hs] at h
        split at h
        · rename_i hc
          refine ⟨some (decide (e = 'E'), es, (expSign r3).2), ?_, ?_, ?_⟩
          · intro up es' ed hq; cases hq; exact hc
          · have hmark : e = (if decide (e = 'E') = true then 'E' else 'e') := by
              rcases he with he | he <;> subst he <;> decide
            rw [expTextOf, ← hr, ← hmark]
          · cases h; rcases es with _ | _ | _ <;> simp [expValOf, decVal_eq]
        · cases h
      · cases h
  · rintro ⟨ex, hex, rfl, rfl⟩
    rcases ex with _ | ⟨up, es, ed⟩
    · simp [expTail, expTextOf, expValOf]
    · obtain ⟨hed, hall⟩ := hex up es ed rfl
      rw [all_isDec] at hall
      cases ed with
      | nil => exact absurd rfl hed
      | cons d ds =>
        have hd : isDigit d = true := by
          simp only [List.all_cons, Bool.and_eq_true] at hall; exact hall.1
        have hmark : ((if up = true then 'E' else 'e') = 'e' ∨ (if up = true then 'E' else 'e') = 'E') := by
          cases up <;> simp
        simp only [expTail, expTextOf, hmark, if_true, expSign_signText es ds hd]
        rcases es with _ | _ | _ <;> simp [expValOf, hall, decVal_eq]


/-- the fraction part as written: nothing, or a point and digits -/
def fracText : Option (List Char) → Str
  | none => []
  | some f => '.' :: f

theorem render_eq (c : NumCst) :
    c.render = signText c.sign ++ (c.ip ++ (fracText c.frac ++ expTextOf c.exp)) := by
  unfold NumCst.render NumCst.expText; cases c.frac <;> rfl

theorem fracSplit_fracText (frac : Option (List Char)) (rest : List Char)
    (hf : (frac.getD []).all isDigit = true)
    (hrest : ∀ x r, rest = x :: r → isDigit x = false ∧ x ≠ '.') :
    fracSplit (fracText frac ++ rest) = (frac.getD [], rest) := by
  cases frac with
  | none =>
    cases rest with
    | nil => rfl
    | cons x r => simp [fracSplit, fracText, (hrest x r rfl).2]
  | some f =>
    obtain ⟨h1, h2⟩ := span_digits f rest hf (fun x r h => (hrest x r h).1)
    simp [fracSplit, fracText, h1, h2]

theorem fracSplit_spec (r0 : List Char) :
    ∃ frac, r0 = fracText frac ++ (fracSplit r0).2 ∧ frac.getD [] = (fracSplit r0).1 ∧
      (fracSplit r0).1.all isDigit = true := by
  unfold fracSplit
  split
  · rename_i d r1
    split
    · rename_i hd
      refine ⟨some (r1.takeWhile isDigit), ?_, rfl, ?_⟩
      · simp [fracText, hd]
      · exact List.all_takeWhile
    · exact ⟨none, rfl, rfl, rfl⟩
  · exact ⟨none, rfl, rfl, rfl⟩

/-- what the reader makes of an unsigned well-formed numeric literal -/
theorem parseBody_num (neg : Bool) (c : NumCst) (hwf : c.WF) :
    parseBody neg (c.ip ++ (fracText c.frac ++ expTextOf c.exp)) =
      some (.dec neg (decVal (c.ip ++ c.fracDigits)) (c.expVal - (c.fracDigits.length : Int))) := by
  obtain ⟨hip, hfp, hne, hexp⟩ := hwf
  have hE : ∀ x r, expTextOf c.exp = x :: r → isDigit x = false ∧ x ≠ '.' := expText_head c
  have hfs : fracSplit (fracText c.frac ++ expTextOf c.exp) = (c.fracDigits, expTextOf c.exp) :=
    fracSplit_fracText c.frac _ hfp hE
  obtain ⟨htw, hdw⟩ := span_digits c.ip (fracText c.frac ++ expTextOf c.exp) hip (fun x r h => by
    cases hf : c.frac with
    | none => rw [hf] at h; exact (hE x r h).1
    | some f => rw [hf] at h; cases h; rfl)
  have hbody : c.ip ++ (fracText c.frac ++ expTextOf c.exp) ≠ [] := by
    intro h
    obtain ⟨h1, h2⟩ := List.append_eq_nil_iff.mp h
    cases hf : c.frac with
    | none => exact hne (by simp [NumCst.fracDigits, hf, h1])
    | some f => rw [hf] at h2; cases h2
  have hlen : ¬ (c.ip.length + c.fracDigits.length = 0) := by
    rw [← List.length_append, List.length_eq_zero_iff]; exact hne
  rw [parseBody_eq, if_neg hbody]
  simp only [htw, hdw, hfs]
  rw [if_neg hlen, decVal_eq]
  exact (expTail_eq_some ..).mpr ⟨c.exp, hexp, rfl, rfl⟩

/-- `parseLit` takes a written sign off and hands the rest to `parseBody` -/
theorem parseLit_sign (sg : Option Bool) (body : Str)
    (h : sg = none → ∃ x r, body = x :: r ∧ x ≠ '-' ∧ x ≠ '+') :
    parseLit (signText sg ++ body) = parseBody (sg == some true) body := by
  rcases sg with _ | _ | _
  · obtain ⟨x, r, rfl, n1, n2⟩ := h rfl
    simp [signText, parseLit, n1, n2]
  · simp [signText, parseLit]
  · simp [signText, parseLit]

/-- the reader returns the denotation of every well-formed numeric literal, however it is written -/
theorem parseLit_render (c : NumCst) (hwf : c.WF) : parseLit c.render = some c.denote := by
  rw [render_eq, parseLit_sign, parseBody_num _ c hwf]; rfl
  intro _
  obtain ⟨hip, _, hne, _⟩ := hwf
  cases hi : c.ip with
  | cons d ds =>
    have hd : isDigit d = true := by
      rw [hi] at hip; simp only [List.all_cons, Bool.and_eq_true] at hip; exact hip.1
    exact ⟨d, _, List.cons_append, (digit_ne hd).1, (digit_ne hd).2.1⟩
  | nil =>
    cases hf : c.frac with
    | none => rw [hi] at hne; simp [NumCst.fracDigits, hf] at hne
    | some f => exact ⟨'.', _, rfl, by decide, by decide⟩

/-! ### the reader accepts nothing else -/

/-- whatever `parseBody` accepts is the rendering of a well-formed unsigned numeric literal (and the
    result is its denotation), or it went to the `inf` / `nan` words -/
theorem parseBody_complete (neg : Bool) (body : Str) (l : Lit) (h : parseBody neg body = some l) :
    parseInfNan neg body = some l ∨
    ∃ c : NumCst, c.sign = none ∧ c.WF ∧ body = c.render ∧
      l = .dec neg (decVal (c.ip ++ c.fracDigits)) (c.expVal - (c.fracDigits.length : Int)) := by
  rw [parseBody_eq] at h
  split at h
  · cases h
  · obtain ⟨frac, hr0, hfd, hfall⟩ := fracSplit_spec (body.dropWhile isDigit)
    have hsplit := List.takeWhile_append_dropWhile (p := isDigit) (l := body)
    have hipd : (body.takeWhile isDigit).all isDigit = true := by
      exact List.all_takeWhile
    simp only at h
    generalize fracSplit (body.dropWhile isDigit) = fp at *
    generalize body.takeWhile isDigit = ip at *
    split at h
    · left; exact h
    · rename_i hlen
      right
      obtain ⟨ex, hex, ht, hl⟩ := (expTail_eq_some ..).mp h
      have hc : (NumCst.mk none ip frac ex).fracDigits = fp.1 := hfd
      refine ⟨⟨none, ip, frac, ex⟩, rfl, ⟨hipd, by rw [hc]; exact hfall, ?_, hex⟩, ?_, ?_⟩
      · rw [hc]; intro h0; rw [← List.length_append, h0] at hlen; exact hlen rfl
      · rw [render_eq, ← ht, ← hr0, hsplit]; rfl
      · rw [hl, hc, decVal_eq]; rfl

theorem lower_char (x c : Char) (h : asciiLowerChar x = c) : x = c ∨ x = upperOf c := by
  unfold asciiLowerChar at h
  split at h
  · rename_i hu
    right
    have h1 : 'A'.toNat = 65 := rfl
    have h2 : 'Z'.toNat = 90 := rfl
    have hx := toNat_ofNat (n := x.toNat + 32) (Or.inl (by omega))
    rw [h] at hx
    unfold upperOf
    rw [hx, Nat.add_sub_cancel, Char.ofNat_toNat]
  · left; exact h

theorem lower_word (w b : List Char) (h : asciiLower b = w) : b ∈ caseVariants w := by
  induction w generalizing b with
  | nil =>
    cases b with
    | nil => simp [caseVariants]
    | cons x xs => simp [asciiLower] at h
  | cons c r ih =>
    cases b with
    | nil => simp [asciiLower] at h
    | cons x xs =>
      simp only [asciiLower, List.map_cons, List.cons.injEq] at h
      have hr := ih xs h.2
      simp only [caseVariants, List.mem_flatMap]
      refine ⟨xs, hr, ?_⟩
      rcases lower_char x c h.1 with hx | hx <;> simp [hx]

theorem parseInfNan_complete (neg : Bool) (body : Str) (l : Lit) (h : parseInfNan neg body = some l) :
    (l = .nan ∧ body ∈ caseVariants "nan".toList) ∨
    (l = .inf neg ∧ (body ∈ caseVariants "inf".toList ∨ body ∈ caseVariants "infinity".toList)) := by
  unfold parseInfNan at h
  simp only at h
  split at h
  · rename_i hw
    left; cases h; exact ⟨rfl, lower_word _ _ hw⟩
  · split at h
    · rename_i hw
      right; cases h
      exact ⟨rfl, hw.elim (fun hw => Or.inl (lower_word _ _ hw)) (fun hw => Or.inr (lower_word _ _ hw))⟩
    · cases h

/-- every casing of the three words, with every sign, is read as the word (finite: evaluated) -/
theorem words_accepted :
    ([none, some false, some true].all fun sg =>
      ((caseVariants "nan".toList).all fun w => parseLit (signText sg ++ w) == some .nan) &&
      ((caseVariants "inf".toList ++ caseVariants "infinity".toList).all fun w =>
        parseLit (signText sg ++ w) == some (.inf (sg == some true)))) = true := by
  decide +kernel

theorem parseLit_word {s : Str} {l : Lit} (h : WordLit s l) : parseLit s = some l := by
  have hw := fun sg : Option Bool => List.all_eq_true.mp words_accepted sg (by rcases sg with _ | _ | _ <;> simp)
  simp only [Bool.and_eq_true, List.all_eq_true, beq_iff_eq] at hw
  cases h with
  | nan sg w hm => exact (hw sg).1 w hm
  | inf sg w hm => exact (hw sg).2 w (List.mem_append.mpr hm)

theorem parseLit_split {s : Str} {l : Lit} (h : parseLit s = some l) :
    ∃ sg body, s = signText sg ++ body ∧ parseBody (sg == some true) body = some l := by
  cases s with
  | nil => simp [parseLit] at h
  | cons c0 r =>
    simp only [parseLit] at h
    by_cases hm : c0 = '-'
    · subst hm
      exact ⟨some true, r, rfl, by simpa using h⟩
    · by_cases hp : c0 = '+'
      · subst hp
        exact ⟨some false, r, rfl, by simpa using h⟩
      · exact ⟨none, c0 :: r, rfl, by simpa [hm, hp] using h⟩

theorem parseLit_complete (s : Str) (l : Lit) (h : parseLit s = some l) :
    (∃ c : NumCst, c.WF ∧ s = c.render ∧ l = c.denote) ∨ WordLit s l := by
  obtain ⟨sg, body, rfl, hb⟩ := parseLit_split h
  rcases parseBody_complete _ body l hb with hw | ⟨c, hsn, hwf, rfl, rfl⟩
  · right
    rcases parseInfNan_complete _ body l hw with ⟨rfl, hm⟩ | ⟨rfl, hm⟩
    · exact WordLit.nan sg body hm
    · exact WordLit.inf sg body hm
  · left
    exact ⟨{ c with sign := sg }, hwf, by simp [render_eq, hsn, signText], rfl⟩

end Duck.F64
