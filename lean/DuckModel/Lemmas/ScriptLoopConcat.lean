/-
  `concat` (std/string/concat/script.ds) run from source, for every argument list: the loop
  invariant of its `for arg in ${arguments}` loop and the closed form of the run.
  Exports `concat_runF` (the call in closed form, end state `cFinal`).
  Conventions: Lemmas/ScriptLoopShared.lean.
-/
import DuckModel.Lemmas.ScriptLoopShared

namespace Duck.ScriptRun
open Duck Duck.Alias Duck.Coll Duck.Spec Duck.Generated

attribute [local irreducible] tremove tinsert

def cScope : Str := "scope::concat".toList
def cOut : Str := "scope::concat::output".toList
def cArg : Str := "scope::concat::arg".toList
def cArgs : Str := "scope::concat::arguments".toList

def concatIs : List Instruction :=
  [emptyI 1,
   mkI 2 (some cOut) "set" (some [[]]),
   mkI 3 none "for" (some [[.lit cArg], [.lit "in".toList], [.var cArgs]]),
   mkI 4 (some cOut) "set" (some [[.var cOut, .var cArg]]),
   mkI 5 none "end" none,
   emptyI 6,
   mkI 7 none "set" (some [[.var cOut]])]

theorem concat_closed :
    (parsesTo cmd_string_concat.script concatIs = true ∧ findsTo forTables concatIs (2 + 1) [] 4 = true) ∧
    (underPrefix cScope cOut = true ∧ underPrefix cScope cArg = true ∧
      cOut ≠ cArgs ∧ cArg ≠ cOut ∧ cArg ≠ cArgs ∧ argsKey cScope = cArgs ∧
      cScope ++ "::".toList ++ natToStr 2 = "scope::concat::2".toList ∧
      cScope ++ "::".toList ++ natToStr 4 = "scope::concat::4".toList) ∧
    (ArgsOK [[]] ∧ (LitOK cArg ∧ KeyOK cArgs) ∧ ArgsOK [[.var cOut, .var cArg]] ∧
      ArgsOK [[.var cOut]]) := by
  decide +kernel

theorem concat_parses : parseText cmd_string_concat.script = .ok concatIs := parsesTo_eq concat_closed.1.1
theorem concat_find : findCommands forTables concatIs (2 + 1) = .ok ⟨[], 4⟩ := findsTo_eq concat_closed.1.2
theorem cOut_under : underPrefix cScope cOut = true := concat_closed.2.1.1
theorem cArg_under : underPrefix cScope cArg = true := concat_closed.2.1.2.1
theorem cOut_ne_cArgs : cOut ≠ cArgs := concat_closed.2.1.2.2.1
theorem cArg_ne_cOut : cArg ≠ cOut := concat_closed.2.1.2.2.2.1
theorem cArg_ne_cArgs : cArg ≠ cArgs := concat_closed.2.1.2.2.2.2.1
theorem cArgs_eq : argsKey cScope = cArgs := concat_closed.2.1.2.2.2.2.2.1
theorem concat_keys : lineKey cScope 2 = "scope::concat::2".toList ∧ lineKey cScope 4 = "scope::concat::4".toList :=
  concat_closed.2.1.2.2.2.2.2.2

/-- what the loop keeps true of the variables: accumulator, the handle of the argument array,
    nothing outside the scope prefix touched -/
structure CInv (vars0 vars : Vars) (acc h : Str) : Prop where
  out : vars.get cOut = some acc
  args : (vars.get cArgs).getD [] = h
  clr : clear cScope vars = clear cScope vars0

theorem concat_block : ForBlock concatIs 2 4 cArg cArgs :=
  ⟨⟨_, rfl⟩, ⟨_, rfl⟩, concat_closed.2.2.2.1, cArg_ne_cArgs.symm, concat_find⟩

/-- the script's invariant at the start of iteration `j`: the accumulator followed by the cells
    that are left is `total`; but for its for-in stack the state is `sB` -/
structure CIter (vars0 : Vars) (sB : ScriptSt) (total : Str) (L : List Item) (j : Nat) (vars : Vars) (s : ScriptSt) : Prop where
  out : ∃ acc, vars.get cOut = some acc ∧ acc ++ ((L.drop j).map Item.render).flatten = total
  clr : clear cScope vars = clear cScope vars0
  st : ∀ st', ({ s with forStack := st' } : ScriptSt) = { sB with forStack := st' }

/-- one iteration: `output = set "${output}${arg}"` -/
theorem concat_iter {d : Nat} {vars0 : Vars} {sB : ScriptSt} {total h : Str} {L : List Item} (fs : List ForCall)
    (i : Nat) (x : Item) (vars : Vars) (s : ScriptSt) (fo : Option Str) (hx : L[i]? = some x)
    (hS : LoopSt cScope 4 cArgs h L vars s) (_ : s.forStack = ⟨i + 1, 2, 4, cScope⟩ :: fs)
    (hvA : vars.get cArg = some x.render) (hJ : CIter vars0 sB total L i vars s) :
    ∃ fo' vars' s', (∀ G, Steps (G + 0) (d + 1) concatIs 1 ⟨2 + 1, fo, vars, s⟩ ⟨4, fo', vars', s'⟩) ∧
      LoopSt cScope 4 cArgs h L vars' s' ∧ s'.forStack = s.forStack ∧ CIter vars0 sB total L (i + 1) vars' s' := by
  obtain ⟨acc, hacc, htot⟩ := hJ.out
  rw [drop_of_getElem? hx, List.map_cons, List.flatten_cons, ← List.append_assoc] at htot
  refine ⟨some (acc ++ x.render), vars.set cOut (acc ++ x.render), s, fun G => ?_,
    ⟨hS.ctx, hS.endT, by rw [get_set, if_neg cOut_ne_cArgs.symm]; exact hS.handle, hS.cells⟩, rfl,
    ⟨_, by rw [get_set, if_pos rfl], htot⟩, by rw [clear_set_under _ _ _ _ cOut_under]; exact hJ.clr, hJ.st⟩
  refine Steps.step (Steps.native (vals := [acc ++ x.render]) rfl rs_set (bind_eq concat_closed.2.2.2.2.1
    (by simp [tmplValue, Seg.value, hacc, hvA])) rfl) ?_
  exact Steps.refl _

/-- from the loop body (line 3) with the current cell in `arg` and the entry at the next iteration
    to the line after `end` (line 5), entry popped: 3 instructions per cell that is left -/
theorem concat_loop (F d : Nat) (s : ScriptSt) (h : Str) (L : List Item)
    (hctx : s.ctx = cScope) (hend : s.endTable.get (flowKey s 4) = some fullNameEndForIn)
    (hL : tget s.coll.tbl h = some (.list L)) (vars0 : Vars) :
    ∀ (rem pre : List Item) (x : Item) (acc : Str) (vars : Vars) (poll : Nat) (fo : Option Str) (fuel : Nat),
      L = pre ++ x :: rem → CInv vars0 vars acc h → vars.get cArg = some x.render →
      ∃ vars' poll' fo',
        evalInstructions (bodySem F (d + 1) concatIs) (fun _ => false) concatIs (fuel + 3 * rem.length + 3) 3 poll fo vars
          { s with forStack := ⟨pre.length + 1, 2, 4, cScope⟩ :: s.forStack } =
        evalInstructions (bodySem F (d + 1) concatIs) (fun _ => false) concatIs fuel 5 poll' fo' vars' s ∧
        CInv vars0 vars' (acc ++ x.render ++ (rem.map Item.render).flatten) h := by
  intro rem pre x acc vars poll fo fuel hLe hinv hx
  have hi : L[pre.length]? = some x := by rw [hLe]; simp
  have hdrop : L.drop pre.length = x :: rem := by rw [hLe]; simp
  obtain ⟨vars', s', hsteps, hS', hfs', hJ'⟩ := concat_block.loop_steps (d := d) (fs := s.forStack)
    (CIter vars0 s (acc ++ x.render ++ (rem.map Item.render).flatten) L) 0 (fun _ => 1)
    (fun i vars s y h => ⟨by rw [get_set, if_neg cArg_ne_cOut.symm]; exact h.out,
      by rw [clear_set_under _ _ _ _ cArg_under]; exact h.clr, h.st⟩)
    (fun i vars s st h => ⟨h.out, h.clr, h.st⟩)
    (concat_iter s.forStack) rem.length pre.length x vars
    { s with forStack := ⟨pre.length + 1, 2, 4, cScope⟩ :: s.forStack } fo (by rw [hLe]; simp; omega) hi
    ⟨hctx, by rw [← flowKey_lineKey hctx]; exact hend, hinv.args, hL⟩ rfl hx
    ⟨⟨acc, hinv.out, by rw [hdrop]; simp [List.append_assoc]⟩, hinv.clr, fun _ => rfl⟩
  obtain ⟨acc', hacc', htot⟩ := hJ'.out
  rw [List.drop_length] at htot
  simp only [List.map_nil, List.flatten_nil, List.append_nil] at htot
  have hst : s' = s := (hJ'.st s'.forStack).trans (by rw [hfs'])
  subst hst
  refine ⟨vars', 0, none, ?_, ⟨htot ▸ hacc', hS'.handle, hJ'.clr⟩⟩
  rw [eval_eq_run, eval_eq_run]
  have h := hsteps F fuel
  rw [hdrop, loopCost_const] at h
  rw [show fuel + 3 * rem.length + 3 = fuel + (1 + 2) * (x :: rem).length by simp; omega]
  exact h

/-- lines 5-7: the result is the accumulator -/
theorem concat_tail {F d : Nat} {s : ScriptSt} {vars : Vars} {acc : Str} {fo : Option Str} (hout : vars.get cOut = some acc) :
    Ends F d concatIs 3 ⟨5, fo, vars, s⟩ (.finished (some acc), vars, s) := by
  refine Ends.step (Steps.skip rfl) ?_
  refine Ends.step (Steps.native (vals := [acc]) rfl rs_set (bind_eq concat_closed.2.2.2.2.2
    (by simp only [List.map, tmplValue_var, hout, Option.getD_some])) rfl) ?_
  exact Ends.last rfl

/-- the state a `concat` body leaves: the block end of its `for` line cached, the `end` table
    written -/
def cAfter (s : ScriptSt) : ScriptSt :=
  { s with forMeta := forMetaAfter s.forMeta (flowKey s 2) 4,
           endTable := s.endTable.put (flowKey s 4) fullNameEndForIn }

theorem cAfter_eq (s : ScriptSt) (h : s.ctx = cScope) :
    cAfter s = { s with forMeta := forMetaAfter s.forMeta "scope::concat::2".toList 4,
                        endTable := s.endTable.put "scope::concat::4".toList fullNameEndForIn } := by
  unfold cAfter
  rw [flowKey_lineKey h, flowKey_lineKey h, concat_keys.1, concat_keys.2]

/-- the whole body: `3·n + 6` instructions for `n` cells -/
theorem concat_body (F d : Nat) (s : ScriptSt) (vars : Vars) (L : List Item)
    (hctx : s.ctx = cScope) (hstale : NoStaleFor cScope s.forStack)
    (hcache : CacheOK s.forMeta (flowKey s 2) 4)
    (hL : match tget s.coll.tbl ((vars.get cArgs).getD []) with
          | some (.list l) => l = L
          | _ => L = [])
    (fuel : Nat) :
    ∃ vars', scriptBody (bodySem F (d + 1) concatIs) (fun _ => false) (fuel + 3 * L.length + 6) concatIs vars s =
        (.finished (some (L.map Item.render).flatten), vars', cAfter s) ∧
      clear cScope vars' = clear cScope vars := by
  have hc : CacheOK s.forMeta (lineKey cScope 2) 4 := by rw [← flowKey_lineKey hctx]; exact hcache
  have hh : ((vars.set cOut []).get cArgs).getD [] = (vars.get cArgs).getD [] := by
    rw [get_set, if_neg cOut_ne_cArgs.symm]
  have hclr : clear cScope (vars.set cOut []) = clear cScope vars := clear_set_under _ _ _ _ cOut_under
  have hpre : Steps F (d + 1) concatIs 2 ⟨0, none, vars, s⟩ ⟨2, some [], vars.set cOut [], s⟩ := by
    refine Steps.step (Steps.skip rfl) ?_
    refine Steps.step (Steps.native (vals := [[]]) rfl rs_set (bind_eq concat_closed.2.2.1 rfl) rfl) ?_
    exact Steps.refl _
  suffices h : ∃ vars', Ends F (d + 1) concatIs (3 * L.length + 6) ⟨0, none, vars, s⟩
      (.finished (some (L.map Item.render).flatten), vars', cAfter s) ∧ clear cScope vars' = clear cScope vars by
    obtain ⟨vars', h1, h2⟩ := h
    rw [Nat.add_assoc]
    exact ⟨vars', h1.body fuel, h2⟩
  rcases list_or_not s.coll.tbl ((vars.get cArgs).getD []) with ⟨l, hv⟩ | hn
  · rw [hv] at hL
    subst hL
    obtain ⟨vars', s', hrun, _, hfs', hJ'⟩ := concat_block.run (d := d) (s := s) (vars := vars.set cOut []) (fo := some [])
      (CIter vars (forSt s 2 4) (l.map Item.render).flatten l) 0 (fun _ => 1)
      (fun i vars s y h => ⟨by rw [get_set, if_neg cArg_ne_cOut.symm]; exact h.out,
        by rw [clear_set_under _ _ _ _ cArg_under]; exact h.clr, h.st⟩)
      (fun i vars s st h => ⟨h.out, h.clr, h.st⟩) (concat_iter _) hctx (popFor_noStale 2 cScope _ hstale) hc hh hv
      ⟨⟨[], by rw [get_set, if_pos rfl], by simp⟩, hclr, fun _ => rfl⟩
    obtain ⟨acc', hacc', htot⟩ := hJ'.out
    rw [List.drop_length] at htot
    simp only [List.map_nil, List.flatten_nil, List.append_nil] at htot
    have hst : s' = cAfter s := (hJ'.st s'.forStack).trans (by rw [hfs']; rfl)
    subst hst htot
    exact ⟨vars', ((hpre.trans (hrun F)).ends (concat_tail hacc')).mono (by rw [loopCost_const]; omega), hJ'.clr⟩
  · -- no array: the `for` line leaves the loop at once
    have hL' : L = [] := cast (match_list_of_not hn _ _) hL
    subst hL'
    have henter := concat_block.enter_pop (F := F) (d := d) (fo := some []) (vars := vars.set cOut []) hctx
      (popFor_noStale 2 cScope _ hstale) hc
    simp only [forNext, hh, nextIteration_of_not_list hn (s := forSt s 2 4) rfl] at henter
    have h := (hpre.trans henter).ends (concat_tail (acc := []) (by rw [get_set, if_pos rfl]))
    exact ⟨_, h.mono (Nat.le_add_left _ _), hclr⟩

/-! ### the whole call -/

theorem concat_findScript : findScript "concat".toList = some cmd_string_concat := findScript_of_resolve rs_concat

/-- the state a call of `concat` ends in -/
def cFinal (args : List Str) (st : ScriptSt) : ScriptSt :=
  { st with
    coll := { tbl := if args = [] then st.coll.tbl else
                tremove (tinsert st.coll.tbl (Coll.handleName st.coll.next) (.list (args.map .str))) (Coll.handleName st.coll.next),
              next := if args = [] then st.coll.next else st.coll.next + 1 },
    forMeta := forMetaAfter st.forMeta "scope::concat::2".toList 4,
    endTable := st.endTable.put "scope::concat::4".toList fullNameEndForIn }

theorem concat_alias (F depth fuel : Nat) (args : List Str) (vars : Vars) (st : ScriptSt)
    (hstale : NoStaleFor cScope st.forStack)
    (hcache : CacheOK st.forMeta "scope::concat::2".toList 4)
    (hempty : args = [] → ∀ l, tget st.coll.tbl ((vars.get cArgs).getD []) ≠ some (.list l)) :
    aliasRun handleOps 0 (scriptBody (bodySem F (depth + 1) concatIs) (fun _ => false)
      (fuel + 3 * args.length + 6) concatIs) cScope args vars st =
      (.continue (some args.flatten), clear cScope vars, cFinal args st) := by
  have hkey : ∀ s : ScriptSt, s.ctx = cScope → s.forMeta = st.forMeta → CacheOK s.forMeta (flowKey s 2) 4 := by
    intro s hs hm
    rw [flowKey_lineKey hs, concat_keys.1, hm]
    exact hcache
  cases args with
  | nil =>
    have hL : match tget st.coll.tbl ((vars.get cArgs).getD []) with
          | some (.list l) => l = ([] : List Item)
          | _ => ([] : List Item) = [] := cast (match_list_of_not (hempty rfl) _ _).symm rfl
    obtain ⟨vars', hrun, hclr⟩ := concat_body F depth { st with ctx := cScope } vars []
      rfl hstale (hkey _ rfl rfl) hL fuel
    rw [cAfter_eq _ rfl] at hrun
    simp only [List.length_nil] at hrun ⊢
    rw [aliasRun_handleOps_nil _ cScope vars st _ _ _ hrun hclr]
    rfl
  | cons a rest =>
    have hargs : (Vars.get (pubVars cScope (a :: rest) vars st) cArgs).getD [] = Coll.handleName st.coll.next := by
      unfold pubVars
      rw [get_set, if_pos cArgs_eq.symm]; rfl
    have hL : match tget (pubSt cScope (a :: rest) st).coll.tbl ((Vars.get (pubVars cScope (a :: rest) vars st) cArgs).getD []) with
          | some (.list l) => l = (a :: rest).map Item.str
          | _ => (a :: rest).map Item.str = [] := by
      rw [hargs]
      simp only [pubSt, tget_tinsert, if_true]
    obtain ⟨vars', hrun, hclr⟩ := concat_body F depth (pubSt cScope (a :: rest) st)
      (pubVars cScope (a :: rest) vars st) ((a :: rest).map Item.str) rfl hstale (hkey _ rfl rfl) hL fuel
    rw [cAfter_eq _ rfl, List.length_map] at hrun
    rw [aliasRun_handleOps 0 _ cScope (a :: rest) vars st (by simp) (by simp) _ _ _ hrun hclr]
    have hmap : ((a :: rest).map Item.str).map Item.render = a :: rest := by
      simp [Item.render, Function.comp_def]
    rw [hmap]
    rfl

/-- the closed form of `concat` run from source (hypotheses: see `C12_script_concat_correct`) -/
theorem concat_runF (depth fuel : Nat) (args : List Str) (vars : Vars) (st : ScriptSt)
    (hstale : NoStaleFor cScope st.forStack)
    (hcache : CacheOK st.forMeta "scope::concat::2".toList 4)
    (hempty : args = [] → ∀ l, tget st.coll.tbl ((vars.get cArgs).getD []) ≠ some (.list l)) :
    runScriptCmdF (depth + 1) (fuel + 3 * args.length + 6) "concat".toList args vars st =
      (.continue (some args.flatten), clear cScope vars, cFinal args st) := by
  rw [runScriptCmdF_entry (depth + 1) _ "concat".toList cmd_string_concat _ concat_findScript concat_parses]
  exact concat_alias _ depth fuel args vars st hstale hcache hempty

end Duck.ScriptRun
