/-
  Lookups in the association-list model of the variable map (`Vars`) after filtering, erasing
  and setting.  (Namespace `Duck.VarScope`: the scope model was their first user.)
-/
import DuckModel.Vars

namespace Duck.VarScope
open Duck

theorem get_filter (m : Vars) (f : Str → Bool) (x : Str) :
    Vars.get (m.filter fun kv => f kv.1) x = if f x = true then Vars.get m x else none := by
  induction m with
  | nil => simp [Vars.get]
  | cons p rest ih =>
    obtain ⟨k, v⟩ := p
    by_cases hk : f k = true
    · simp only [List.filter_cons, hk, if_true, Vars.get]
      by_cases hx : k = x
      · subst hx; simp [hk]
      · simp [hx, ih]
    · simp only [List.filter_cons, hk, Vars.get]
      by_cases hx : k = x
      · subst hx; simp [hk, ih]
      · simp [hx, ih]

theorem get_erase (m : Vars) (k x : Str) :
    Vars.get (m.erase k) x = if x = k then none else Vars.get m x := by
  have := get_filter m (fun a => decide (a ≠ k)) x
  simp only [Vars.erase]
  rw [this]
  by_cases h : x = k <;> simp [h]

theorem get_set (m : Vars) (k v x : Str) :
    Vars.get (m.set k v) x = if x = k then some v else Vars.get m x := by
  simp only [Vars.set, Vars.get]
  by_cases h : k = x
  · subst h; simp
  · have h' : ¬ x = k := fun e => h e.symm
    simp [h, h', get_erase]

end Duck.VarScope
