/-
  Helper lemmas about the model of the script-level registry commands
  (Sdk/RegistryCmd.lean), used by Props/C15Script.lean.
-/
import DuckModel.Sdk.RegistryCmd
import DuckModel.Lemmas.RegistryLemmas

namespace Duck

namespace Reg

/-- dropping one alias-table entry (second branch of `unalias`) keeps the invariant -/
theorem invP_eraseAlias (r : Reg) (k : Str) (h : r.InvP) :
    ({ r with aliases := r.aliases.erase k } : Reg).InvP := by
  obtain ⟨h1, h2⟩ := h
  constructor
  · intro a m ham
    simp only [KV.get_erase] at ham
    split at ham
    · cases ham
    · exact h1 a m ham
  · exact h2

/-- `Commands::remove` answers exactly whether the name resolved to a command -/
theorem remove_snd (r : Reg) (n : Str) : (r.remove n).2 = r.exists n := by
  unfold Reg.exists Reg.get
  cases hk : r.commands.get (r.resolve n) with
  | none => rw [remove_none r n hk]; rfl
  | some c => rw [remove_some r n c hk]; rfl

theorem remove_false (r : Reg) (n : Str) (h : (r.remove n).2 = false) : (r.remove n).1 = r := by
  cases hk : r.commands.get (r.resolve n) with
  | none => rw [remove_none r n hk]
  | some c => rw [remove_some r n c hk] at h; cases h

/-- `Commands::set` of a command without aliases: only the name check is left -/
theorem set_aliasless (r : Reg) (c : CmdSpec) (h : c.aliases = []) :
    r.set c = if (r.commands.get c.name).isSome = true then (r, false) else (r.setOk c, true) := by
  rcases Reg.set_cases r c with ⟨hc, e⟩ | ⟨⟨hn, _⟩, e⟩
  · have hs : (r.commands.get c.name).isSome = true := by
      rcases hc with hc | ⟨a, ha, _⟩
      · exact hc
      · rw [h] at ha; cases ha
    rw [e]; simp [hs]
  · rw [e]; simp [hn]

theorem set_aliasless_free (r : Reg) (c : CmdSpec) (h : c.aliases = [])
    (hfree : r.commands.get c.name = none) : r.set c = (r.setOk c, true) := by
  rw [set_aliasless r c h, hfree]; rfl

theorem set_aliasless_taken (r : Reg) (c : CmdSpec) (h : c.aliases = [])
    (ht : (r.commands.get c.name).isSome = true) : r.set c = (r, false) := by
  rw [set_aliasless r c h, if_pos ht]

theorem set_false (r : Reg) (c : CmdSpec) (h : (r.set c).2 = false) : (r.set c).1 = r := by
  rcases Reg.set_cases r c with ⟨_, e⟩ | ⟨_, e⟩
  · rw [e]
  · rw [e] at h; cases h

/-- an accepted alias-less registration is found under its name -/
theorem setOk_aliasless_get_self (r : Reg) (c : CmdSpec) (h : c.aliases = []) :
    (r.setOk c).get c.name = some c := by
  simp [Reg.get, Reg.resolve, setOk_aliases_get, setOk_commands_get, h]

theorem setOk_aliasless_get_other (r : Reg) (c : CmdSpec) (h : c.aliases = []) (hinv : r.InvP)
    (hn : r.commands.get c.name = none) (n : Str) (hne : n ≠ c.name) :
    (r.setOk c).get n = r.get n := by
  refine setOk_get_other r c n hne (by simp [h]) ?_
  -- an alias of `n` cannot point to the new name: nothing is registered under it
  unfold Reg.resolve
  cases ha : r.aliases.get n with
  | none => simpa using hne
  | some m =>
    intro e
    simp only [Option.getD_some] at e
    subst e
    obtain ⟨c', hc', _⟩ := hinv.1 n _ ha
    rw [hn] at hc'; cases hc'

end Reg

namespace RegCmd

theorem aliasSpec_aliases (n : Str) (i : Nat) : (aliasSpec n i).aliases = [] := rfl
theorem fnSpec_aliases (n : Str) (l : Nat) : (fnSpec n l).aliases = [] := rfl

theorem ofTag_tag (k : Kind) : Kind.ofTag k.tag = k := by
  cases k with
  | native t => simp [Kind.tag, Kind.ofTag]
  | aliasOf i =>
    have h1 : (3 * i + 1) % 3 = 1 := by omega
    have h2 : (3 * i + 1) / 3 = i := by omega
    simp [Kind.tag, Kind.ofTag, h1, h2]
  | function l =>
    have h1 : (3 * l + 2) % 3 = 2 := by omega
    have h2 : (3 * l + 2) / 3 = l := by omega
    simp [Kind.tag, Kind.ofTag, h1, h2]

/-! ### unfolding lemmas of the commands -/

theorem aliasCmd_short (s : RState) (args : List Str) (id : Nat) (h : args.length < 2) :
    aliasCmd s args id = (s, .error) := by
  match args, h with
  | [], _ => rfl
  | [_], _ => rfl
  | _ :: _ :: _, h => simp at h; omega

theorem aliasCmd_refused (s : RState) (name t : Str) (rest : List Str) (id : Nat)
    (h : (s.reg.commands.get name).isSome = true) :
    aliasCmd s (name :: t :: rest) id = (s, .error) := by
  simp only [aliasCmd, Reg.set_aliasless_taken s.reg (aliasSpec name id) rfl h]
  rfl

theorem aliasCmd_accepted (s : RState) (name t : Str) (rest : List Str) (id : Nat)
    (h : s.reg.commands.get name = none) :
    aliasCmd s (name :: t :: rest) id =
      ({ s with reg := s.reg.setOk (aliasSpec name id), sub := s.sub.put name true }, .value true) := by
  simp only [aliasCmd, Reg.set_aliasless_free s.reg (aliasSpec name id) rfl h]
  rfl

/-- the four-way case analysis of `unalias key` -/
theorem unaliasCmd_one (s : RState) (key : Str) :
    unaliasCmd s [key] =
      if s.sub.containsKey key = true then
        if s.reg.exists key = true then
          ({ s with reg := (s.reg.remove key).1, sub := s.sub.erase key }, .value true)
        else (s, .value false)
      else if (s.reg.aliases.get key).isSome = true then
        ({ s with reg := { s.reg with aliases := s.reg.aliases.erase key } }, .value true)
      else (s, .value false) := by
  simp only [unaliasCmd]
  by_cases h1 : s.sub.containsKey key = true
  · simp only [h1, if_true]
    by_cases h2 : s.reg.exists key = true
    · have : (s.reg.remove key).2 = true := by rw [Reg.remove_snd]; exact h2
      simp [this, h2]
    · have h2' : s.reg.exists key = false := by simpa using h2
      have hf : (s.reg.remove key).2 = false := by rw [Reg.remove_snd]; exact h2'
      have hu : (s.reg.remove key).1 = s.reg := Reg.remove_false _ _ hf
      simp [hf, h2', hu]
  · simp only [h1]
    rfl

theorem fnCmd_known (s : RState) (name : Str) (line start : Nat) (e : Bool)
    (h : s.fns.get name = some start) :
    fnCmd s name line e = (s, if start = line then .goto else .error) := by
  simp only [fnCmd, h]
  split <;> rfl

theorem fnCmd_fresh (s : RState) (name : Str) (line : Nat) (h : s.fns.get name = none) :
    fnCmd s name line true =
      ({ s with reg := (s.reg.set (fnSpec name line)).1, fns := s.fns.put name line },
       if (s.reg.set (fnSpec name line)).2 = true then .goto else .error) := by
  simp only [fnCmd, h, if_true]

theorem fnCmd_noEnd (s : RState) (name : Str) (line : Nat) (h : s.fns.get name = none) :
    fnCmd s name line false = (s, .crash) := by
  simp [fnCmd, h]

/-! ### every operation, by what it does to the state -/

/-- the shapes `step s op` can have: the state as it was (with any answer, `true` only from
    `is_command_defined`), or exactly one of the six changes the commands make -/
inductive StepShape (s : RState) : Op → RState × Out → Prop
  | same (op : Op) (out : Out) (h : out = .value true → ∃ args, op = .isCommandDefined args) :
      StepShape s op (s, out)
  | aliased (name t : Str) (rest : List Str) (id : Nat) (hfree : s.reg.commands.get name = none) :
      StepShape s (.alias (name :: t :: rest) id)
        ({ s with reg := s.reg.setOk (aliasSpec name id), sub := s.sub.put name true }, .value true)
  | unaliased (key : Str) (h1 : s.sub.containsKey key = true) (h2 : s.reg.exists key = true) :
      StepShape s (.unalias [key])
        ({ s with reg := (s.reg.remove key).1, sub := s.sub.erase key }, .value true)
  | aliasDropped (key : Str) (h1 : s.sub.containsKey key = false)
      (h3 : (s.reg.aliases.get key).isSome = true) :
      StepShape s (.unalias [key])
        ({ s with reg := { s.reg with aliases := s.reg.aliases.erase key } }, .value true)
  | removed (n : Str) :
      StepShape s (.removeCommand [n])
        ({ s with reg := (s.reg.remove n).1 }, .value (s.reg.remove n).2)
  | defined (n : Str) (l : Nat) (h : s.fns.get n = none) :
      StepShape s (.defineFn n l true)
        ({ s with reg := (s.reg.set (fnSpec n l)).1, fns := s.fns.put n l },
         if (s.reg.set (fnSpec n l)).2 = true then .goto else .error)
  | registered (n : Str) (al : List Str) (t : Nat) :
      StepShape s (.native n al t)
        ({ s with reg := (s.reg.set (nativeSpec n al t)).1 }, .set (s.reg.set (nativeSpec n al t)).2)

theorem step_shape (s : RState) (op : Op) : StepShape s op (step s op) := by
  cases op with
  | native n al t => exact .registered n al t
  | alias args id =>
    match args with
    | [] => exact .same _ _ nofun
    | [_] => exact .same _ _ nofun
    | name :: t :: rest =>
      show StepShape s _ (aliasCmd s (name :: t :: rest) id)
      cases hc : s.reg.commands.get name with
      | some c => rw [aliasCmd_refused s name t rest id (by rw [hc]; rfl)]; exact .same _ _ nofun
      | none => rw [aliasCmd_accepted s name t rest id hc]; exact .aliased name t rest id hc
  | unalias args =>
    match args with
    | [] => exact .same _ _ nofun
    | _ :: _ :: _ => exact .same _ _ nofun
    | [key] =>
      show StepShape s _ (unaliasCmd s [key])
      rw [unaliasCmd_one]
      split
      · split
        · exact .unaliased key ‹_› ‹_›
        · exact .same _ _ nofun
      · rename_i h1
        split
        · exact .aliasDropped key (Bool.eq_false_iff.2 h1) ‹_›
        · exact .same _ _ nofun
  | removeCommand args =>
    match args with
    | [] => exact .same _ _ nofun
    | _ :: _ :: _ => exact .same _ _ nofun
    | [n] => exact .removed n
  | isCommandDefined args =>
    match args with
    | [] => exact .same _ _ nofun
    | n :: rest => exact .same _ _ fun _ => ⟨_, rfl⟩
  | defineFn n l e =>
    show StepShape s _ (fnCmd s n l e)
    cases hk : s.fns.get n with
    | some start =>
      rw [fnCmd_known s n l start e hk]
      exact .same _ _ (by split <;> nofun)
    | none =>
      cases e with
      | true => rw [fnCmd_fresh s n l hk]; exact .defined n l hk
      | false => rw [fnCmd_noEnd s n l hk]; exact .same _ _ nofun

/-! ### the registry invariant -/

theorem invP_step (s : RState) (op : Op) (h : s.reg.InvP) : (step s op).1.reg.InvP := by
  have hs := step_shape s op
  generalize step s op = x at hs
  cases hs with
  | same => exact h
  | aliased name t rest id hfree => exact Reg.invP_setOk _ _ h hfree
  | unaliased | removed => exact Reg.invP_remove _ _ h
  | aliasDropped => exact Reg.invP_eraseAlias _ _ h
  | defined | registered => exact Reg.invP_set _ _ h

theorem invP_run (s : RState) (ops : List Op) (h : s.reg.InvP) : (run s ops).1.reg.InvP := by
  induction ops generalizing s with
  | nil => exact h
  | cons op ops ih => exact ih (step s op).1 (invP_step s op h)

end RegCmd

end Duck
