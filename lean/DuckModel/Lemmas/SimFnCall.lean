/-
  Simulation with functions — a call line.  The machine jumps into the function body
  (which lies below the bound `B`), runs it — by the induction hypothesis for the callee's context —
  and comes back through the function's end line or through a `return` line.
-/
import DuckModel.Lemmas.SimFnLine

namespace Duck
open Duck.Spec Duck.Generated Duck.Fn

/-! ### the three machine steps of a call -/

/-- the call line: into the body, frame pushed, parameters bound, output variable erased -/
theorem step_callF (is : List Instruction) (lo : Nat) (v : Vars) (s : Sdk) (mi : Meta) (l : Line)
    (fi : FnInfo)
    (hi : is[lo]? = some ⟨mi, .script (mkInstr l.out l.cmd l.args)⟩)
    (hb : (resolveCmd {} l.cmd).isNone = true) (hf : s.fns.get l.cmd = some fi) :
    Steps is lo v s (fi.start + 1)
      (Vars.updateOutput (bindParams (if fi.isScoped then [] else v) (bind v (some l.args))) l.out none)
      { s with fnStack := callFrame s fi l.out lo :: s.fnStack,
               scopeStack := if fi.isScoped then v :: s.scopeStack else s.scopeStack } := by
  refine Steps.single (fun nested p => ?_)
  apply runStep_cmd_goto nested is lo p v s mi l.out l.cmd l.args (.call l.cmd) none _ _ _ hi
    (resolveCmd_call hb hf)
  show runCmd nested (runCmdF nested is 2) is (.call l.cmd) _ l.out lo v s = _
  exact C05_call_binds_args nested _ is l.cmd _ l.out lo v s fi hf

/-- the function's end line: back to the line after the call -/
theorem step_endFnF (is : List Instruction) (l : Nat) (v : Vars) (s : Sdk) (mi : Meta) (kw : Str)
    (ci : FnCall) (rest : List FnCall)
    (hi : is[l]? = some ⟨mi, .script (mkInstr none kw [])⟩) (hk : isEndFnKw kw = true)
    (he : s.endTable.get (lineKey s l) = some fullNameEndFunction)
    (hs : s.fnStack = ci :: rest) (hm : EndMatches ci l s) :
    (ci.isScoped = false → Steps is l v s (ci.callLine + 1) v { s with fnStack := rest }) ∧
    (∀ saved scopes, ci.isScoped = true → s.scopeStack = saved :: scopes →
      Steps is l v s (ci.callLine + 1) saved { s with fnStack := rest, scopeStack := scopes }) := by
  constructor
  · intro hp
    exact steps_end_goto is l v s mi kw .endFunction _ _ _ _ hi hk he (resolve_fullEndFn s)
      fun nested endRec => C05_end_function nested endRec is [] none l v s ci rest hs hm hp
  · intro saved scopes hp hsc
    exact steps_end_goto is l v s mi kw .endFunction _ _ _ _ hi hk he (resolve_fullEndFn s)
      fun nested endRec => C05_end_function_scoped nested endRec is [] none l v s ci rest saved scopes
        hs hsc hm hp

/-- what the caller's variables are after a `return` handing back `rv`, on the machine -/
def retVars (sc : Bool) (saved bodyVars : Vars) (out : Option Str) (rv : Option Str) : Vars :=
  if sc then
    (match rv with
     | some x => Vars.updateOutput saved out (some x)
     | none => saved)
  else Vars.updateOutput bodyVars out rv

/-- a `return` line: back to the line after the call -/
theorem step_returnF (is : List Instruction) (r : Nat) (v : Vars) (s : Sdk) (rv : Option Str)
    (ci : FnCall) (rest : List FnCall)
    (hret : RetLine is r v rv) (hs : s.fnStack = ci :: rest) (hm : RetMatches ci r s) :
    (ci.isScoped = false →
      Steps is r v s (ci.callLine + 1) (retVars false [] v ci.out rv) { s with fnStack := rest }) ∧
    (∀ saved scopes, ci.isScoped = true → s.scopeStack = saved :: scopes →
      Steps is r v s (ci.callLine + 1) (retVars true saved v ci.out rv)
        { s with fnStack := rest, scopeStack := scopes }) := by
  obtain ⟨mi, kw, value, hi, hk, hv⟩ := hret
  have hres := resolve_kw .returnC hk s
  -- the bound arguments and the value handed back
  have hargs : (bind v (some (retArgs value)) = [] ∧ rv = none) ∨
      (∃ a more, bind v (some (retArgs value)) = a :: more ∧ rv = some a) := by
    subst hv
    cases value with
    | none => exact .inl ⟨rfl, rfl⟩
    | some w =>
      simp only [retArgs, retVal]
      cases hb : bind v (some [w]) with
      | nil => exact .inl ⟨rfl, rfl⟩
      | cons a more => exact .inr ⟨a, more, rfl, rfl⟩
  constructor
  · intro hp
    refine Steps.single (fun nested p => ?_)
    rcases hargs with ⟨ha, rfl⟩ | ⟨a, more, ha, rfl⟩
    · apply runStep_cmd_goto nested is r p v s mi none kw _ .returnC none _ _ _ hi hres
      rw [ha]
      exact C05_return_bare nested _ is none r v s ci rest hs hm hp
    · apply runStep_cmd_goto nested is r p v s mi none kw _ .returnC (some a) _ _ _ hi hres
      rw [ha]
      exact C05_return_value nested _ is a more none r v s ci rest hs hm hp
  · intro saved scopes hp hsc
    refine Steps.single (fun nested p => ?_)
    rcases hargs with ⟨ha, rfl⟩ | ⟨a, more, ha, rfl⟩
    · apply runStep_cmd_goto nested is r p v s mi none kw _ .returnC none _ _ _ hi hres
      rw [ha]
      exact C05_return_scoped_bare nested _ is none r v s ci rest saved scopes hs hsc hm hp
    · apply runStep_cmd_goto nested is r p v s mi none kw _ .returnC (some a) _ _ _ hi hres
      rw [ha]
      exact C05_return_scoped nested _ is a more none r v s ci rest saved scopes hs hsc hm hp

/-! ### the tree's `afterCall`, in the machine's terms -/

theorem afterCall_end (fd : FnDef) (saved : Vars) (out : Option Str) (bodyVars : Vars) :
    afterCall fd saved out false bodyVars = if fd.isScoped then saved else bodyVars := by
  unfold afterCall
  cases fd.isScoped <;> simp

/-- the body's variables with the returned value stored in the call's output variable (`bodyVars` in
    `execCall`, Spec/Tree.lean) -/
def retBodyVars (out : Option Str) (v : Option Str) (bv : Vars) : Vars :=
  match out with
  | some name => (match v with | some x => bv.set name x | none => bv.erase name)
  | none => bv

theorem afterCall_ret (fd : FnDef) (saved : Vars) (out : Option Str) (rv : Option Str) (bv : Vars) :
    afterCall fd saved out true (retBodyVars out rv bv) = retVars fd.isScoped saved bv out rv := by
  unfold afterCall retVars retBodyVars
  cases hsc : fd.isScoped
  · cases out <;> cases rv <;> rfl
  · cases out with
    | none => cases rv <;> rfl
    | some name =>
      cases rv with
      | none => simp [VarScope.get_erase]
      | some x => simp [VarScope.get_set, Vars.updateOutput]

theorem natToStr_digits (n : Nat) : digitsOnly (natToStr n) = true := by
  unfold digitsOnly natToStr
  rw [List.all_eq_true]
  intro c hc
  have : (toString n).toList = Nat.toDigits 10 n := Nat.toList_repr
  rw [this] at hc
  exact Nat.isDigit_of_mem_toDigits (by decide) (by decide) hc

/-! ### the call line -/

theorem flatten_fnDef (kw : Str) (sc : Bool) (name : Str) (body : Block) (kwEnd : Str) :
    (Stmt.fnDef kw sc name body kwEnd).flatten =
      mkInstr none kw (if sc then ["<scope>".toList, name] else [name]) ::
        (body.flatten ++ [mkInstr none kwEnd []]) := by
  simp only [Stmt.flatten]

/-- the tree state in which a called function's body starts -/
def callState (fd : FnDef) (t : TState) (l : Line) : TState :=
  { t with vars := Vars.updateOutput (bindParams (if fd.isScoped then [] else t.vars)
              (bind t.vars (some l.args))) l.out none,
           depth := t.depth + 1 }

/-- what a call makes of the outcome of the body -/
def callOut (fd : FnDef) (t : TState) (out : Option Str) (ob : TOut) : TOut :=
  match ob with
  | .normal t' => .normal { t' with vars := afterCall fd t.vars out false t'.vars, depth := t.depth }
  | .returning v t' =>
    .normal { t' with vars := afterCall fd t.vars out true (retBodyVars out v t'.vars),
                      depth := t.depth }
  | o => o

theorem execStmt_call (is : List Instruction) (f : Nat) (l : Line) (t : TState) (fd : FnDef)
    (hl : lookupFn t.fns l.cmd = some fd) :
    execStmt is (f + 2) (.line l) t = callOut fd t l.out (execBlock is f fd.body (callState fd t l)) := by
  obtain ⟨out, cmd, args⟩ := l
  simp only at hl
  cases out with
  | none =>
    simp only [execStmt, hl, execCall, bind_mkArgs, callState, callOut, Vars.updateOutput]
    cases execBlock is f fd.body _ <;> rfl
  | some o =>
    simp only [execStmt, hl, execCall, bind_mkArgs, callState, callOut, Vars.updateOutput]
    cases execBlock is f fd.body _ <;> rfl

theorem fsafeStmt_call (is : List Instruction) (f : Nat) (l : Line) (t : TState) (fd : FnDef)
    (hl : lookupFn t.fns l.cmd = some fd) :
    fsafeStmt is (f + 2) (.line l) t = fsafeBlock is f fd.body (callState fd t l) := by
  obtain ⟨out, cmd, args⟩ := l
  simp only at hl
  cases out <;> simp only [fsafeStmt, hl, fsafeCall, bind_mkArgs, callState, Vars.updateOutput]

/-- a call line: the machine jumps into the body, the body is simulated in the callee's context
    (bound `B` = the callee's first line, so its garbage counts as "left by a called function" for
    the caller), and the function's end line or a `return` line brings it back to the line after
    the call with the frame popped and the variables `afterCall` describes -/
theorem stmt_callF (c : Ctx) (hc : CtxOK c) (f : Nat)
    (hB : ∀ c', CtxOK c' → BlockSimF c' f)
    (l : Line) (inFor : Bool) (lo : Nat) (s : Sdk) (t : TState) (o : TOut)
    (fd : FnDef) (hlk : lookupFn c.F.tf l.cmd = some fd) (hcl : c.callable.contains l.cmd = true)
    (hat : At c.is lo (Stmt.line l).flatten) (hpre : Pre c lo (lo + 1) s t)
    (hsafe : fsafeStmt c.is (f + 2) (.line l) t = true)
    (hex : execStmt c.is (f + 2) (.line l) t = o) :
    SimOut c.is c.E c.F c.B lo (lo + 1) (fun x => Stmt.assignsF c.F.fa x (.line l)) inFor s t o := by
  obtain ⟨hname, fi, kw, kwEnd, cl, hok⟩ := hc.env.defd _ fd hlk
  obtain ⟨fd', fi', h1, h2, hlt⟩ := hc.callee _ hcl
  rw [hok.sf] at h2
  injection h2 with h2
  subst h2
  clear h1 fd'
  simp only [fnNameOK, Bool.and_eq_true] at hname
  have hbuiltin : (resolveCmd {} l.cmd).isNone = true := hname.1.2
  have hl : lookupFn t.fns l.cmd = some fd := by rw [hpre.rel.tfns]; exact hlk
  simp only [Stmt.flatten] at hat
  have hi := At.head hat
  -- the callee's context
  have hc' : CtxOK { c with B := fi.start, callable := cl, rets := true } :=
    ⟨hc.env, fun n hn => by
      obtain ⟨fd', fi', a, b, d⟩ := hok.callee n (by simpa using hn)
      exact ⟨fd', fi', a, b, d⟩⟩
  -- the tree
  rw [execStmt_call c.is f l t fd hl] at hex
  rw [fsafeStmt_call c.is f l t fd hl] at hsafe
  generalize hb : execBlock c.is f fd.body (callState fd t l) = ob at hex
  have hisc : fi.isScoped = fd.isScoped := hok.isSc
  -- the call step
  have hstep1 := step_callF c.is lo t.vars s _ l fi hi hbuiltin (by rw [hpre.rel.sfns]; exact hok.sf)
  rw [hisc] at hstep1
  -- the body
  have hloc := hok.loc
  rw [flatten_fnDef] at hloc
  have hbody := (At.tail hloc).left
  have hendline := At.head (At.tail hloc).right
  have hstop : fi.start + 1 + fd.body.flatten.length = fi.stop := hok.stop.symm
  rw [hstop] at hendline
  have hrel0 : RelF c.F
      { s with fnStack := callFrame s fi l.out lo :: s.fnStack,
               scopeStack := if fd.isScoped then t.vars :: s.scopeStack else s.scopeStack }
      (callState fd t l) :=
    hpre.rel.congr rfl rfl rfl rfl rfl rfl
  have hpre0 : Pre { c with B := fi.start, callable := cl, rets := true } (fi.start + 1)
      (fi.start + 1 + fd.body.flatten.length)
      { s with fnStack := callFrame s fi l.out lo :: s.fnStack,
               scopeStack := if fd.isScoped then t.vars :: s.scopeStack else s.scopeStack }
      (callState fd t l) :=
    ⟨hpre.cache.of_eq rfl rfl rfl rfl, hrel0,
      hpre.forOK.callee (B' := fi.start) (by omega) (by omega), Nat.le_succ _,
      fun k hk1 hk2 => hok.noEnd k (by omega) (by omega), fun _ => by simp [callState],
      hpre.endFn⟩
  have hsim := hB _ hc' fd.body false (fi.start + 1) _ _ ob hok.wf hok.frag hbody hpre0 hsafe hb
  rw [hstop] at hsim
  -- regions of the body are inside the caller's
  have hreg : ∀ k, RegP c.E fi.start (fi.start + 1) fi.stop k → RegP c.E c.B lo (lo + 1) k := by
    intro k hk
    rcases hk with ⟨a, b⟩ | ⟨a, b⟩
    · exact .inr ⟨by omega, hok.noEnd k (by omega) b⟩
    · exact .inr ⟨by omega, b⟩
  have hinr : ∀ k, InR fi.start (fi.start + 1) fi.stop k → InR c.B lo (lo + 1) k := by
    intro k hk
    unfold InR at *
    omega
  -- variables the call does not touch
  have hvarsBody : ∀ x, (fun x => Stmt.assignsF c.F.fa x (.line l)) x = false → fd.isScoped = false →
      (callState fd t l).vars.get x = t.vars.get x ∧
      Block.assignsF c.F.fa x fd.body = false ∧ l.out ≠ some x := by
    intro x hx hsc
    simp only [Stmt.assignsF, Bool.or_eq_false_iff, beq_eq_false_iff_ne, ne_eq] at hx
    rcases hok.fa x hx.2 with h | ⟨hd, hb⟩
    · rw [hsc] at h; cases h
    · refine ⟨?_, hb, hx.1⟩
      simp only [callState]
      rw [Vars.get_updateOutput_ne _ _ _ _ hx.1, hsc]
      simp only [Bool.false_eq_true, if_false]
      apply C05_params_other
      rintro ⟨i, _, rfl⟩
      rw [natToStr_digits] at hd
      cases hd
  have hout : ∀ x, (fun x => Stmt.assignsF c.F.fa x (.line l)) x = false → l.out ≠ some x := by
    intro x hx
    simp only [Stmt.assignsF, Bool.or_eq_false_iff, beq_eq_false_iff_ne, ne_eq] at hx
    exact hx.1
  -- back in the caller: the body's run, then the exit step (end line or `return` line) that pops the
  -- frame and, for a scoped function, the saved scope
  have hback : ∀ {t1 : TState} {s2 : Sdk} {tgt : Nat} {v3 : Vars} {sc : List Vars},
      SimAt c.is c.E c.F fi.start (fi.start + 1) fi.stop (fun x => Block.assignsF c.F.fa x fd.body)
        { s with fnStack := callFrame s fi l.out lo :: s.fnStack,
                 scopeStack := if fd.isScoped then t.vars :: s.scopeStack else s.scopeStack }
        (callState fd t l) t1 s2 tgt →
      Steps c.is tgt t1.vars s2 (lo + 1) v3 { s2 with fnStack := s.fnStack, scopeStack := sc } →
      sc = s.scopeStack →
      (∀ x, Stmt.assignsF c.F.fa x (.line l) = false → v3.get x = t.vars.get x) →
      SimAt c.is c.E c.F c.B lo (lo + 1) (fun x => Stmt.assignsF c.F.fa x (.line l)) s t
        { t1 with vars := v3, depth := t.depth } { s2 with fnStack := s.fnStack, scopeStack := sc }
        (lo + 1) :=
    fun h2 h3 hsc hv => ⟨(hstep1.trans h2.steps).trans h3,
      ⟨h2.core.cache.of_eq rfl rfl rfl rfl, h2.core.rel.congr rfl rfl rfl rfl rfl rfl,
        ((h2.core.frame.mono hreg).core_left (s0 := s) rfl).core_right rfl, h2.core.mono, hv, rfl⟩,
      h2.ifS.mono hinr, h2.whS.mono hinr, h2.forS, rfl, hsc⟩
  cases ob with
  | failed => simp only [callOut] at hex; subst hex; trivial
  | outOfFuel => simp only [callOut] at hex; subst hex; trivial
  | normal t1 =>
    simp only [callOut] at hex
    subst hex
    obtain ⟨s2, hat2⟩ := hsim
    have hfn2 : s2.fnStack = callFrame s fi l.out lo :: s.fnStack := hat2.fnS
    have hend2 : s2.endTable.get (lineKey s2 fi.stop) = some fullNameEndFunction := by
      rw [lineKey_congr hat2.core.frame.ctx, hat2.core.frame.endT fi.stop ?_]
      · exact hpre.endFn _ _ hok.sf
      · rintro (⟨a, b⟩ | ⟨_, b⟩)
        · omega
        · exact b hok.isEnd
    have hm : EndMatches (callFrame s fi l.out lo) fi.stop s2 :=
      ⟨rfl, (hat2.core.frame.ctx).symm⟩
    obtain ⟨hun, hsc⟩ := step_endFnF c.is fi.stop t1.vars s2 _ kwEnd _ _ hendline hok.kwEnd hend2 hfn2 hm
    rw [afterCall_end]
    cases hscf : fd.isScoped with
    | false =>
      have hfis : fi.isScoped = false := by rw [hok.isSc, hscf]
      have hst3 := hun (by simp [callFrame, hfis])
      simp only [callFrame] at hst3
      have hsc2 : s2.scopeStack = s.scopeStack := by
        have := hat2.scS
        simp only [hscf, Bool.false_eq_true, if_false] at this
        exact this
      refine ⟨_, hback hat2 hst3 hsc2 fun x hx => ?_⟩
      obtain ⟨h1, h2, _⟩ := hvarsBody x hx hscf
      simp only [Bool.false_eq_true, if_false]
      rw [hat2.core.varsF x h2]
      exact h1
    | true =>
      have hfis : fi.isScoped = true := by rw [hok.isSc, hscf]
      have hsc2 : s2.scopeStack = t.vars :: s.scopeStack := by
        have := hat2.scS
        simp only [hscf, if_true] at this
        exact this
      have hst3 := hsc t.vars s.scopeStack (by simp [callFrame, hfis]) hsc2
      simp only [callFrame] at hst3
      exact ⟨_, hback hat2 hst3 rfl fun _ _ => rfl⟩
  | returning rv t1 =>
    simp only [callOut] at hex
    subst hex
    obtain ⟨_, s2, r, hat2, hr1, hr2, hret⟩ := hsim
    have hfn2 : s2.fnStack = callFrame s fi l.out lo :: s.fnStack := hat2.fnS
    have hm : RetMatches (callFrame s fi l.out lo) r s2 :=
      ⟨by simp only [callFrame]; omega, by simp only [callFrame]; omega, (hat2.core.frame.ctx).symm⟩
    obtain ⟨hun, hsc⟩ := step_returnF c.is r t1.vars s2 rv _ _ hret hfn2 hm
    rw [afterCall_ret]
    cases hscf : fd.isScoped with
    | false =>
      have hfis : fi.isScoped = false := by rw [hok.isSc, hscf]
      have hst3 := hun (by simp [callFrame, hfis])
      simp only [callFrame] at hst3
      have hsc2 : s2.scopeStack = s.scopeStack := by
        have := hat2.scS
        simp only [hscf, Bool.false_eq_true, if_false] at this
        exact this
      refine ⟨_, hback hat2 hst3 hsc2 fun x hx => ?_⟩
      obtain ⟨h1, h2, h3⟩ := hvarsBody x hx hscf
      simp only [retVars, Bool.false_eq_true, if_false]
      rw [Vars.get_updateOutput_ne _ _ _ _ h3, hat2.core.varsF x h2]
      exact h1
    | true =>
      have hfis : fi.isScoped = true := by rw [hok.isSc, hscf]
      have hsc2 : s2.scopeStack = t.vars :: s.scopeStack := by
        have := hat2.scS
        simp only [hscf, if_true] at this
        exact this
      have hst3 := hsc t.vars s.scopeStack (by simp [callFrame, hfis]) hsc2
      simp only [callFrame] at hst3
      refine ⟨_, hback hat2 hst3 rfl fun x hx => ?_⟩
      simp only [retVars, if_true]
      cases rv with
      | none => rfl
      | some a => exact Vars.get_updateOutput_ne _ _ _ _ (hout x hx)

end Duck
