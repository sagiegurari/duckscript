/-
  Loop invariants of the index-faithful parser model, proved without the suffix model (of
  Lemmas/IndexedLemmas.lean only the facts about `rd` and `iParseNextValue` alone are used): at
  the head of every iteration
  `index + remaining iterations = end_index`, so every read `line_text[index]` is in range;
  `index -= 1` is only ever applied to an index that was just incremented.
-/
import DuckModel.Lemmas.IndexedLemmas

namespace Duck

/-- Generic invariant of `for _i in index..end_index` when the body advances the tracked index
    by exactly one on `continue`, leaves it in `[old, E]` on `break`, and cannot panic while the
    index is in range: the loop does not panic and ends with the index in `[start, E]`. -/
theorem iFor_index_inv {σ : Type} (body : σ → IStep σ) (ix : σ → Nat) (E : Nat)
    (hnext : ∀ s s', ix s < E → body s = .next s' → ix s' = ix s + 1)
    (hbrk : ∀ s s', ix s < E → body s = .brk s' → ix s ≤ ix s' ∧ ix s' ≤ E)
    (hpanic : ∀ s, ix s < E → body s ≠ .panic) :
    ∀ (n : Nat) (s : σ), ix s + n = E →
      iFor body n s ≠ .panic ∧ ∀ s', iFor body n s = .ok s' → ix s ≤ ix s' ∧ ix s' ≤ E := by
  intro n
  induction n with
  | zero =>
    intro s h
    exact ⟨by simp [iFor], fun s' hs => by cases hs; omega⟩
  | succ n ih =>
    intro s h
    have hlt : ix s < E := by omega
    rw [iFor]
    cases hb : body s with
    | next s2 =>
      have h2 := hnext s s2 hlt hb
      obtain ⟨ihp, ihb⟩ := ih s2 (by omega)
      exact ⟨ihp, fun s' hs => by have := ihb s' hs; omega⟩
    | brk s2 => exact ⟨by simp, fun s' hs => by cases hs; exact hbrk s _ hlt hb⟩
    | err e => exact ⟨by simp, fun s' hs => by cases hs⟩
    | panic => exact absurd hb (hpanic s hlt)

/-! ### the body of `parse_next_value`, at ANY index and ANY `end_index` -/

/-- The only way the body unwinds is the read: `index -= 1` is applied to the index incremented
    in the same iteration.  `continue` = the index moved forward by exactly one; `break` = the
    incremented index, or that minus one, or `end_index`. -/
theorem ipvBody_index (fl : PVFlags) (line : Str) (E : Nat) (s : IPV) :
    (ipvBody fl line E s = .panic ↔ line.length ≤ s.index) ∧
    (∀ s', ipvBody fl line E s = .next s' → s'.index = s.index + 1) ∧
    (∀ s', ipvBody fl line E s = .brk s' →
      s'.index = s.index ∨ s'.index = s.index + 1 ∨ s'.index = E) := by
  rw [← rd_none_iff]
  fun_cases ipvBody fl line E s
  all_goals simp_all +zetaDelta [decr]

theorem ipv_loop_inv (fl : PVFlags) (line : Str) (n : Nat) (s : IPV) (h : s.index + n = line.length) :
    iFor (ipvBody fl line line.length) n s ≠ .panic ∧
      ∀ s', iFor (ipvBody fl line line.length) n s = .ok s' →
        s.index ≤ s'.index ∧ s'.index ≤ line.length :=
  iFor_index_inv (ipvBody fl line line.length) IPV.index line.length
    (fun s s' _ hb => (ipvBody_index fl line _ s).2.1 s' hb)
    (fun s s' hlt hb => by
      have := (ipvBody_index fl line _ s).2.2 s' hb
      omega)
    (fun s hlt hp => by
      have := (ipvBody_index fl line _ s).1.mp hp
      omega)
    n s h

theorem ipvFinish_index (s : IPV) :
    ipvFinish s ≠ .panic ∧ ∀ idx v, ipvFinish s = .ok (idx, v) → idx = s.index := by
  fun_cases ipvFinish s
  all_goals simp

theorem iParseNextValue_ne_panic (fl : PVFlags) (line : Str) (start : Nat) :
    iParseNextValue fl line start ≠ .panic := by
  by_cases hle : line.length ≤ start
  · simp [iParseNextValue_beyond fl line start hle]
  · have hinv := ipv_loop_inv fl line (line.length - start) { index := start } (by simp only; omega)
    rw [iParseNextValue_eq]
    split
    · next hl => exact absurd hl hinv.1
    · simp
    · exact (ipvFinish_index _).1

theorem iParseNextValue_index (fl : PVFlags) (line : Str) (start idx : Nat) (v : Option Str)
    (h : iParseNextValue fl line start = .ok (idx, v)) :
    start ≤ idx ∧ (start ≤ line.length → idx ≤ line.length) := by
  by_cases hle : line.length ≤ start
  · rw [iParseNextValue_beyond fl line start hle] at h
    cases h; exact ⟨Nat.le_refl _, id⟩
  · have hinv := ipv_loop_inv fl line (line.length - start) { index := start } (by simp only; omega)
    rw [iParseNextValue_eq] at h
    split at h
    · cases h
    · cases h
    · next s hl =>
      cases (ipvFinish_index s).2 idx v h
      exact ⟨(hinv.2 s hl).1, fun _ => (hinv.2 s hl).2⟩

/-! ### the other loop bodies -/

theorem iflBody_index (line : Str) (s : IFL) :
    (iflBody line s = .panic ↔ line.length ≤ s.index) ∧
    (∀ s', iflBody line s = .next s' → s'.index = s.index + 1) ∧
    (∀ s', s.index < line.length → iflBody line s = .brk s' →
      s.index ≤ s'.index ∧ s'.index ≤ line.length) := by
  rw [← rd_none_iff]
  fun_cases iflBody line s
  all_goals simp_all +zetaDelta [decr]
  case case2 h _ => exact iParseNextValue_ne_panic _ _ _ h
  case case4 h _ | case6 h _ _ =>
    have := iParseNextValue_index _ _ _ _ _ h
    omega
  case case8 => omega

theorem iocBody_index (line v : Str) (s : IOC) :
    (iocBody line v s = .panic ↔ line.length ≤ s.index) ∧
    ∀ s', iocBody line v s = .next s' ∨ iocBody line v s = .brk s' → s'.index = s.index + 1 := by
  rw [← rd_none_iff]
  fun_cases iocBody line v s
  all_goals simp_all +zetaDelta

theorem ippBody_index (line : Str) (s : IPP) :
    (ippBody line s = .panic ↔ line.length ≤ s.index) ∧
    ∀ s', ippBody line s = .next s' ∨ ippBody line s = .brk s' → s'.index = s.index + 1 := by
  rw [← rd_none_iff]
  fun_cases ippBody line s
  all_goals simp_all +zetaDelta

end Duck
