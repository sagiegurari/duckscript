/-
  The decidable domain checks of Spec/Render.lean imply the domain predicates
  (used to show that the hypotheses of the property theorems are satisfiable).
-/
import DuckModel.Spec.Render

namespace Duck
open Duck.Spec

theorem nameOK_of_b (s : Str) (h : nameOKb s = true) : NameOK s := by
  simp [nameOKb] at h
  obtain ⟨⟨h1, h2⟩, h3⟩ := h
  exact ⟨h1, fun c hc => ⟨(h2 c hc).1.1, (h2 c hc).1.2, (h2 c hc).2⟩, h3⟩

theorem noEq_of_b (s : Str) (h : noEqb s = true) : NoEq s := by
  simp [noEqb] at h
  exact fun c hc => h c hc

theorem firstOK_of_b (s : Str) (h : firstOKb s = true) : FirstOK s := by
  simp [firstOKb] at h
  exact h

theorem labelOK_of_b (l : Str)
    (h : (match l with
      | ':' :: n => nameOKb n
      | _ => false) = true) : ∃ n, l = ':' :: n ∧ NameOK n := by
  split at h
  · rename_i n; exact ⟨n, rfl, nameOK_of_b n h⟩
  · cases h

theorem instrOK_of_b (i : ScriptInstr) (h : instrOKb i = true) : InstrOK i := by
  obtain ⟨label, output, command, args⟩ := i
  simp only [instrOKb, Bool.and_eq_true] at h
  obtain ⟨⟨⟨⟨hl, ho⟩, hc⟩, ha1⟩, ha2⟩ := h
  refine ⟨?_, ?_, ?_, ⟨?_, by simpa using ha2⟩⟩
  · rintro l ⟨⟩
    exact labelOK_of_b l hl
  · rintro o ⟨⟩
    simp only [Bool.and_eq_true, Bool.or_eq_true] at ho
    refine ⟨nameOK_of_b o ho.1.1, noEq_of_b o ho.1.2, ?_⟩
    rintro ⟨⟩
    exact firstOK_of_b o (by simpa using ho.2)
  · rintro c ⟨⟩
    simp only [Bool.and_eq_true, Bool.or_eq_true] at hc
    refine ⟨nameOK_of_b c hc.1, ?_⟩
    rintro ⟨⟩
    simp only [Option.isSome_none, Bool.false_eq_true, false_or] at hc
    refine ⟨noEq_of_b c hc.2.1, ?_⟩
    rintro ⟨⟩
    exact firstOK_of_b c (by simpa using hc.2.2)
  · rintro ⟨⟩
    simpa using ha1
theorem choicesOK_of_b (ch : Choices) (h : choicesOKb ch = true) : ChoicesOK ch := by
  simp only [choicesOKb, Bool.and_eq_true, List.all_eq_true] at h
  obtain ⟨⟨h1, h2⟩, h3⟩ := h
  refine ⟨?_, ?_, ?_⟩
  · intro c hc; simpa using h1 c hc
  · intro c hc; simpa using h2 c hc
  · intro k t hk c hc
    rw [hk] at h3
    simp only [List.all_eq_true] at h3
    simpa using h3 c hc

end Duck
