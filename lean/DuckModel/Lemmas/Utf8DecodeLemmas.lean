/-
  C17 — lemmas: `utf8Decode` is a left inverse of `utf8Encode` (all scalar values, all lengths).
-/
import DuckModel.Sdk.Utf8Decode
import DuckModel.Lemmas.Utf8Lemmas

namespace Duck

/-! ### a scalar value is the sum of its base-64 digits, which are the payload bits of its bytes
  (two digits: `Nat.div_add_mod'`) -/

theorem digits64_three (n : Nat) : n / 4096 * 4096 + n / 64 % 64 * 64 + n % 64 = n := by omega

theorem digits64_four (n : Nat) :
    n / 262144 * 262144 + n / 4096 % 64 * 4096 + n / 64 % 64 * 64 + n % 64 = n := by omega

/-! ### the decoder on the four forms the encoder produces -/

theorem utf8DecodeOne_one (n : Nat) (rest : Bytes) (h : n < 0x80) :
    utf8DecodeOne (n :: rest) = some (Char.ofNat n, rest) := by
  unfold utf8DecodeOne
  exact if_pos h

theorem utf8DecodeOne_two (n : Nat) (rest : Bytes) (h1 : 0x80 ≤ n) (h2 : n < 0x800) :
    utf8DecodeOne ((0xC0 + n / 64) :: (0x80 + n % 64) :: rest) = some (Char.ofNat n, rest) := by
  rw [utf8DecodeOne, if_neg (by omega), if_neg (by omega), if_pos (by omega)]
  simp only [Nat.add_sub_cancel_left, Nat.div_add_mod', isCont_low, h1, decide_true, Bool.and_self, if_true]

theorem utf8DecodeOne_three (n : Nat) (rest : Bytes) (h1 : 0x800 ≤ n) (h2 : n < 0x10000)
    (hv : validScalar n = true) :
    utf8DecodeOne ((0xE0 + n / 4096) :: (0x80 + n / 64 % 64) :: (0x80 + n % 64) :: rest) =
      some (Char.ofNat n, rest) := by
  rw [utf8DecodeOne, if_neg (by omega), if_neg (by omega), if_neg (by omega), if_pos (by omega)]
  simp only [Nat.add_sub_cancel_left, digits64_three, isCont_low, h1, hv, decide_true, Bool.and_self,
    if_true]

theorem utf8DecodeOne_four (n : Nat) (rest : Bytes) (h1 : 0x10000 ≤ n) (h2 : n < 0x110000) :
    utf8DecodeOne ((0xF0 + n / 262144) :: (0x80 + n / 4096 % 64) :: (0x80 + n / 64 % 64) ::
      (0x80 + n % 64) :: rest) = some (Char.ofNat n, rest) := by
  rw [utf8DecodeOne, if_neg (by omega), if_neg (by omega), if_neg (by omega), if_neg (by omega),
    if_pos (by omega)]
  simp only [Nat.add_sub_cancel_left, digits64_four, isCont_low, h1, h2, decide_true, Bool.and_self,
    if_true]

theorem utf8DecodeOne_encodeChar (c : Char) (rest : Bytes) :
    utf8DecodeOne (utf8EncodeChar c ++ rest) = some (c, rest) := by
  have hv := char_valid_nat c
  have hc := Char.ofNat_toNat c
  unfold utf8EncodeChar
  generalize c.toNat = n at hv hc ⊢
  subst hc
  have hs : validScalar n = true := by
    simpa only [validScalar, Bool.or_eq_true, Bool.and_eq_true, decide_eq_true_eq] using hv
  simp only
  split
  · exact utf8DecodeOne_one n rest ‹_›
  split
  · exact utf8DecodeOne_two n rest (by omega) ‹_›
  split
  · exact utf8DecodeOne_three n rest (by omega) ‹_› hs
  · exact utf8DecodeOne_four n rest (by omega) (by omega)

theorem utf8EncodeChar_ne_nil (c : Char) : ∃ b r, utf8EncodeChar c = b :: r :=
  let ⟨b, r, h, _⟩ := utf8EncodeChar_shape c
  ⟨b, r, h⟩

theorem utf8DecodeLoop_encode (s : List Char) :
    ∀ fuel, (utf8Encode s).length ≤ fuel → utf8DecodeLoop fuel (utf8Encode s) = some s := by
  induction s with
  | nil => intro fuel _; cases fuel <;> rfl
  | cons c cs ih =>
    intro fuel hf
    obtain ⟨b, r, hbr⟩ := utf8EncodeChar_ne_nil c
    have hone := utf8DecodeOne_encodeChar c (utf8Encode cs)
    rw [utf8Encode_cons, hbr, List.cons_append] at hf ⊢
    rw [hbr, List.cons_append] at hone
    cases fuel with
    | zero => simp at hf
    | succ f =>
      have : (utf8Encode cs).length ≤ f := by
        simp only [List.length_cons, List.length_append] at hf; omega
      simp only [utf8DecodeLoop, hone, ih f this]

theorem utf8_roundtrip (s : List Char) : utf8Decode (utf8Encode s) = some s :=
  utf8DecodeLoop_encode s _ (Nat.le_refl _)

/-- the encoder is injective (from the decoder round trip): equal bytes, equal texts -/
theorem utf8Encode_injective {s t : List Char} (h : utf8Encode s = utf8Encode t) : s = t := by
  have h1 := utf8_roundtrip s
  rw [h, utf8_roundtrip t] at h1
  exact (Option.some.inj h1).symm

theorem utf8Decode_ascii (t : List Char) (h : ∀ d ∈ t, d.toNat < 0x80) :
    utf8Decode (t.map Char.toNat) = some t := by
  rw [← utf8Encode_ascii t h]; exact utf8_roundtrip t

end Duck
